-- Root of the `EcModel` library: every property module (and through them the models and lemmas).
import EcModel.Props.C01
import EcModel.Props.C01Idx
import EcModel.Props.C01View
import EcModel.Props.C02
import EcModel.Props.C02Micro
import EcModel.Props.C03
import EcModel.Props.C04
import EcModel.Props.C05
import EcModel.Props.C06
import EcModel.Props.C06Micro
import EcModel.Props.C07
import EcModel.Props.C08
import EcModel.Props.C09
import EcModel.Props.C10
import EcModel.Props.C11
import EcModel.Props.C12
import EcModel.Props.C13
import EcModel.Props.C13Config
import EcModel.Props.C14
import EcModel.Props.C15
import EcModel.Props.C16
import EcModel.Props.C17
import EcModel.Props.C18
import EcModel.Props.C19
import EcModel.Props.C19Impls
import EcModel.Props.C20
