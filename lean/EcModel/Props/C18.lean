/-
  C18 — DC sync set-up and per-cycle timing arithmetic are exact and total.
  Property theorems only; helper lemmas live in EcModel/Lemmas/DcSyncLemmas.lean.

  Model: EcModel/DcSync.lean (`configureDcSync` = `SubDeviceGroup::configure_dc_sync`,
  `cycleInfo` = the tail of `tx_rx_dc`). Every theorem holds for BOTH build modes (`m : Mode`)
  unless it says otherwise.

  FIXED (was c18/start-time-add-overflow): the first pulse time `system_time + first_pulse_delay` is
  a `checked_add` (fix 42e28a2a) performed before any register is written; a sum that does not fit
  in 64 bits is rejected with `Error::IntegerTypeConversion` like the neighbouring range checks of
  `range_errors` (second clause of `start_time_window`; witnesses in `start_time_overflow_rejected`).
  `start_time_window` is therefore the full statement: every accepted configuration satisfies the
  window.
-/
import EcModel.Lemmas.DcSyncLemmas

namespace Ec.C18
open Ec Ec.DcSync

/-- The configurations the property quantifies over and the set-up accepts: a reference clock
    exists, `1 ≤ period ≤ u32::MAX`, `delay ≤ u32::MAX`, SYNC1 periods fit in 64 bits. -/
structure InRange (refAddr delay period : Nat) (devs : List Dev) : Prop where
  hasRef : refAddr ≠ 0
  periodPos : 1 ≤ period
  periodU32 : period ≤ U32_MAX
  delayU32 : delay ≤ U32_MAX
  sync1 : ∀ d ∈ devs, Sync1Fits d

/-- `start = (sys + delay) / period * period`, the value the window clause talks about. -/
def startOf (sys delay period : Nat) : Nat := (sys + delay) / period * period

/-- Exact result for every in-range configuration whose `sys + delay` fits in 64 bits: the writes
    are the `okWrites` image of each device that supports DC and asked for it, in group order, and
    nothing else; the group remembers `period`, `shift` (truncated to 64 bits) and the reference. -/
theorem configure_ok (m : Mode) (refAddr sys delay period shift : Nat) (devs : List Dev)
    (hr : InRange refAddr delay period devs) (hsum : sys + delay < U64) :
    configureDcSync m refAddr sys delay period shift devs
      = ((devs.filter (fun d => wants d)).flatMap (okWrites (startOf sys delay period) period),
         .ok ⟨period, shift % U64, refAddr⟩) := by
  have hp : 0 < period := hr.periodPos
  have h1 : ¬ period > U32_MAX := Nat.not_lt.2 hr.periodU32
  have h2 : ¬ delay > U32_MAX := Nat.not_lt.2 hr.delayU32
  have h3 : ¬ ¬ (sys + delay < U64) := fun h => h hsum
  unfold configureDcSync
  rw [if_neg hr.hasRef, if_neg h1, if_neg h2, if_neg h3,
    devLoop_ok m (sys + delay) period _ (startTime_ok m (sys + delay) period hsum hp) devs hr.sync1]
  rfl

/-- Clause 1: whatever the inputs, mode and outcome (including errors and panics half way), every
    register write goes to a SubDevice of the group that supports DC and has `DcSync` enabled. -/
theorem only_dc_devices_touched (m : Mode) (refAddr sys delay period shift : Nat) (devs : List Dev) :
    ∀ w ∈ (configureDcSync m refAddr sys delay period shift devs).1,
      ∃ d ∈ devs, d.dcAny = true ∧ d.sync ≠ .disabled ∧ w.addr = d.addr := by
  intro w hw
  rcases configureDcSync_writes m refAddr sys delay period shift devs with h | h <;> rw [h] at hw
  · cases hw
  · rcases devLoop_addr m (sys + delay) period devs w hw with ⟨d, hd, hwants, ha⟩
    exact ⟨d, hd, ((wants_iff d).1 hwants).1, ((wants_iff d).1 hwants).2, ha⟩

/-- ... and every such device IS configured (in-range, no overflow): its complete register image
    appears as one contiguous block of the write sequence. -/
theorem every_dc_device_configured (m : Mode) (refAddr sys delay period shift : Nat) (devs : List Dev)
    (hr : InRange refAddr delay period devs) (hsum : sys + delay < U64)
    (d : Dev) (hd : d ∈ devs) (hdc : d.dcAny = true) (hs : d.sync ≠ .disabled) :
    okWrites (startOf sys delay period) period d
      <:+: (configureDcSync m refAddr sys delay period shift devs).1 := by
  rw [configure_ok m refAddr sys delay period shift devs hr hsum]
  exact List.infix_of_mem_flatten
    (List.mem_map_of_mem (List.mem_filter.2 ⟨hd, (wants_iff d).2 ⟨hdc, hs⟩⟩))

/-- Clause 2: for every in-range configuration, either the first pulse time `sys + delay` fits in
    64 bits and the start time written to register 0x0990 of every configured device is a whole
    multiple of the SYNC0 period in the half-open window `(sys + delay − period, sys + delay]` (and is
    what the 8 written bytes decode to), or it does not fit and the call is rejected with an error
    before anything is written. No panic, no out-of-window value, in any build mode. -/
theorem start_time_window (m : Mode) (refAddr sys delay period shift : Nat) (devs : List Dev)
    (hr : InRange refAddr delay period devs) :
    (sys + delay < U64 →
      let start := startOf sys delay period
      start % period = 0 ∧ sys + delay < start + period ∧ start ≤ sys + delay ∧
      rd64 (le64 start) = start ∧
      ∀ d ∈ devs, d.dcAny = true → d.sync ≠ .disabled →
        (⟨d.addr, 0x0990, le64 start⟩ : Write) ∈ (configureDcSync m refAddr sys delay period shift devs).1) ∧
    (U64 ≤ sys + delay →
      configureDcSync m refAddr sys delay period shift devs = ([], .err .intConv)) := by
  refine ⟨?_, ?_⟩
  · intro hsum
    have hp : 0 < period := hr.periodPos
    have hle : (sys + delay) / period * period ≤ sys + delay := Nat.div_mul_le_self _ _
    refine ⟨?_, ?_, hle, ?_, ?_⟩
    · exact Nat.mul_mod_left _ _
    · show sys + delay < (sys + delay) / period * period + period
      exact Nat.lt_div_mul_add hp
    · apply rd64_le64
      show (sys + delay) / period * period < U64
      omega
    · intro d hd hdc hs
      have hin := every_dc_device_configured m refAddr sys delay period shift devs hr hsum d hd hdc hs
      apply hin.subset
      simp [okWrites]
  · intro hsum
    have h1 : ¬ period > U32_MAX := Nat.not_lt.2 hr.periodU32
    have h2 : ¬ delay > U32_MAX := Nat.not_lt.2 hr.delayU32
    have h3 : ¬ (sys + delay < U64) := by omega
    unfold configureDcSync
    rw [if_neg hr.hasRef, if_neg h1, if_neg h2, if_pos h3]

/-- The witnesses of c18/start-time-add-overflow (reference time `u64::MAX`, start delay 1 / 3 ns,
    1 µs period; an unchecked `+` before fix 42e28a2a) are rejected, in both build modes, with
    nothing written; one nanosecond less is accepted. -/
theorem start_time_overflow_rejected (m : Mode) :
    configureDcSync m 0x1000 18446744073709551615 3 1000 0 [⟨0x1000, true, .sync0⟩] = ([], .err .intConv) ∧
    configureDcSync m 0x1000 18446744073709551615 1 1000 0 [⟨0x1000, true, .sync0⟩] = ([], .err .intConv) ∧
    (configureDcSync m 0x1000 18446744073709551614 1 1000 0 [⟨0x1000, true, .sync0⟩]).2
      = .ok ⟨1000, 0, 0x1000⟩ :=
  ⟨rfl, rfl, rfl⟩

/-- In-range configurations never panic (any build mode). -/
theorem configure_total (m : Mode) (refAddr sys delay period shift : Nat) (devs : List Dev)
    (hr : InRange refAddr delay period devs) (w : String) :
    (configureDcSync m refAddr sys delay period shift devs).2 ≠ .panic w := by
  by_cases hsum : sys + delay < U64
  · rw [configure_ok m refAddr sys delay period shift devs hr hsum]; simp
  · rw [(start_time_window m refAddr sys delay period shift devs hr).2 (by omega)]; simp

/-- Clause 3: periods or delays beyond 32-bit nanoseconds, and a network without a reference
    clock, are rejected with an error before anything is written. -/
theorem range_errors (m : Mode) (refAddr sys delay period shift : Nat) (devs : List Dev) :
    (refAddr = 0 → configureDcSync m refAddr sys delay period shift devs = ([], .err .noReference)) ∧
    (refAddr ≠ 0 → U32_MAX < period →
      configureDcSync m refAddr sys delay period shift devs = ([], .err .intConv)) ∧
    (refAddr ≠ 0 → U32_MAX < delay →
      configureDcSync m refAddr sys delay period shift devs = ([], .err .intConv)) := by
  refine ⟨?_, ?_, ?_⟩
  · intro h; simp [configureDcSync, h]
  · intro h hp
    have : period > U32_MAX := hp
    simp [configureDcSync, h, this]
  · intro h hd
    have hd' : delay > U32_MAX := hd
    unfold configureDcSync
    rw [if_neg h]
    by_cases hp : period > U32_MAX
    · rw [if_pos hp]
    · rw [if_neg hp, if_pos hd']

/-- Clause 4a: activation flags match the requested mode, and the sync unit is deactivated first:
    the first write of a device's image is `0x0981 ← 0x00`, the last is `0x0981 ← 0x03` for `Sync0`
    and `0x0981 ← 0x07` for `Sync01`. (Combine with `every_dc_device_configured`.) -/
theorem flags_match_mode (start period : Nat) (d : Dev) :
    (okWrites start period d).head? = some ⟨d.addr, 0x0981, [0x00]⟩ ∧
    (okWrites start period d).getLast? =
      some ⟨d.addr, 0x0981, [match d.sync with | .sync01 _ => 0x07 | _ => 0x03]⟩ := by
  unfold okWrites
  cases d.sync <;> simp

/-- Clause 4b: SYNC0 cycle time = the period (as 8 little-endian bytes at 0x09A0 that decode to
    it); a SYNC1 cycle time (0x09A4) is written exactly for `Sync01` devices, with their period. -/
theorem cycle_times_written (start period : Nat) (d : Dev) (hp : period ≤ U32_MAX) :
    (⟨d.addr, 0x09A0, le64 period⟩ : Write) ∈ okWrites start period d ∧
    rd64 (le64 period) = period ∧
    (∀ data, (⟨d.addr, 0x09A4, data⟩ : Write) ∈ okWrites start period d ↔
      ∃ s1, d.sync = .sync01 s1 ∧ data = le64 s1) := by
  refine ⟨by simp [okWrites], ?_, ?_⟩
  · apply rd64_le64
    have : U32_MAX < U64 := by decide
    omega
  · intro data
    unfold okWrites
    cases hs : d.sync <;> simp

/-- The regenerated register addresses and flag values are the ones the statements above spell
    out (a change in /repo's `RegisterAddress` or flag constants breaks this). -/
theorem generated_constants :
    Gen.Dc.REG_DcSyncActive = 0x0981 ∧ Gen.Dc.REG_DcSyncStartTime = 0x0990 ∧
    Gen.Dc.REG_DcSync0CycleTime = 0x09A0 ∧ Gen.Dc.REG_DcSync1CycleTime = 0x09A4 ∧
    Gen.Dc.REG_DcSystemTime = 0x0910 ∧ flagsSync0 = 0x03 ∧ flagsSync01 = 0x07 := by
  decide +kernel

/-- Clause 5: on every DC cycle the reported offset is `time mod period`, the suggested wait is
    `(period − offset) + shift`; no overflow or panic for ANY time value (no bound on `time` is
    needed), any period ≥ 1, provided `period + shift` fits in 64 bits — in particular for every
    `period ≤ u32::MAX` and `shift ≤ 2^33` (the property's range "and just above"). -/
theorem cycle_arithmetic (m : Mode) (period shift refAddr time : Nat)
    (hp : 1 ≤ period) (hs : period + shift ≤ U64 - 1) :
    cycleInfo m ⟨period, shift, refAddr⟩ time
      = .ok (time % period, (period - time % period) + shift) := by
  have hp0 : period ≠ 0 := by omega
  have hlt : time % period < period := Nat.mod_lt _ (by omega)
  have hle : time % period ≤ period := Nat.le_of_lt hlt
  have hU : U64 = 18446744073709551616 := rfl
  have hsum : period - time % period + shift < U64 := by omega
  simp [cycleInfo, remU64, subU64, addU64, hp0, hle, hsum]

theorem cycle_arithmetic_quantifier (m : Mode) (period shift refAddr time : Nat)
    (hp : 1 ≤ period) (hpu : period ≤ U32_MAX) (hs : shift ≤ 8589934592) :
    cycleInfo m ⟨period, shift, refAddr⟩ time
      = .ok (time % period, (period - time % period) + shift) := by
  apply cycle_arithmetic m period shift refAddr time hp
  have h1 : U32_MAX = 4294967295 := rfl
  have h2 : U64 = 18446744073709551616 := rfl
  omega

/-- The wait always ends strictly after `shift` and at most one period later. -/
theorem cycle_wait_bounds (time period shift : Nat) (hp : 1 ≤ period) :
    shift < (period - time % period) + shift ∧ (period - time % period) + shift ≤ period + shift := by
  have hlt : time % period < period := Nat.mod_lt _ (by omega)
  omega

/-- End to end: the group configured by an in-range call computes its cycles with exactly the
    period and shift that were asked for and addresses the FRMW to the reference. -/
theorem configured_group_cycles (m : Mode) (refAddr sys delay period shift time : Nat) (devs : List Dev)
    (hr : InRange refAddr delay period devs) (hsum : sys + delay < U64) (hsh : shift ≤ 8589934592) :
    ∃ h, (configureDcSync m refAddr sys delay period shift devs).2 = .ok h ∧ h.reference = refAddr ∧
      cycleInfo m h time = .ok (time % period, (period - time % period) + shift) := by
  rw [configure_ok m refAddr sys delay period shift devs hr hsum]
  have h2 : U64 = 18446744073709551616 := rfl
  have hmod : shift % U64 = shift := Nat.mod_eq_of_lt (by omega)
  refine ⟨⟨period, shift % U64, refAddr⟩, rfl, rfl, ?_⟩
  rw [hmod]
  exact cycle_arithmetic_quantifier m period shift refAddr time hr.periodPos hr.periodU32 hsh

/-- Outside the property's quantifier, recorded because the doc comment of `configure_dc_sync`
    promises otherwise: `sync0_shift` is NOT range checked (only truncated to 64 bits), so a shift
    near `u64::MAX` is accepted and the first cycle panics in a checked build. -/
theorem shift_not_range_checked :
    (configureDcSync .checked 0x1000 5 1 1000 18446744073709551615 [⟨0x1000, true, .sync0⟩]).2
      = .ok ⟨1000, 18446744073709551615, 0x1000⟩ ∧
    cycleInfo .checked ⟨1000, 18446744073709551615, 0x1000⟩ 0 = .panic "attempt to add with overflow" :=
  ⟨rfl, rfl⟩

/-- Outside the quantifier as well: a zero period is accepted by the range check and divides by
    zero (every build mode) as soon as one device wants DC; with no taker the set-up succeeds and
    the first cycle takes a remainder by zero. -/
theorem zero_period_panics (m : Mode) :
    (configureDcSync m 0x1000 5 1 0 0 [⟨0x1000, true, .sync0⟩]).2 = .panic "attempt to divide by zero" ∧
    (configureDcSync m 0x1000 5 1 0 0 []).2 = .ok ⟨0, 0, 0x1000⟩ ∧
    cycleInfo m ⟨0, 0, 0x1000⟩ 17 = .panic "attempt to calculate the remainder with a divisor of zero" :=
  ⟨rfl, rfl, rfl⟩

/-! Non-vacuity: concrete in-range configurations satisfy the hypotheses and produce what the
    theorems say (these are evaluated, not assumed). -/

example : InRange 0x1000 100000000 1000000
    [⟨0x1000, true, .sync0⟩, ⟨0x1001, false, .sync0⟩, ⟨0x1002, true, .sync01 250000⟩, ⟨0x1003, true, .disabled⟩] :=
  ⟨by decide, by decide, by decide, by decide, by
    intro d hd s1 hs
    simp at hd
    rcases hd with rfl | rfl | rfl | rfl <;> simp_all <;> (subst hs; decide)⟩

example :
    (configureDcSync .checked 0x1000 123456789012 100000000 1000000 500000
      [⟨0x1000, true, .sync0⟩, ⟨0x1001, false, .sync0⟩, ⟨0x1002, true, .sync01 250000⟩, ⟨0x1003, true, .disabled⟩]).1.map
        (fun w => (w.addr, w.reg, rd64 w.data))
      = [(0x1000, 0x0981, 0), (0x1000, 0x0990, 123556000000), (0x1000, 0x09A0, 1000000), (0x1000, 0x0981, 3),
         (0x1002, 0x0981, 0), (0x1002, 0x0990, 123556000000), (0x1002, 0x09A0, 1000000), (0x1002, 0x09A4, 250000),
         (0x1002, 0x0981, 7)] := by decide +kernel

example : cycleInfo .checked ⟨1000000, 500000, 0x1000⟩ 18446744073709551615 = .ok (551615, 948385) := by decide +kernel
example : cycleInfo .wrapping ⟨4294967295, 8589934592, 0x1000⟩ 4294967294 = .ok (4294967294, 8589934593) := by decide +kernel

end Ec.C18
