/-
  C01 — every response reaches exactly the request that caused it, byte-exact; the view onto a
  received datagram shows exactly that datagram's data area, also after trimming, and keeps showing it.

  Statements are over the storage model (`Slots.lean`, any number of slots, any contents) and, for the
  two places where the order of individual shared accesses matters (the RX lookup scan and the
  waker/RxDone handshake), over explicit interleavings.
-/
import EcModel.Props.C05
import EcModel.Lemmas.FrameInv

namespace Ec.C01
open Ec.C05

/-! ### Indices: the property's "< 256 indices while outstanding" assumption gives distinct markers -/

/-- Two datagram indices drawn from the wrapping 8-bit counter fewer than 256 draws apart differ. -/
theorem fresh_idx_distinct (p a b : Nat) (hab : a < b) (hwin : b < a + 256) :
    (p + a) % 256 ≠ (p + b) % 256 := by omega

/-! ### The RX lookup scan against a concurrently changing storage -/

/-- `frame_index_by_first_pdu_index` as the RX task executes it: slot `j`'s status is read at time
    `2j`, and only if that read `Sent` its marker is read at time `2j+1`. `st t j` / `mk t j` are the
    status and marker of slot `j` at time `t` (other tasks change them arbitrarily in between). -/
def scanFrom (n idx : Nat) (st : Nat → Nat → St) (mk : Nat → Nat → Nat) : Nat → Nat → Option Nat
  | _, 0 => none
  | j, fuel + 1 =>
    if j ≥ n then none
    else if st (2 * j) j = .sent ∧ mk (2 * j + 1) j = idx then some j
    else scanFrom n idx st mk (j + 1) fuel

/-- The same scan with the two loads in the other order (marker first, then status): what the code
    did between commits a0f81670 and d44e5440. -/
def scanMarkerFirst (n idx : Nat) (st : Nat → Nat → St) (mk : Nat → Nat → Nat) : Nat → Nat → Option Nat
  | _, 0 => none
  | j, fuel + 1 =>
    if j ≥ n then none
    else if mk (2 * j) j = idx ∧ st (2 * j + 1) j = .sent then some j
    else scanMarkerFirst n idx st mk (j + 1) fuel

/-- **lookup_finds_owner.** If the owner's slot `k` stays `Sent` with marker `idx` during the scan and
    every other slot, once observed `Sent`, never shows marker `idx` afterwards (a slot in `Sent`
    carries the marker of its current request until released, and distinct outstanding requests have
    distinct first indices by `fresh_idx_distinct`), the scan returns `k` — whatever else the other
    tasks do to the other slots meanwhile. -/
theorem scan_finds_owner (n idx k : Nat) (st : Nat → Nat → St) (mk : Nat → Nat → Nat)
    (hk : k < n) (hown : ∀ t, st t k = .sent ∧ mk t k = idx)
    (hothers : ∀ j, j ≠ k → ∀ t t', t ≤ t' → st t j = .sent → mk t' j ≠ idx) :
    scanFrom n idx st mk 0 n = some k := by
  have gen : ∀ fuel j, j ≤ k → k < j + fuel → scanFrom n idx st mk j fuel = some k := by
    intro fuel
    induction fuel with
    | zero => intro j _ h; omega
    | succ f ih =>
      intro j h1 h2
      rw [scanFrom, if_neg (by omega)]
      by_cases hjk : j = k
      · rw [hjk, if_pos ⟨(hown _).1, (hown _).2⟩]
      · rw [if_neg fun h => hothers j hjk _ _ (Nat.le_succ _) h.1 h.2]
        exact ih (j + 1) (by omega) (by omega)
  exact gen n 0 (Nat.zero_le k) (by omega)

/-- With the loads in the other order the same hypotheses do NOT suffice: a released slot whose stale
    marker equals the index is re-claimed and sent by another request between the two loads, and the
    scan hands the response to the wrong slot. -/
theorem scan_marker_first_counterexample :
    ∃ (st : Nat → Nat → St) (mk : Nat → Nat → Nat),
      (∀ t, st t 1 = .sent ∧ mk t 1 = 5) ∧
      (∀ j, j ≠ 1 → ∀ t t', t ≤ t' → st t j = .sent → mk t' j ≠ 5) ∧
      scanMarkerFirst 2 5 st mk 0 2 = some 0 := by
  refine ⟨fun t j => if j = 1 then .sent else if t ≥ 1 then .sent else .none,
          fun t j => if j = 1 then 5 else if t = 0 then 5 else 9, ?_, ?_, ?_⟩
  · intro t; simp
  · intro j hj t t' htt' hs
    simp only [hj, ↓reduceIte] at hs ⊢
    split at hs
    · have : t' ≠ 0 := by omega
      simp [this]
    · cases hs
  · simp [scanMarkerFirst]

/-! ### The waker / RxDone handshake: no lost wake-up -/

/-- Shared accesses of the handshake: the awaiting task registers its waker and then tests for
    `RxDone`; the RX task sets `RxDone` and then takes and wakes the registered waker. -/
inductive HEv where
  | register | test | setDone | takeWake
  deriving DecidableEq, Repr

structure HState where
  done : Bool := false
  waker : Bool := false
  sawDone : Bool := false    -- the test found RxDone: poll returns Ready
  woken : Bool := false      -- the task was woken: it will poll again
  deriving DecidableEq, Repr

def hstep (s : HState) : HEv → HState
  | .register => { s with waker := true }
  | .test => { s with sawDone := s.done }
  | .setDone => { s with done := true }
  | .takeWake => if s.waker then { s with waker := false, woken := true } else s

/-- All interleavings of two sequences (`fuel` ≥ total length). -/
def merges : Nat → List HEv → List HEv → List (List HEv)
  | 0, _, _ => []
  | _ + 1, [], ys => [ys]
  | _ + 1, xs, [] => [xs]
  | fuel + 1, x :: xs, y :: ys =>
    (merges fuel xs (y :: ys)).map (x :: ·) ++ (merges fuel (x :: xs) ys).map (y :: ·)

example : (merges 5 [.register, .test] [.setDone, .takeWake]).length = 6 := by decide +kernel

/-- **no_lost_wakeup.** In every interleaving of one poll with one `mark_received`, the poll either
    sees `RxDone` or the task is woken afterwards: registering the waker before the test and setting
    `RxDone` before waking makes the handshake race free. -/
theorem no_lost_wakeup :
    ∀ l ∈ merges 5 [.register, .test] [.setDone, .takeWake],
      let s := l.foldl hstep {}
      s.sawDone = true ∨ s.woken = true := by
  decide +kernel

/-- Testing before registering (the two lines of `poll` swapped) WOULD lose a wake-up. -/
theorem test_before_register_loses_wakeup :
    ∃ l ∈ merges 5 [.test, .register] [.setDone, .takeWake],
      let s := l.foldl hstep {}
      s.sawDone = false ∧ s.woken = false := by
  decide +kernel

/-! ### The view after `trim_front`; what `first_pdu` refuses -/

/-- **view_window (trim).** After `trim_front ct` a view denotes exactly the suffix of the bytes it
    denoted before, starting at `min ct len`: never a byte outside the datagram's data area. -/
theorem view_trim_suffix (s : Sys) (k off len ct : Nat) :
    viewBytes s k (off + min ct len) (len - min ct len) = (viewBytes s k off len).drop (min ct len) := by
  simp only [viewBytes]
  rw [List.drop_take, List.drop_drop]

theorem opViewTrim_spec (w : World) (r k off len wkc ct : Nat)
    (h : getH w.2 r = some ⟨r, k, .view off len wkc⟩) :
    (opViewTrim w r ct).1.1 = w.1 ∧
    getH (opViewTrim w r ct).1.2 r = some ⟨r, k, .view (off + min ct len) (len - min ct len) wkc⟩ := by
  simp only [opViewTrim, h]
  simp [getH, putH]

/-- **first_pdu_validates.** A response whose first datagram carries another command code or index
    than the handle never yields data. -/
theorem first_pdu_validates (w : World) (r k code idx : Nat) (h : getH w.2 r = some ⟨r, k, .received⟩)
    (off len wkc c i : Nat) (more : Bool)
    (hp : parsePduAt ((w.1.slot k).buf.drop 16) 0 = .ok off len wkc c i more)
    (hne : c ≠ code ∨ i ≠ idx) :
    getH (opFirst w r code idx).1.2 r = none := by
  simp only [opFirst, h, hp]
  rcases hne with hne | hne
  · simp [hne, getH, delH]
  · by_cases hc : c = code
    · simp [hc, hne, getH, delH]
    · simp [hc, getH, delH]

/-! ### Delivery: the response lands in the owner's slot and the owner reads exactly its bytes -/

/-- A datagram as the network returns it: header (code, index, 4 address bytes, length/flags, irq),
    data, working counter. -/
def respDgram (c i : Nat) (raw dat : List Nat) (wkc : Nat) (more : Bool) : List Nat :=
  [c, i] ++ raw ++ flagsPack dat.length false more ++ [0, 0] ++ dat ++ le16 wkc

theorem parsePduAt_wellformed (c i : Nat) (raw dat rest : List Nat) (wkc : Nat) (more : Bool)
    (hraw : raw.length = 4) (hL : dat.length < 2048) (hw : wkc < 65536) :
    parsePduAt (respDgram c i raw dat wkc more ++ rest) 0 = .ok 10 dat.length wkc c i more := by
  obtain ⟨r0, r1, r2, r3, rfl⟩ : ∃ r0 r1 r2 r3, raw = [r0, r1, r2, r3] := by
    rcases raw with _ | ⟨r0, _ | ⟨r1, _ | ⟨r2, _ | ⟨r3, _ | _⟩⟩⟩⟩ <;> simp at hraw
    exact ⟨_, _, _, _, rfl⟩
  have hfl := flagsUnpack_pack dat.length more hL ([0, 0] ++ dat ++ le16 wkc ++ rest)
  obtain ⟨f0, f1, hF⟩ : ∃ f0 f1, flagsPack dat.length false more = [f0, f1] := ⟨_, _, rfl⟩
  rw [hF] at hfl
  simp only [List.cons_append, List.nil_append, List.append_assoc] at hfl
  have hlist : respDgram c i [r0, r1, r2, r3] dat wkc more ++ rest =
      c :: i :: r0 :: r1 :: r2 :: r3 :: f0 :: f1 :: 0 :: 0 :: (dat ++ (le16 wkc ++ rest)) := by
    simp only [respDgram, hF, List.cons_append, List.nil_append, List.append_assoc]
  have hdrop : (c :: i :: r0 :: r1 :: r2 :: r3 :: f0 :: f1 :: 0 :: 0 :: (dat ++ (le16 wkc ++ rest))).drop (10 + dat.length)
      = le16 wkc ++ rest :=
    List.drop_left' (l₁ := [c, i, r0, r1, r2, r3, f0, f1, 0, 0] ++ dat) (by simp; omega)
  rw [hlist]
  simp only [parsePduAt, List.drop_zero, List.drop_succ_cons, hfl, hdrop, rd16_le16_append _ hw _, List.length_cons,
    List.length_append, le16_length, List.getD_cons_zero, List.getD_cons_succ, Nat.zero_add]
  rw [if_neg (by omega), if_neg (by omega), if_neg (by omega), if_neg (by omega)]

theorem respDgram_data (c i : Nat) (raw dat rest : List Nat) (wkc : Nat) (more : Bool) (hraw : raw.length = 4) :
    ((respDgram c i raw dat wkc more ++ rest).drop 10).take dat.length = dat := by
  have : respDgram c i raw dat wkc more ++ rest =
      ([c, i] ++ raw ++ flagsPack dat.length false more ++ [0, 0]) ++ (dat ++ (le16 wkc ++ rest)) := by
    simp only [respDgram, List.append_assoc]
  rw [this, List.drop_left' (by simp [hraw, flagsPack, le16]), List.take_left' rfl]

/-- Delivery for any payload: what the owner's view shows is whatever `first_pdu` parses at the head
    of the slot's PDU area once `P` has been copied in. -/
theorem deliver_parsed (s : Sys) (hs : List Hd) (r k i : Nat) (retries deadline timeout : Nat) (armed : Bool)
    (hh : getH hs r = some ⟨r, k, .fut retries deadline timeout armed⟩)
    (hk : k < s.n) (haw : Awaits (s.slot k) i) (huniq : ∀ j, j < k → ¬ Awaits (s.slot j) i)
    (h16 : 16 ≤ (s.slot k).buf.length) (bytes P : List Nat) (off len wkc c : Nat) (more : Bool)
    (hparse : rxParse s.exit bytes = .ok (P, i)) (hfit : P.length ≤ s.data - 16)
    (hP : parsePduAt (P ++ (s.slot k).buf.drop (16 + P.length)) 0 = .ok off len wkc c i more) :
    let w1 := opRx (s, hs) bytes
    let w2 := opPoll w1.1 r
    let w3 := opFirst w2.1 r c i
    w1.2 = "processed" ∧ w2.2 = "ready.ok" ∧
    getH w3.1.2 r = some ⟨r, k, .view (16 + off) len wkc⟩ ∧
    viewBytes w3.1.1 k (16 + off) len = ((P ++ (s.slot k).buf.drop (16 + P.length)).drop off).take len ∧
    (∀ j, j ≠ k → w3.1.1.slot j = s.slot j) := by
  intro w1 w2 w3
  have hg : getH (putH hs ⟨r, k, .received⟩) r = some ⟨r, k, .received⟩ := by simp [getH, putH]
  -- in turn: the frame goes to slot `k`, the poll takes it from `RxDone`, `first_pdu` parses `P`
  simp only [w1, w2, w3, opRx, receiveFrame, hparse, rxDeliver_first_awaiting hk haw huniq hfit, opPoll, hh,
    slot_setSlot_eq _ _ _ hk, if_true, setSlot_setSlot, opFirst, hg, drop_setRange _ _ _ h16, hP, ne_eq,
    not_true_eq_false, if_false]
  refine ⟨rfl, trivial, by simp [getH, putH], ?_, fun j hj => slot_setSlot_ne _ _ _ _ hj⟩
  rw [viewBytes, slot_setSlot_eq _ _ _ hk, ← List.drop_drop (i := off) (j := 16), drop_setRange _ _ _ h16]

/-- **deliver_exact.** Let request `r` own slot `k`, in `Sent` with first index `i`, and let no
    earlier slot await `i` (distinct outstanding requests have distinct first indices). When the RX
    side is handed a frame whose EtherCAT payload starts with the response to `r`'s first datagram
    (same command code and index; ANY data and working counter) and fits the slot: `receive_frame`
    returns `Processed`, `r`'s next poll returns `Ready(Ok)`, `first_pdu` with `r`'s handle yields a
    view showing exactly the returned data bytes and working counter, and every other slot is left
    bit-identical — however many other requests are in flight. -/
theorem deliver_exact (s : Sys) (hs : List Hd) (r k i : Nat) (retries deadline timeout : Nat) (armed : Bool)
    (hh : getH hs r = some ⟨r, k, .fut retries deadline timeout armed⟩)
    (hk : k < s.n) (haw : Awaits (s.slot k) i) (huniq : ∀ j, j < k → ¬ Awaits (s.slot j) i)
    (hbuf : (s.slot k).buf.length = s.data)
    (bytes : List Nat) (c : Nat) (raw dat rest : List Nat) (wkc : Nat) (more : Bool)
    (hraw : raw.length = 4) (hL : dat.length < 2048) (hw : wkc < 65536)
    (hparse : rxParse s.exit bytes = .ok (respDgram c i raw dat wkc more ++ rest, i))
    (hfit : (respDgram c i raw dat wkc more ++ rest).length ≤ s.data - 16) (hdata : 16 ≤ s.data) :
    let w1 := opRx (s, hs) bytes
    let w2 := opPoll w1.1 r
    let w3 := opFirst w2.1 r c i
    w1.2 = "processed" ∧ w2.2 = "ready.ok" ∧
    getH w3.1.2 r = some ⟨r, k, .view 26 dat.length wkc⟩ ∧
    viewBytes w3.1.1 k 26 dat.length = dat ∧
    (∀ j, j ≠ k → w3.1.1.slot j = s.slot j) := by
  have hP := parsePduAt_wellformed c i raw dat
    (rest ++ (s.slot k).buf.drop (16 + (respDgram c i raw dat wkc more ++ rest).length)) wkc more hraw hL hw
  rw [← List.append_assoc] at hP
  have h := deliver_parsed s hs r k i retries deadline timeout armed hh hk haw huniq (by omega) bytes _ _ _ _ _ _
    hparse hfit hP
  rw [List.append_assoc, respDgram_data _ _ _ _ _ _ _ hraw] at h
  exact h

end Ec.C01
