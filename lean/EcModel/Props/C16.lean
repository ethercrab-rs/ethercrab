/-
  C16 — no mailbox reply can crash the MainDevice or make it read out of bounds.

  Subject: `EcModel/Coe.lean` (hand translation of src/mailbox/coe/mod.rs & co., constants from Generated/Coe.lean),
  for an ARBITRARY device (`World`): any function from requests to lists of raw mailbox messages, any mailbox sizes,
  any stale messages, both build profiles (`Mode`).

  `coe_total` (every entry point returns a value or an error, never panics) holds unconditionally since the repairs
  fix-c16-emergency, fix-c16-segment-length, fix-c16-sdo-info-length; the former witnesses of the four panic sites are
  kept as `coe_total_*_fixed` theorems (they are errors now) and in the harness corpus.
  Since fix-c16-endless-loops both client loops are bounded for any device: `info_terminates`, `segments_terminate`.
-/
import EcModel.Lemmas.CoeTotal
import EcModel.Lemmas.CoeInside
import EcModel.Lemmas.CoeInfo

namespace Ec.C16
open Ec.Coe Ec.Gen.Coe

/-! ### coe_total -/

/-- **coe_total.** For EVERY device (any function from requests to lists of raw mailbox byte strings), every mailbox
    size, every stale queue, every counter value, both build profiles: each of the seven entry points ends with a value
    or an error — never a panic. (The model's `outOfFuel` is an error value; `segments_terminate` shows when it cannot
    occur.) Unconditional since fix-c16-emergency, fix-c16-segment-length and fix-c16-sdo-info-length. -/
theorem coe_total {σ : Type} (w : World σ) (cfg : Cfg) (s : St σ) :
    (∀ fuel bufLen index access, Res.isPanic (sdoRead w cfg fuel bufLen index access s).1 = false) ∧
    (∀ (α : Type) (T : Dest α) fuel maxEntries index,
      Res.isPanic (sdoReadArray w cfg fuel T maxEntries index s).1 = false) ∧
    (∀ index access, Res.isPanic (sdoReadExpedited w cfg index access s).1 = false) ∧
    (∀ index access value, Res.isPanic (sdoWrite w cfg index access value s).1 = false) ∧
    (∀ index values, Res.isPanic (sdoWriteArray w cfg index values s).1 = false) ∧
    (∀ listType, Res.isPanic (sdoInfoList w cfg listType s).1 = false) ∧
    Res.isPanic (sdoInfoQuantities w cfg s).1 = false := by
  have hI : Steady w cfg fun _ => True := fun _ _ _ _ _ _ _ => trivial
  refine ⟨fun fuel bufLen index access => (sdoRead_safe hI fuel bufLen index access s trivial).1,
    fun α T fuel maxEntries index => (sdoReadArray_safe hI fuel T maxEntries index s trivial).1,
    fun index access => (sdoReadExpedited_safe hI index access s trivial).1,
    fun index access value => (sdoWrite_safe hI index access value (.inr fun _ _ => trivial) s trivial).1,
    fun index values => (sdoWriteArray_safe hI index values (.inr fun _ _ => trivial) s trivial).1,
    fun listType => ?_, ?_⟩
  · unfold sdoInfoList
    dsimp only
    exact (show Safe (fun _ => True) _ from
      ⟨sendSdoInfoService_noPanic w cfg (listRequest (mailboxCounter s).1 listType) (mailboxCounter s).2, trivial⟩).elim
      (fun _ _ _ => rfl) fun o _ _ => by cases o <;> rfl
  · unfold sdoInfoQuantities
    dsimp only
    exact (show Safe (fun _ => True) _ from
      ⟨sendSdoInfoService_noPanic w cfg (listRequest (mailboxCounter s).1 0) (mailboxCounter s).2, trivial⟩).elim
      (fun _ _ _ => rfl) fun o _ _ => by
        cases o with
        | none => rfl
        | some payload => dsimp only; split <;> rfl

/-- **coe_total, scripted device.** For EVERY script of reply byte strings and every list of stale messages:
    `sdo_read` of any destination size and `sdo_info_object_description_list` return a value or an error. -/
theorem coe_total_script (cfg : Cfg) (script : List (List (List Nat))) (stale : List (List Nat)) (ctr : Nat)
    (fuel bufLen index listType : Nat) (access : SubIndex) :
    ((∃ v, (sdoRead scriptWorld cfg fuel bufLen index access (St.init ctr script stale)).1 = .ok v) ∨
     (∃ e, (sdoRead scriptWorld cfg fuel bufLen index access (St.init ctr script stale)).1 = .err e)) ∧
    ((∃ v, (sdoInfoList scriptWorld cfg listType (St.init ctr script stale)).1 = .ok v) ∨
     (∃ e, (sdoInfoList scriptWorld cfg listType (St.init ctr script stale)).1 = .err e)) :=
  ⟨(Res.noPanic_iff _).mp ((coe_total scriptWorld cfg (St.init ctr script stale)).1 fuel bufLen index access),
   (Res.noPanic_iff _).mp ((coe_total scriptWorld cfg (St.init ctr script stale)).2.2.2.2.2.1 listType)⟩

/-! The former witnesses of the four panic sites (`cfg32`: 32-byte mailboxes, checked build): errors now. -/

/-- An emergency message (service 1) as the answer to an upload request. -/
def emergencyReply : List Nat := [0x0a, 0, 0, 0, 0, 0x63, 0, 0x10, 0x34, 0x12, 0x01, 1, 2, 3, 4, 5]

/-- P1 repaired (fix-c16-emergency): the former witness of `assert_ne!(headers.coe_header.service, Emergency)` is now
    reported as `MailboxError::Emergency` with the error code and register the device sent (0x1234, 1). -/
theorem coe_total_emergency_fixed :
    (sdoRead scriptWorld cfg32 4 4 0x2000 (.index 0) (St.init 1 [[emergencyReply]] [])).1 = .err (.emergency 0x1234 1) ∧
    (sdoWrite scriptWorld cfg32 0x2000 (.index 0) [1, 2] (St.init 1 [[emergencyReply]] [])).1 =
      .err (.emergency 0x1234 1) := by
  decide +kernel

/-- Normal upload response announcing 100 bytes while carrying 6: the client starts the segmented loop. -/
def initiate100 : List Nat :=
  [0x10, 0, 0, 0, 0, 0x23, 0, 0x30, 0x41, 0x00, 0x20, 0x00, 100, 0, 0, 0, 1, 2, 3, 4, 5, 6]

/-- Segment response whose mailbox header says length 2. -/
def shortSegment : List Nat := [2, 0, 0, 0, 0, 0x33, 0, 0x30, 0x61, 0, 0, 0, 0, 0, 0, 0]

/-- P2 repaired (fix-c16-segment-length): the former witness of the `headers.header.length - 3` underflow is now
    `Error::Internal` in both build profiles. -/
theorem coe_total_segment_length_fixed :
    (sdoRead scriptWorld cfg32 4 100 0x2000 (.index 0) (St.init 1 [[initiate100], [shortSegment]] [])).1 = .err .internal ∧
    (sdoRead scriptWorld { cfg32 with mode := .wrapping } 4 100 0x2000 (.index 0)
      (St.init 1 [[initiate100], [shortSegment]] [])).1 = .err .internal := by
  decide +kernel

/-- Get-OD-List response with mailbox length 4 (< 8) / 64 (more than the 32-byte mailbox holds). -/
def infoLen (l : Nat) : List Nat := [l, 0, 0, 0, 0, 0x73, 0, 0x80, 0x02, 0, 0, 0, 1, 0, 0x00, 0x10, 0x18, 0x10]

/-- P3/P4 repaired (fix-c16-sdo-info-length): a length field below 8 or beyond the data present is `Error::Internal`. -/
theorem coe_total_info_length_fixed :
    (sdoInfoList scriptWorld cfg32 1 (St.init 1 [[infoLen 4]] [])).1 = .err .internal ∧
    (sdoInfoList scriptWorld { cfg32 with mode := .wrapping } 1 (St.init 1 [[infoLen 4]] [])).1 = .err .internal ∧
    (sdoInfoList scriptWorld cfg32 1 (St.init 1 [[infoLen 64]] [])).1 = .err .internal ∧
    (sdoInfoQuantities scriptWorld { cfg32 with mode := .wrapping } (St.init 1 [[infoLen 64]] [])).1 = .err .internal := by
  decide +kernel

/-! ### reads_inside_reply -/

/-- **reads_inside_reply.** (1) Every view the client derives from the `ReceivedPdu` it was given (`trim_front`)
    stays inside the reply's data area `[lo, hi)` and ends at its end. (2) The two functions that hold the view are
    functions of the reply bytes alone. (3) Hence no entry point's result or final state depends on the bytes that
    surround the reply in the frame buffer (`pre`, `post`: Ethernet/EtherCAT headers, working counter, older frames). -/
theorem reads_inside_reply {σ : Type} (w : World σ) (cfg : Cfg) (pre post : List Nat) :
    (∀ (p : Pdu) lo hi ct, p.Inside lo hi → (p.trimFront ct).Inside lo hi) ∧
    (∀ (ρ : Type) (u : List Nat → Res ρ) v (p : Pdu), p.start + p.len ≤ p.frame.length →
      triage cfg u v p = triageB u v p.bytes) ∧
    (∀ (p : Pdu) consumed buf, p.start + p.len ≤ p.frame.length →
      infoStep cfg p consumed buf = infoStepB p.bytes consumed buf) ∧
    (∀ fuel bufLen index access s,
      sdoRead w (cfg.around pre post) fuel bufLen index access s = sdoRead w cfg fuel bufLen index access s) ∧
    (∀ index access s, sdoReadExpedited w (cfg.around pre post) index access s = sdoReadExpedited w cfg index access s) ∧
    (∀ (α : Type) (T : Dest α) fuel maxEntries index s,
      sdoReadArray w (cfg.around pre post) fuel T maxEntries index s = sdoReadArray w cfg fuel T maxEntries index s) ∧
    (∀ index access value s, sdoWrite w (cfg.around pre post) index access value s = sdoWrite w cfg index access value s) ∧
    (∀ index values s, sdoWriteArray w (cfg.around pre post) index values s = sdoWriteArray w cfg index values s) ∧
    (∀ listType s, sdoInfoList w (cfg.around pre post) listType s = sdoInfoList w cfg listType s) ∧
    (∀ s, sdoInfoQuantities w (cfg.around pre post) s = sdoInfoQuantities w cfg s) :=
  ⟨Pdu.trimFront_inside,
   fun _ u v p _ => triage_eq_bytes cfg u v p,
   fun _ _ _ => infoStep_eq_bytes cfg,
   sdoRead_around w cfg pre post,
   fun index access s => by unfold sdoReadExpedited; simp only [mwr_around],
   fun _ T fuel maxEntries index s => by unfold sdoReadArray; simp only [sdoReadT_around, readEach_around],
   sdoWrite_around w cfg pre post,
   fun index values s => by unfold sdoWriteArray; simp only [sdoWrite_around, writeEach_around],
   fun listType s => by unfold sdoInfoList; simp only [sendSdoInfoService_around],
   fun s => by unfold sdoInfoQuantities; simp only [sendSdoInfoService_around]⟩

/-- The view handed to the client by `receive_slice` covers exactly the mailbox image. -/
theorem reads_inside_reply_initial (cfg : Cfg) (img : List Nat) :
    (mkPdu cfg img).Inside cfg.pre.length (cfg.pre.length + img.length) ∧ (mkPdu cfg img).bytes = img :=
  ⟨mkPdu_inside cfg img, mkPdu_bytes cfg img⟩

/-! ### info_buffer_bounded -/

/-- **info_buffer_bounded.** Whatever the device sends, the bytes `send_sdo_info_service` returns (and, by
    `info_buffer_bounded_step`, the buffer after every single iteration) never exceed the fixed capacity 0x1fffe. -/
theorem info_buffer_bounded {σ : Type} (w : World σ) (cfg : Cfg) (req : List Nat) (s : St σ) (out : List Nat)
    (h : (sendSdoInfoService w cfg req s).1 = .ok (some out)) : out.length ≤ 0x1fffe := by
  unfold sendSdoInfoService at h
  split at h
  · cases h
  · obtain ⟨b, hb, h⟩ := bind_ok_inv h
    cases h
    exact (infoLoop_spec cfg _ false [] 0 (Nat.zero_le _)).2.1 _ hb

/-- Every iteration keeps the buffer within the capacity (and never shrinks it). -/
theorem info_buffer_bounded_step (cfg : Cfg) (p : Pdu) (consumed : Bool) (buf buf' : List Nat) (inc : Bool)
    (h : infoStep cfg p consumed buf = .ok (.frag buf' inc)) : buf.length ≤ buf'.length ∧ buf'.length ≤ 0x1fffe := by
  rcases infoStep_cases cfg p consumed buf with ⟨e, he⟩ | ⟨n, inc', _, hcap, _, hn⟩
  · rw [he] at h; cases h
  · rw [hn] at h; cases h
    exact ⟨by rw [List.length_append]; exact Nat.le_add_right _ _, hcap⟩

/-! ### info_terminates -/

/-- **info_terminates (finite scripts).** Every iteration of the SDO-info loop takes one message out of the device:
    mailbox reads + messages left = what was queued + what the request produced. -/
theorem info_terminates_finite {σ : Type} (w : World σ) (cfg : Cfg) (req : List Nat) (s : St σ)
    (hm : cfg.hasMailbox = true) :
    (sendSdoInfoService w cfg req s).2.reads + (sendSdoInfoService w cfg req s).2.outq.length =
      s.reads + s.outq.length + (w.respond s.dev (image cfg.wmbx req)).2.length := by
  unfold sendSdoInfoService
  rw [if_neg (by simp [hm])]
  dsimp only
  have h := (infoLoop_spec cfg (writeRequest w cfg req (drainStale s)).outq false [] 0 (Nat.zero_le _)).2.2.1
  simp only [writeRequest, drainStale, List.length_append, List.length_drop] at h ⊢
  omega

/-- **info_terminates.** (True since fix-c16-endless-loops.) For ANY stream of replies, however long — endless
    "more fragments", fragments without data, foreign messages — the loop performs at most 0x1fffe + 1 mailbox reads:
    every fragment that announces another one adds at least one byte to the 0x1fffe-byte buffer and anything else ends
    the request with a value or an error. -/
theorem info_terminates (cfg : Cfg) (q : List (List Nat)) (consumed : Bool) (reads : Nat) :
    (infoLoop cfg q consumed [] reads).2.2 ≤ reads + 0x1fffe + 1 :=
  (infoLoop_spec cfg q consumed [] reads (Nat.zero_le _)).2.2.2

/-- The former witness of c16/sdo-info-endless (n + 1 zero-length "more follows" fragments): `Error::Internal` after one
    mailbox read. -/
theorem info_terminates_endless_fixed (n : Nat) :
    infoLoop cfg16 (List.replicate (n + 1) zeroFrag) false [] 0 = (.err .internal, List.replicate n zeroFrag, 1) :=
  infoLoop_zeroFrags_fixed n false [] 0 (Nat.zero_le _)

/-- **segments_terminate.** (True since fix-c16-endless-loops.) For ANY device and any fuel: a segmented `sdo_read`
    into a destination of `buf.length` bytes sends at most `buf.length - total + 1` segment requests, because a segment
    that is not the last one must carry at least one byte. (So `outOfFuel` cannot occur with fuel > buf.length + 1.) -/
theorem segments_terminate {σ : Type} (w : World σ) (cfg : Cfg) (fuel : Nat) (toggle : Bool) (buf : List Nat)
    (total : Nat) (s : St σ) (ht : total ≤ buf.length) :
    (segLoop w cfg fuel toggle buf total s).2.reqs.length ≤ s.reqs.length + (buf.length - total) + 1 := by
  induction fuel generalizing toggle buf total s with
  | zero => show s.reqs.length ≤ _; omega
  | succ fuel ih =>
    have hreq := (mwr_ctr_reqs w cfg (segmentRequest s.ctr toggle) unpackSdoSegmented (fun _ _ => true)
      (mailboxCounter s).2).2
    generalize hr : mailboxWriteRead w cfg (segmentRequest s.ctr toggle) unpackSdoSegmented (fun _ _ => true)
      (mailboxCounter s).2 = r at hreq
    have hle : r.2.reqs.length ≤ s.reqs.length + 1 := by
      rw [hreq]
      split
      · exact Nat.le_of_eq (List.length_append ..)
      · exact Nat.le_succ _
    rcases segLoop_succ w cfg fuel toggle buf total s r.2 r.1 hr with ⟨x, hx, _⟩ | ⟨buf', total', h1, h2, h3, hx⟩ <;>
      rw [hx]
    · show r.2.reqs.length ≤ _; omega
    · have := ih (!toggle) buf' total' r.2 (h3 ▸ h2)
      rw [h3] at this
      omega

/-- The former witness of c16/segment-endless (n + 1 zero-length segments): `Error::Internal` after one request. -/
theorem segments_terminate_endless_fixed (n : Nat) :
    (segLoop scriptWorld cfg32 (n + 1) false (zeros 4) 0 (St.init 1 (List.replicate (n + 1) [zeroSeg]) [])).1 =
      .err .internal ∧
    (segLoop scriptWorld cfg32 (n + 1) false (zeros 4) 0 (St.init 1 (List.replicate (n + 1) [zeroSeg]) [])).2.reads = 1 := by
  have := segLoop_zeroSegs_fixed n n false (zeros 4) 0 1 [] 0 (Nat.zero_le _)
  simpa [St.init] using this

/-! ### Non-vacuity -/

/-- A device that does answer: the client returns the four bytes of an expedited upload response. -/
example : (sdoRead scriptWorld cfg32 4 4 0x2000 (.index 0)
    (St.init 1 [[[0x0a, 0, 0, 0, 0, 0x13, 0, 0x30, 0x43, 0x00, 0x20, 0x00, 0xde, 0xad, 0xbe, 0xef]]] [])).1 =
      .ok [0xde, 0xad, 0xbe, 0xef] := by decide +kernel

/-- A well-formed OD list response is assembled. -/
example : (sdoInfoList scriptWorld cfg32 1 (St.init 1 [[infoLen 12]] [])).1 = .ok (some [0x1000, 0x1018]) := by decide +kernel

/-- A data-carrying fragment is appended. -/
example : (infoStep cfg32 (mkPdu cfg32 (image 32 (infoLen 12))) false []) = .ok (.frag [0x00, 0x10, 0x18, 0x10] false) := by
  decide +kernel

/-- The generated constants the theorems speak about. -/
example : INFO_BUF_CAP = 0x1fffe ∧ LEN_HeadersRaw = 12 ∧ SEGMENT_HEADER_LEN = 3 ∧ COE_HEADER_AND_LIST_TYPE_SIZE = 8 ∧
    DRAIN_ROUNDS = 10 := by decide

end Ec.C16
