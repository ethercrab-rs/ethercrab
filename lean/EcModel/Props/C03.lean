/-
  C03 — frame slots are always returned: capacity is never lost.

  Subject: the sequential (API-level) model of the PDU loop's frame storage (`EcModel/Slots.lean`),
  stepped by `Ec.step` over `Ec.Op` (one constructor per API operation; `Lemmas/SlotsStep.lean`).
  All theorems quantify over every slot count `n` (capacity clauses: `n ∣ 256`, i.e. the legal sizes
  1, 2, 4, …, 128), every frame size, every initial counter value and every history (`Reach`):
  successful round trips, failed validation, send errors and partial sends, lost / duplicate /
  garbage responses, deadline expiries with and without retries, drops of every handle kind in every
  state it can be in, and `reset` at quiescent points.

  The history "future abandoned while the TX side holds the `SendableFrame`, then the send
  completes" is included (current code: the send's compare-exchange fails): see
  `abandon_then_stale_send_keeps_capacity` below and C06.
-/
import EcModel.Lemmas.SlotsCapacity
import EcModel.Lemmas.SlotsSites

namespace Ec.C03

/-- The slot-state transition sites extracted from `/repo/src/pdu_loop/**` on this run are exactly
    the primitives the model implements (same function, same primitive — compare-exchange or plain
    store —, same source and target state, same order). -/
theorem transition_sites_are_the_models : Gen.transitionSites = modelTransitionSites := rfl

/-- Handle kinds that own a slot (everything but the TX side's `SendableFrame`). -/
def IsOwner (h : Hd) : Prop := h.kind ≠ .sendable

/-- The slot states an owner of kind `k` can find its slot in. -/
def Owns (k : HK) (st : St) : Prop :=
  match k with
  | .created _ _ => st = .created
  | .fut _ _ _ _ => st = .sendable ∨ st = .sending ∨ st = .sent ∨ st = .rxBusy ∨ st = .rxDone
  | .received => st = .rxProcessing
  | .view _ _ _ => st = .rxProcessing
  | .sendable => False

theorem isOwner_iff (h : Hd) : IsOwner h ↔ h.kind.cls ≠ 4 := by
  unfold IsOwner; cases h.kind <;> simp [HK.cls]

theorem owns_iff (k : HK) (st : St) (hk : k.cls ≠ 4) : Owns k st ↔ st.cls = k.cls := by
  cases k with
  | created => exact St.cls_eq_one.symm
  | fut => cases st <;> simp [Owns, HK.cls, St.cls]
  | received | view => exact St.cls_eq_three.symm
  | sendable => exact absurd rfl hk

/-- **Ownership invariant J** in every reachable world: registers are unique; every owner handle
    refers to an existing slot whose state is compatible with the handle's kind (Created ↔ a
    `CreatedFrame`; Sendable/Sending/Sent/RxBusy/RxDone ↔ a `ReceiveFrameFut`; RxProcessing ↔ a
    `ReceivedFrame` or the `ReceivedPdu` that owns it); owner handles refer to distinct slots; every
    slot that is not `None` has an owner. -/
theorem ownership_invariant {n data : Nat} {w : World} (hn : 0 < n) (hr : Reach n data w) :
    (w.2.map (·.reg)).Nodup ∧
    (∀ h ∈ w.2, IsOwner h → h.slot < n ∧ Owns h.kind (w.1.slot h.slot).st) ∧
    (∀ a ∈ w.2, ∀ b ∈ w.2, IsOwner a → IsOwner b → a.slot = b.slot → a = b) ∧
    (∀ i, (w.1.slot i).st ≠ .none → ∃ h ∈ w.2, IsOwner h ∧ h.slot = i) := by
  have hJ := J_reach hn hr
  refine ⟨hJ.regs, ?_, ?_, ?_⟩
  · intro h hm ho
    have ho' := (isOwner_iff h).mp ho
    exact ⟨hr.n_eq hn ▸ hJ.owner_lt hm ho', (owns_iff _ _ ho').mpr (hJ.compat h hm ho')⟩
  · intro a ha b hb hoa hob
    exact hJ.distinct a ha b hb ((isOwner_iff a).mp hoa) ((isOwner_iff b).mp hob)
  · intro i hi
    obtain ⟨h, hm, ho, e⟩ := hJ.held i hi
    exact ⟨h, hm, (isOwner_iff h).mpr ho, e⟩

/-- A slot is held (state ≠ `None`) iff a live owner handle refers to it — and then exactly one
    does, of the kind its state demands. -/
theorem held_iff_handle {n data : Nat} {w : World} (hn : 0 < n) (hr : Reach n data w) (i : Nat) :
    ((w.1.slot i).st ≠ .none ↔ ∃ h ∈ w.2, IsOwner h ∧ h.slot = i) ∧
    ((w.1.slot i).st ≠ .none → ∃ h, (h ∈ w.2 ∧ IsOwner h ∧ h.slot = i ∧ Owns h.kind (w.1.slot i).st) ∧
        ∀ h', h' ∈ w.2 ∧ IsOwner h' ∧ h'.slot = i → h' = h) := by
  obtain ⟨_, hc, hd, hh⟩ := ownership_invariant hn hr
  have back : (∃ h ∈ w.2, IsOwner h ∧ h.slot = i) → (w.1.slot i).st ≠ .none := by
    rintro ⟨h, hm, ho, rfl⟩
    exact (J_reach hn hr).owner_held hm ((isOwner_iff h).mp ho)
  refine ⟨⟨hh i, back⟩, ?_⟩
  intro hne
  obtain ⟨h, hm, ho, e⟩ := hh i hne
  refine ⟨h, ⟨hm, ho, e, e ▸ (hc h hm ho).2⟩, ?_⟩
  rintro h' ⟨hm', ho', e'⟩
  exact hd h' hm' h hm ho' ho (e'.trans e.symm)

/-- **Conservation of capacity**: in every reachable world, held slots and live owner handles are
    equinumerous — `free slots + owner handles = n`. -/
theorem capacity_conserved {n data : Nat} {w : World} (hn : 0 < n) (hr : Reach n data w) :
    heldCount w.1 = owners w.2 ∧ heldCount w.1 ≤ n := by
  have hJ := J_reach hn hr
  refine ⟨hJ.count, ?_⟩
  unfold heldCount
  calc _ ≤ (List.range w.1.n).length := List.length_filter_le _ _
    _ = n := by rw [List.length_range, hr.n_eq hn]

/-- The legal storage sizes (`N ≤ u8::MAX`, `N` a power of two or 1) all divide 256. -/
theorem legal_sizes_dvd (n : Nat) (h : n ∈ [1, 2, 4, 8, 16, 32, 64, 128]) : n ∣ 256 := by
  simp only [List.mem_cons, List.mem_nil_iff, or_false] at h
  rcases h with rfl | rfl | rfl | rfl | rfl | rfl | rfl | rfl <;> decide

/-- `2n` consecutive values of the wrapping `u8` cursor cover every residue mod `n` (already the
    first `n` do) because `n ∣ 256`. -/
theorem cursor_covers (f n i : Nat) (hd : n ∣ 256) (hi : i < n) :
    ∃ j, j < 2 * n ∧ (f + j) % 256 % n = i := by
  obtain ⟨j, hj, e⟩ := cursor_hits f n i hd hi
  exact ⟨j, by omega, e⟩

/-- **alloc_complete**: if some slot is `None`, `alloc_frame` succeeds — it claims a slot that was
    `None`, which becomes `Created` and is owned by the new handle. -/
theorem alloc_complete {n data : Nat} {w : World} (hr : Reach n data w) (hd : n ∣ 256) (r : Nat)
    (hfree : getH w.2 r = none) (i : Nat) (hi : i < n) (hnone : (w.1.slot i).st = .none) :
    ∃ k, k < n ∧ (w.1.slot k).st = .none ∧ (step w (.alloc r)).2 = s!"ok.{k}" ∧
      (step w (.alloc r)).1.2 = putH w.2 ⟨r, k, .created 0 none⟩ ∧
      ((step w (.alloc r)).1.1.slot k).st = .created :=
  alloc_step_ok hr hd hi hnone r (getH_none hfree)

/-- **alloc_fails_only_if_full**: `alloc_frame` reports `SwapState` only when every slot is held, each
    by its own live request or response handle; and if every slot is held it does report it. -/
theorem alloc_fails_only_if_full {n data : Nat} {w : World} (hr : Reach n data w) (hd : n ∣ 256) (r : Nat) :
    ((step w (.alloc r)).2 = "err.swapstate" →
      ∀ i, i < n → (w.1.slot i).st ≠ .none ∧ ∃ h ∈ w.2, IsOwner h ∧ h.slot = i) ∧
    (getH w.2 r = none → (∀ i, i < n → (w.1.slot i).st ≠ .none) → (step w (.alloc r)).2 = "err.swapstate") := by
  have hn : 0 < n := Nat.pos_of_dvd_of_pos hd (by decide)
  constructor
  · intro hout i hi
    have hne : (w.1.slot i).st ≠ .none := by
      intro hnone
      cases hfree : getH w.2 r with
      | none =>
        obtain ⟨k, _, _, hk, _⟩ := alloc_complete hr hd r hfree i hi hnone
        rw [hk] at hout
        exact append_ne_of_not_prefix (by simp [toString]) hout
      | some h =>
        simp [step, hfree] at hout
    exact ⟨hne, ((held_iff_handle hn hr i).1).mp hne⟩
  · intro hfree hfull
    exact alloc_step_full hn hr hfull r (getH_none hfree)

/-- **created_drop_releases**: a frame that was claimed but never marked sendable is released when
    dropped; no other slot is touched. -/
theorem created_drop_releases {n data : Nat} {w : World} (hn : 0 < n) (hr : Reach n data w) (r k c : Nat)
    (l : Option Nat) (hh : getH w.2 r = some ⟨r, k, .created c l⟩) :
    ((step w (.dropCreated r)).1.1.slot k).st = .none ∧
    (step w (.dropCreated r)).1.2 = delH w.2 r ∧
    (∀ j, j ≠ k → (step w (.dropCreated r)).1.1.slot j = w.1.slot j) ∧
    (step w (.dropCreated r)).2 = "ok" := by
  have hJ := J_reach hn hr
  have hm := (getH_some hh).1
  have hk : k < w.1.n := hJ.owner_lt hm (by decide : 1 ≠ 4)
  have hst : (w.1.slot k).st = .created := hJ.created hm rfl
  simp only [step, opDropCreated, hh, hst, if_true]
  refine ⟨by rw [slot_setSlot_eq _ _ _ hk], by simp, ?_, by simp⟩
  intro j hj; exact slot_setSlot_ne _ _ _ _ hj

/-- **Exact remaining capacity** from any reachable world, without draining: with `m` live owner
    handles, exactly `n - m` further allocations succeed and the next one reports `SwapState`. -/
theorem capacity_exact {n data : Nat} {w : World} (hr : Reach n data w) (hd : n ∣ 256)
    (ps : List Nat) (hps : ps.Nodup) (hfresh : ∀ h ∈ w.2, h.reg ∉ ps) (hlen : owners w.2 + ps.length = n)
    (extra : Nat) (hex : extra ∉ ps) (hex' : ∀ h ∈ w.2, h.reg ≠ extra) :
    allocsOk w ps ∧ (step (run w (ps.map Op.alloc)) (.alloc extra)).2 = "err.swapstate" := by
  have hn : 0 < n := Nat.pos_of_dvd_of_pos hd (by decide)
  obtain ⟨hok, hcount, hregs⟩ := probe hr hd ps hps hfresh (Nat.le_of_eq hlen)
  have hr' := hr.run (ps.map Op.alloc)
  have hne := hr'.n_eq hn
  refine ⟨hok, alloc_step_full hn hr' (fun i hi => full_of_count
    (by rw [(J_reach hn hr').count, hcount, hne, hlen]) i (hne ▸ hi)) extra ?_⟩
  intro h hm e
  rcases hregs h hm with h1 | h1
  · exact hex' h h1 e
  · exact hex (e ▸ h1)

/-- **drain_restores_capacity**: after ANY history, disposing of every live handle in any order
    (`CreatedFrame`: drop; `ReceiveFrameFut`: drop; `SendableFrame`: complete the send, with any
    outcome; `ReceivedFrame` / `ReceivedPdu`: drop) leaves no handle and every slot `None`; then `n`
    consecutive allocations succeed and the `(n+1)`-th reports `SwapState`. -/
theorem drain_restores_capacity {n data : Nat} {w : World} (hr : Reach n data w) (hd : n ∣ 256)
    (o : Nat → Nat) (rs : List Nat) (hall : ∀ h ∈ w.2, h.reg ∈ rs)
    (ps : List Nat) (hps : ps.Nodup) (hlen : ps.length = n) (extra : Nat) (hex : extra ∉ ps) :
    let w' := drain o w rs
    w'.2 = [] ∧ (∀ i, (w'.1.slot i).st = .none) ∧ allocsOk w' ps ∧
    (step (run w' (ps.map Op.alloc)) (.alloc extra)).2 = "err.swapstate" := by
  intro w'
  have hn : 0 < n := Nat.pos_of_dvd_of_pos hd (by decide)
  obtain ⟨ops, e⟩ := drain_eq_run o w rs
  have hr' : Reach n data w' := by show Reach n data (drain o w rs); rw [e]; exact hr.run ops
  obtain ⟨he, hnone⟩ := drain_empties o rs (J_reach hn hr') hall
  obtain ⟨hok, hfull⟩ := capacity_exact hr' hd ps hps (by rw [he]; nofun)
    (by rw [he, ← hlen]; exact Nat.zero_add _) extra hex (by rw [he]; nofun)
  exact ⟨he, hnone, hok, hfull⟩

/-- **no_panic_in_drop**: the `RxProcessing → None` compare-exchange in `Drop for ReceivedFrame`
    (whose failure is a panic in the Rust code) succeeds in every reachable world, whichever way the
    frame is dropped: directly, through `first_pdu`'s error paths, with the PDU iterator, or with the
    `ReceivedPdu` that owns it. -/
theorem no_panic_in_drop {n data : Nat} {w : World} (hn : 0 < n) (hr : Reach n data w) (r k : Nat) :
    (getH w.2 r = some ⟨r, k, .received⟩ →
      (dropReceived w.1 k).2 = true ∧ (step w (.dropReceived r)).2 = "ok" ∧
      (∀ code idx, (step w (.first r code idx)).2 ≠ "panic.drop") ∧
      (∀ m, (step w (.iter r m)).2 =
        String.intercalate "," (iterLoop ((w.1.slot k).buf.drop 16) (w.1.slot k).used m (some 0) []).reverse)) ∧
    (∀ off len wkc, getH w.2 r = some ⟨r, k, .view off len wkc⟩ →
      (dropReceived w.1 k).2 = true ∧ (step w (.dropView r)).2 = "ok") := by
  have hJ := J_reach hn hr
  -- the owner finds its slot in `RxProcessing`
  have dropped : ∀ {K : HK}, getH w.2 r = some ⟨r, k, K⟩ → K.cls = 3 → (dropReceived w.1 k).2 = true :=
    fun hh hk => by rw [dropReceived_eq (hJ.rxProcessing (getH_some hh).1 hk)]
  constructor
  · intro hh
    have hd := dropped hh rfl
    refine ⟨hd, by simp [step, opDropReceived, hh, hd], ?_, ?_⟩
    · intro code idx
      simp only [step]
      rcases opFirst_cases hh code idx with ⟨_, _, _, _, _, e⟩ | ⟨tok, ht, e⟩ <;> rw [e]
      · rw [String.append_assoc, String.append_assoc]; exact append_ne_of_not_prefix (by simp [toString])
      · simp only [hd, if_true]; exact ht
    · intro m
      simp [step, opIter, hh, hd]
  · intro off len wkc hh
    have hd := dropped hh rfl
    exact ⟨hd, by simp [step, opDropView, hh, hd]⟩

/-! ### the C06 window at API level (what fix 362a9e12 bought) -/

/-- The request is abandoned while the TX side holds the `SendableFrame` (state `Sending`), then the
    send completes: the slot is `None` after the drop and the stale send changes no slot (its
    compare-exchange from `Sending` fails); the invariant — hence every capacity theorem above —
    keeps holding (it holds in every reachable world). -/
theorem abandon_then_stale_send_keeps_capacity {n data : Nat} {w : World} (hn : 0 < n) (hr : Reach n data w)
    (r t k o : Nat) (a b c : Nat) (d : Bool)
    (hf : getH w.2 r = some ⟨r, k, .fut a b c d⟩) (ht : getH w.2 t = some ⟨t, k, .sendable⟩) :
    let w1 := (step w (.dropFut r)).1
    let w2 := (step w1 (.txSend t o)).1
    (w1.1.slot k).st = .none ∧ w2.1 = w1.1 ∧ w2.2 = delH (delH w.2 r) t := by
  have hJ := J_reach hn hr
  have hk : k < w.1.n := hJ.owner_lt (getH_some hf).1 (by decide : 2 ≠ 4)
  have hrt : r ≠ t := by
    intro e; subst e; rw [hf] at ht; cases ht
  have ht' : getH (delH w.2 r) t = some ⟨t, k, .sendable⟩ := by
    rw [getH_delH_other _ hrt.symm]; exact ht
  simp only [step, opDropFut, hf, opTxSend, ht']
  rw [slot_setSlot_eq _ _ _ hk]
  simp

/-- A two-slot history: both slots claimed, the third allocation refused, one frame dropped
    unsent, one sent / timed out; every slot ends `None`. -/
def demoOps : List Op :=
  [.alloc 0, .alloc 1, .alloc 2, .dropCreated 0, .push 1 .nop [1, 2] none, .mark 1 0 10, .txNext 3,
   .txSend 3 0, .poll 1, .advance 11, .poll 1]

example : ((run (World.init 2 32 255 7) (demoOps.take 3)).1.slots.map (·.st)) = [.created, .created] := by decide +kernel
example : ((run (World.init 2 32 255 7) (demoOps.take 8)).1.slots.map (·.st)) = [.sent, .none] := by decide +kernel
example : ((run (World.init 2 32 255 7) demoOps).1.slots.map (·.st)) = [.none, .none] := by decide +kernel
example : (run (World.init 2 32 255 7) demoOps).2 = [] := by decide +kernel
example : Reach 2 32 (run (World.init 2 32 255 7) demoOps) := ⟨255, 7, demoOps, rfl⟩

end Ec.C03
