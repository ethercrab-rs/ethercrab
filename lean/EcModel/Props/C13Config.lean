/-
  C13 (appendix) — "the initialisation steps built on [EEPROM data] never panic, in builds with and
  without overflow checks": the configuration arithmetic that consumes the PDO bit lengths an ARBITRARY EEPROM
  image supplies (`configure_pdos_eeprom`: `u64::from(bit_len) * u64::from(oversampling)`, `.sum::<u64>()`,
  `u16::try_from(bits.div_ceil(8))?`; `PdiOffset::increment_byte_aligned`: `bits.div_ceil(8)`).

  While this arithmetic was `u16` it could overflow (c08/pdo-bit-length-u16-overflow, repaired by
  fix-c08-pdo-bit-length, ed62a862), and C13 had to leave it out.
  Models: `EcModel/Eeprom.lean` (the parser: what `SubDeviceEeprom::pdos` returns for an arbitrary memory) and
  `EcModel/Config.lean` (the configuration code). Property theorems only; that the parser yields at most 64 PDOs,
  each with `bit_len` ≤ 255 × 255, is the postcondition of `pdos_tri` (`Lemmas/EepromSafe.lean`).
-/
import EcModel.Lemmas.EepromSafe
import EcModel.Lemmas.ConfigBasic

namespace Ec.C13
open Ec Ec.Eeprom

/-- A PDO as the parser returns it, seen by the configuration code. -/
def toConfigPdo (x : Pdo) : Config.Pdo := { index := x.index, sm := x.sm, bitLen := x.bitLen }

/-- **Whatever the EEPROM says, the PDOs it yields are within the types**: at most 64 per direction, `bit_len`
    at most 65025 — in both build modes of the parser, for every memory and chunk size. -/
theorem eeprom_pdos_within_types (m : Mode) (p : Prov) (hcs : 4 ≤ p.cs) (hb : ∀ a, p.rd a < 256) (cat : Nat)
    (l : List Pdo) (h : (pdos m p cat).1 = .ok l) : l.length ≤ 64 ∧ ∀ x ∈ l, x.bitLen ≤ 65025 :=
  (pdos_tri m p hcs (catOK_all m p hcs) hb cat).post l h

/-- **No panic in the configuration arithmetic for arbitrary EEPROM-supplied PDO bit lengths.** For every
    memory, chunk size and build mode of the parser, every list of PDOs `SubDeviceEeprom::pdos` returns, every
    oversampling configuration (`&[(u16, u16)]`) and every sync manager index: the bit-length sum of
    `configure_pdos_eeprom` never panics and has the same value in the overflow-checking and the wrapping
    build; the byte length derived from it is a value or `Err(IntegerTypeConversion)`, never a panic; and
    rounding ANY `u16` bit count in `PdiOffset::increment_byte_aligned` is at most 8192 bytes (no `+ 7`
    overflow). Before fix-c08-pdo-bit-length all three could panic in checked builds and wrapped in release builds. -/
theorem pdo_configuration_arithmetic_total (m : Mode) (p : Prov) (hcs : 4 ≤ p.cs) (hb : ∀ a, p.rd a < 256)
    (cat : Nat) (l : List Pdo) (h : (pdos m p cat).1 = .ok l)
    (os : List (Nat × Nat)) (hos : ∀ q ∈ os, q.2 < 65536) (smIdx : Nat) :
    (∀ m' w, Config.eepromSmBitLen m' os smIdx 0 (l.map toConfigPdo) ≠ .panic w) ∧
    (∀ m', Config.eepromSmBitLen m' os smIdx 0 (l.map toConfigPdo) =
      Config.eepromSmBitLen .checked os smIdx 0 (l.map toConfigPdo)) ∧
    (∀ bits, Config.eepromSmBitLen .checked os smIdx 0 (l.map toConfigPdo) = .ok bits →
      bits = Config.eepromBitsSpec os smIdx (l.map toConfigPdo)) ∧
    (∀ bits w, Config.lenBytes bits ≠ .panic w) ∧
    (∀ bits, bits < 65536 → Config.divCeil8 bits ≤ 8192) := by
  obtain ⟨hlen, hbits⟩ := eeprom_pdos_within_types m p hcs hb cat l h
  have hb' : ∀ x ∈ l.map toConfigPdo, x.bitLen < 65536 := by
    intro x hx
    obtain ⟨y, hy, rfl⟩ := List.mem_map.1 hx
    exact Nat.lt_of_le_of_lt (hbits y hy) (by decide)
  have hn := fun m' => Config.eepromSmBitLen_noPanic m' hos smIdx (l.map toConfigPdo) 0
    (Config.mul_len_lt (by simpa using hlen) (by decide)) hb'
  refine ⟨fun m' => (hn m').ne_panic, fun m' => Config.eepromSmBitLen_agree m' (hn .checked).ne_panic,
    fun bits hbits => ?_, fun bits => (Config.lenBytes_noPanic bits).ne_panic, fun bits hlt => ?_⟩
  · rw [Config.eepromSmBitLen_ok hbits, Nat.zero_add]
  · rw [Config.divCeil8_eq]
    omega

/-- Non-vacuity / the witness named in the property's quantifier ("255x255-bit PDO sums"): 64 PDOs of 65025 bits
    with oversampling 65535 — the largest sum the types allow, 272 730 456 000 bits — is computed exactly in both build
    modes and is then refused by the byte-length conversion. -/
theorem pdo_sum_255x255_fixed :
    (∀ m : Mode, Config.eepromSmBitLen m [(0x1a00, 65535)] 0 0
        ((List.range 64).map fun _ => ({ index := 0x1a00, sm := 0, bitLen := 65025 } : Config.Pdo))
      = .ok 272730456000) ∧
    Config.lenBytes 272730456000 = .err .intConv ∧
    (∀ m : Mode, Config.eepromSmBitLen m [] 0 0
        ((List.range 5).map fun _ => ({ index := 0x1a00, sm := 0, bitLen := 65025 } : Config.Pdo)) = .ok 325125) ∧
    Config.lenBytes 325125 = .ok 40641 := by
  refine ⟨fun m => by cases m <;> decide +kernel, by decide +kernel, fun m => by cases m <;> decide +kernel, by decide +kernel⟩

end Ec.C13
