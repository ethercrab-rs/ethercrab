/-
  C13 — no EEPROM content can hang or crash the MainDevice.
  The property theorems; the calculus and the per-function lemmas are in EcModel/Lemmas/EepromSafe.lean.
-/
import EcModel.Lemmas.EepromSafe

namespace Ec.C13
open Ec Ec.Eeprom

/-- The EEPROM-derived queries of `SubDeviceEeprom` (what `SubDevice::new`, configuration and the public
    `name/description/identity/eeprom_size/...` entry points call). -/
inductive Query where
  | category (cat : Nat)
  | stationAlias | size | identity | mailboxConfig | general
  | syncManagers | fmmus | fmmuMappings
  | pdos (cat : Nat)
  | findString (N idx : Nat)
  | deviceName (N : Nat)
  | deviceDescription (N : Nat)

/-- Keep outcome class and cost, forget the value. -/
def forget {α : Type} (x : M α) : M Unit :=
  (match x.1 with | .ok _ => .ok () | .err e => .err e | .panic w => .panic w, x.2)

def Query.run (m : Mode) (p : Prov) : Query → M Unit
  | .category cat => forget (Eeprom.category m p cat)
  | .stationAlias => forget (Eeprom.stationAlias m p)
  | .size => forget (Eeprom.size m p)
  | .identity => forget (Eeprom.identity m p)
  | .mailboxConfig => forget (Eeprom.mailboxConfig m p)
  | .general => forget (Eeprom.general m p)
  | .syncManagers => forget (Eeprom.syncManagers m p)
  | .fmmus => forget (Eeprom.fmmus m p)
  | .fmmuMappings => forget (Eeprom.fmmuMappings m p)
  | .pdos cat => forget (Eeprom.pdos m p cat)
  | .findString N idx => forget (Eeprom.findString m p N idx)
  | .deviceName N => forget (Eeprom.deviceName m p N)
  | .deviceDescription N => forget (Eeprom.deviceDescription m p N)

/-- Provider-call bound of a query, given the bound `CB` of one category search. -/
def Query.bound (CB : Nat) : Query → Nat
  | .category _ => CB
  | .stationAlias => 3
  | .size => 3
  | .identity => 17
  | .mailboxConfig => 11
  | .general => CB + 19
  | .syncManagers => CB + 90
  | .fmmus => CB + 17
  | .fmmuMappings => CB + 72
  | .pdos _ => CB + 152064
  | .findString N idx => CB + 2 * idx + N + 5
  | .deviceName N => 2 * CB + N + 534
  | .deviceDescription N => 2 * CB + N + 534

theorem forget_tri {α : Type} {K : List String} {hang : Bool} {B : Nat} {Q : α → Prop} {x : M α}
    (h : Tri K hang B Q x) : Tri K hang B (fun _ => True) (forget x) := by
  obtain ⟨o, c⟩ := x
  cases o with
  | ok a => exact Tri.ok h.cost trivial
  | err e => exact Tri.err h.cost fun hh he => h.nofuel hh (he ▸ rfl)
  | panic w => exact Tri.panic h.cost (h.panics w rfl)

/-- **`eeprom_queries_total`: every image, both build modes.** For every memory content (any bytes), chunk
    size ≥ 4, build mode and query: the query terminates (never runs out of fuel — the category walk's word
    address grows by at least 2 per step through a checked addition), makes at most `bound` provider calls, and
    returns a value, "absent" or an error; a panic would have to be at one of the sites listed in `sites m`,
    and that list is empty in both build modes (`eeprom_queries_never_panic`). -/
theorem eeprom_queries_total (m : Mode) (p : Prov) (hcs : 4 ≤ p.cs) (hb : ∀ a, p.rd a < 256) (q : Query) :
    (q.run m p).1 ≠ .err .fuel ∧
    (q.run m p).2 ≤ q.bound catBound ∧
    (∀ w, (q.run m p).1 = .panic w → w ∈ sites m) :=
  have hc := catOK_all m p hcs
  have h : Tri (sites m) false (q.bound catBound) (fun _ => True) (q.run m p) := by
    cases q with
    | category cat => exact forget_tri (hc cat)
    | stationAlias | size | identity =>
      exact forget_tri (readAt_tri (Q := fun _ => True) m false p (by omega) _ _ (by decide) fun _ => Tri.ret 0 trivial)
    | mailboxConfig =>
      exact forget_tri (readAt_tri m false p (by omega) _ 10 (by decide) fun res => parseMailbox_tri res.1)
    | general => exact forget_tri (general_tri m p hcs hc hb)
    | syncManagers => exact forget_tri (syncManagers_tri m p hcs hc)
    | fmmus => exact forget_tri (fmmus_tri m p hcs hc)
    | fmmuMappings => exact forget_tri (fmmuMappings_tri m p hcs hc)
    | pdos cat => exact forget_tri (pdos_tri m p hcs hc hb cat)
    | findString N idx => exact forget_tri (findString_tri m p hcs hc N idx)
    | deviceName N => exact forget_tri (deviceName_tri m p hcs hc hb N)
    | deviceDescription N => exact forget_tri (deviceDescription_tri m p hcs hc hb N)
  ⟨h.nofuel rfl, h.cost, h.panics⟩

/-- **No query can panic, in either build mode**: the list of overflow sites is empty. -/
theorem eeprom_queries_never_panic (m : Mode) (p : Prov) (hcs : 4 ≤ p.cs) (hb : ∀ a, p.rd a < 256) (q : Query) :
    ∀ w, (q.run m p).1 ≠ .panic w := by
  intro w hw
  have := (eeprom_queries_total m p hcs hb q).2.2 w hw
  cases m <;> simp [sites, knownSites] at this

/-- **Access bound**, explicit: a category search makes at most 32 737 provider calls in every build (the
    word address grows by at least 2 per call from 0x40), hence every query with string capacity and index up
    to 255 stays below 185 000 calls. -/
theorem access_bound (q : Query)
    (hq : ∀ N idx, (q = .findString N idx → N ≤ 255 ∧ idx ≤ 255) ∧ (q = .deviceName N → N ≤ 255) ∧
      (q = .deviceDescription N → N ≤ 255)) :
    catBound = 32737 ∧ q.bound catBound ≤ 184801 := by
  have hcb : catBound = 32737 := by decide
  refine ⟨hcb, ?_⟩
  rw [hcb]
  cases q with
  | findString N idx => have := (hq N idx).1 rfl; simp only [Query.bound]; omega
  | deviceName N => have := (hq N 0).2.1 rfl; simp only [Query.bound]; omega
  | deviceDescription N => have := (hq N 0).2.2 rfl; simp only [Query.bound]; omega
  | _ => simp [Query.bound]

/-- **Collections are bounded**: whatever the image, in both build modes, a returned list never exceeds the
    `heapless` capacity (more items give `Err(Capacity)`), and a returned string never exceeds `N` bytes. -/
theorem collections_bounded (m : Mode) (p : Prov) (hcs : 4 ≤ p.cs) (hb : ∀ a, p.rd a < 256) :
    (∀ l, (syncManagers m p).1 = .ok l → l.length ≤ 8) ∧
    (∀ l, (fmmus m p).1 = .ok l → l.length ≤ 16) ∧
    (∀ l, (fmmuMappings m p).1 = .ok l → l.length ≤ 16) ∧
    (∀ cat l, (pdos m p cat).1 = .ok l → l.length ≤ 64) ∧
    (∀ N idx b, (findString m p N idx).1 = .ok (some b) → b.length ≤ N) ∧
    (∀ N b, (deviceName m p N).1 = .ok (some b) → b.length ≤ N) ∧
    (∀ N b, (deviceDescription m p N).1 = .ok (some b) → b.length ≤ N) := by
  have hc := catOK_all m p hcs
  refine ⟨fun l h => (syncManagers_tri m p hcs hc).post l h, fun l h => (fmmus_tri m p hcs hc).post l h,
    fun l h => (fmmuMappings_tri m p hcs hc).post l h, fun cat l h => ((pdos_tri m p hcs hc hb cat).post l h).1,
    fun N idx b h => (findString_tri m p hcs hc N idx).post _ h b rfl,
    fun N b h => (deviceName_tri m p hcs hc hb N).post _ h b rfl,
    fun N b h => (deviceDescription_tri m p hcs hc hb N).post _ h b rfl⟩

/-- T1 obligation: the capacities named in `collections_bounded` are the ones regenerated from /repo. -/
theorem t1_capacities :
    Gen.Eeprom.CAP_SYNC_MANAGERS = 8 ∧ Gen.Eeprom.CAP_FMMUS = 16 ∧ Gen.Eeprom.CAP_FMMU_EX = 16 ∧
    Gen.Eeprom.CAP_PDOS = 64 ∧ Gen.Eeprom.FMMU_READ_BUF = 16 ∧ Gen.Eeprom.EMPTY_CATEGORY_LIMIT = 32 := by
  decide +kernel

/-! ## Concrete images, one per defect class found in the original code

  Every class is repaired in /repo: the former witness, kept as a `…_fixed` theorem, now yields a value or an
  error. Memories are given as functions; every byte not mentioned is 0. All witnesses are replayed on the real
  code by `harness/src/bin/c13.rs` (adversarial corpus). -/

/-- 128 header bytes, then a first category of type 1 with length word 0xFFFF. -/
def imgLenFFFF (a : Nat) : Nat := if a = 128 then 1 else if a = 130 then 255 else if a = 131 then 255 else 0

/-- Repaired in /repo (before: panic `category:add` in checked builds): a length word
    that points past the word address space is now `Err(SectionOverrun)` in both build modes. -/
theorem category_len_overflow_fixed :
    (general .checked ⟨imgLenFFFF, 4⟩).1 = .err .overrun ∧
    (syncManagers .wrapping ⟨imgLenFFFF, 8⟩).1 = .err .overrun ∧
    (deviceName .checked ⟨imgLenFFFF, 4⟩ 64).1 = .err .overrun := by decide +kernel

/-- EEPROM size word (word 0x3E) = `lo + 256 * hi`, everything else 0. -/
def imgSize (lo hi : Nat) (a : Nat) : Nat := if a = 124 then lo else if a = 125 then hi else 0

/-- Repaired in /repo (before: `(word + 1) * 128` computed in `u16` panicked in checked builds and
    gave 0 in wrapping builds for size word 511 and for a blank, all-ones EEPROM): the size is computed in
    `usize`; 512 Kbit is 65536 bytes, the blank image reports the register maximum. -/
theorem size_overflow_fixed :
    (size .checked ⟨imgSize 255 1, 4⟩).1 = .ok 65536 ∧
    (size .wrapping ⟨imgSize 255 1, 4⟩).1 = .ok 65536 ∧
    (size .checked ⟨fun _ => 255, 4⟩).1 = .ok 8388608 ∧
    (size .wrapping ⟨fun _ => 255, 4⟩).1 = .ok 8388608 := by decide +kernel

/-- First category (type 1) with length 0x7FBC: the next header sits at word 0x7FFE. -/
def imgFar (a : Nat) : Nat := if a = 128 then 1 else if a = 130 then 0xbc else if a = 131 then 0x7f else 0

/-- Repaired in /repo (before: panic `category:mul`): headers at word 0x7FFE and beyond
    are walked like any other (here 32 empty categories follow, so the search ends "absent"). -/
theorem category_beyond_32k_fixed :
    (fmmus .checked ⟨imgFar, 4⟩).1 = .ok [] ∧ (general .wrapping ⟨imgFar, 4⟩).1 = .err .noCategory := by decide +kernel

/-- A `General` category (type 30) found at word 0x40 with a length word of 0x8000 / 0x7FC0. -/
def imgBigCat (lo hi : Nat) (a : Nat) : Nat :=
  if a = 128 then 30 else if a = 130 then lo else if a = 131 then hi else 0

/-- Repaired in /repo (before: `EepromRange::new` computed `len_words * 2` and
    `start * 2 + len * 2` in `u16`: panics `new:mul` / `new:add`): the cursor is a `u32`, the category is found
    with its full extent and the 18 General bytes are read, in both build modes. -/
theorem found_category_overflow_fixed :
    (Eeprom.category .checked ⟨imgBigCat 0 0x80, 4⟩ 30).1 = .ok (some ⟨132, 65668⟩) ∧
    (Eeprom.category .wrapping ⟨imgBigCat 0xc0 0x7f, 4⟩ 30).1 = .ok (some ⟨132, 65540⟩) ∧
    (general .checked ⟨imgBigCat 0 0x80, 4⟩).2 = 7 := by decide +kernel

/-- Strings category (6 words) at word 0x7FF0 (byte 0xFFE0), holding 5 strings, the first 255 bytes long. -/
def imgSkip (a : Nat) : Nat :=
  if a = 128 then 1 else if a = 130 then 0xac else if a = 131 then 0x7f
  else if a = 0xffdc then 10 else if a = 0xffde then 6
  else if a = 0xffe0 then 5 else if a = 0xffe1 then 255 else 0

/-- Repaired in /repo (before: `self.byte_pos + skip` in `u16` panicked): skipping 255 bytes
    from byte 65506 leaves the 12-byte category, which is `Err(SectionOverrun)` in both build modes. -/
theorem skip_overflow_fixed :
    (findString .checked ⟨imgSkip, 4⟩ 16 2).1 = .err .overrun ∧
    (findString .wrapping ⟨imgSkip, 4⟩ 16 2).1 = .err .overrun := by decide +kernel

/-- Empty Strings category whose header is at word 0x7FFD: the range is `[65534, 65534)`. -/
def imgReadByte (a : Nat) : Nat :=
  if a = 128 then 1 else if a = 130 then 0xbb else if a = 131 then 0x7f
  else if a = 0xfffa then 10 else if a = 0xfffe then 5 else 0

/-- Repaired in /repo (before: `read_byte` never compared with `end`, read past an empty
    category and overflowed `byte_pos += 1` at byte 65535): reading a byte at the end of the range is
    `Err(SectionOverrun)`, without any provider call. -/
theorem read_byte_overflow_fixed :
    (findString .checked ⟨imgReadByte, 4⟩ 16 2).1 = .err .overrun ∧
    (findString .wrapping ⟨imgReadByte, 4⟩ 16 2).1 = .err .overrun ∧
    (Range.readByte .checked ⟨imgReadByte, 4⟩ ⟨65534, 65534⟩) = (.err .overrun, 0) := by decide +kernel

/-- 128 header bytes, then a first category of type 2 (not searched for) with length word 0xFFFE. -/
def imgWrapToSelf (a : Nat) : Nat := if a = 128 then 2 else if a = 130 then 254 else if a = 131 then 255 else 0

/-- Repaired in /repo (before: the wrapping walk returned to the header it had just read,
    for ever): `0x42 + 0xFFFE` no longer wraps, the search ends with `Err(SectionOverrun)` after one provider
    call in both build modes. -/
theorem category_wrap_hang_fixed :
    Eeprom.category .wrapping ⟨imgWrapToSelf, 4⟩ 30 = (.err .overrun, 1) ∧
    Eeprom.category .checked ⟨imgWrapToSelf, 4⟩ 30 = (.err .overrun, 1) := by decide +kernel

/-- A small well-formed image: General category (18 bytes, order string 1) and an End marker. -/
def imgOk (a : Nat) : Nat :=
  if a = 128 then 30 else if a = 130 then 9 else if a = 134 then 1 else if a = 150 then 255 else if a = 151 then 255 else 0

set_option maxRecDepth 100000 in
example : (Eeprom.category .checked ⟨imgOk, 4⟩ 30).1 = .ok (some ⟨132, 150⟩) := by decide +kernel

set_option maxRecDepth 100000 in
example : (Eeprom.category .checked ⟨imgOk, 4⟩ 41).1 = .ok none := by decide +kernel

set_option maxRecDepth 100000 in
example : (Query.run .wrapping ⟨imgOk, 8⟩ .syncManagers).1 = .ok () := by decide +kernel

end Ec.C13
