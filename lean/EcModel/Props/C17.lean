/-
  C17 — topology and propagation delays are reconstructed correctly from port timestamps.
  Property theorems only; helper lemmas live in EcModel/Lemmas/DcBasic.lean, DcTree.lean and
  DcChain.lean.

  Model: EcModel/Dc.lean (hand translation of src/dc.rs, src/subdevice/ports.rs,
  `SubDevice::is_child_of`). Physical specification: EcModel/DcSpec.lean (`Tree`, `visit`,
  `arrivals`, `trueParents`, `trueDownstream`; predicates `NoJunction`, `NoWrap`, `AllDc`,
  `Symmetric`). All theorems hold for both build modes (`m : Mode`) unless stated.

  KNOWN FINDINGS — clauses that are false of the unchanged code, each with a `_partial` theorem
  whose hypothesis excludes the class, and a `_counterexample`:
   * 32-bit wrap between the port latches of one device (c17/port-time-wrap): both tree theorems
     need `NoWrap` (a hypothesis on the clocks, not on the shape of the tree);
     `port_time_wrap_counterexample`.
   * a DC device behind a device without DC (c17/chain-delay-nondc-gap): `chain_delay_exact_partial`
     needs `DcContig`; `chain_delay_exact_counterexample`.
  FIXED (was c17/nested-junction-wrong-parent): after a `LineEnd` the parent search takes the
  nearest earlier junction that HAS A FREE DOWNSTREAM PORT (`Ports::has_free_downstream_port`);
  before fix ce264667 it took the nearest junction even when full, and the device landed on that
  junction's own entry port. `parent_is_true_parent` is the full statement over EVERY tree of the
  specification (any nesting of chains, forks and crosses); the trees on which the unrepaired
  search went wrong (all outside `NoNestedJunction`) are in `parent_is_true_parent_fixed`.
  FIXED (were c17/inconsistent-panic-topology, c17/inconsistent-panic-nofree, c17/nested-junction-panic):
  a DL status without any open port is rejected up front and a junction without a free port gives
  `Err(Error::Topology)`; `inconsistent_is_error` is the full statement (no hypothesis on the
  reports beyond their types); the reports that made the unrepaired code panic are in
  `inconsistent_reports_rejected`.
  FIXED (was c17/offset-i64-overflow): the offset is computed with `wrapping_sub`; `offset_value`
  holds for every pair of 64-bit values in both build modes (`offset_former_witnesses`).
  Configuration note: the model follows the build used by the harness (no `log`/`defmt` feature),
  in which `fmt::debug!` arguments are evaluated; see the header of EcModel/Dc.lean.
-/
import EcModel.Lemmas.DcChain

namespace Ec.C17
open Ec Ec.Dc Ec.DcSpec

/-- `Port::index()` is the inverse of the numbering of `Ports::new`: its `unreachable!` arm is dead
    for every port the crate can construct. -/
theorem port_index_total : ∀ i, i < 4 → portIndex? (portNumber i) = some i := by decide +kernel

theorem generated_facts :
    Gen.Dc.portNumbers = [0, 3, 1, 2] ∧
    Gen.Dc.topologyArms = [(1, "LineEnd"), (2, "Passthrough"), (3, "Fork"), (4, "Cross")] ∧
    Gen.Dc.junctionKinds = ["Fork", "Cross"] ∧
    Gen.Dc.REG_DcSystemTimeOffset = 0x0920 ∧ Gen.Dc.REG_DcSystemTimeTransmissionDelay = 0x0928 ∧
    Gen.Dc.REG_DcTimePort0 = 0x0900 ∧ Gen.Dc.REG_DcReceiveTime = 0x0918 := by decide +kernel

/-! ### clause 1: programmed delays never decrease in frame-processing order -/

/-- For ANY device reports (no hypothesis on topology, times or DC mix): if
    `assign_parent_relationships` returns, the delays of the DC-capable devices are non-decreasing in
    processing order. -/
theorem delay_monotone (m : Mode) (devs out : List Dev) (h0 : ∀ d ∈ devs, d.delay = 0)
    (h : assignParentRelationships m devs = .ok out) :
    List.Pairwise (fun a b => a.dc = true → b.dc = true → a.delay ≤ b.delay) out :=
  List.pairwise_map.1 <| assignLoop_mono m devs [] 0 out List.Pairwise.nil (fun _ h => by cases h) (by decide) h0
    (assign_ok_loop m devs out h)

theorem delay_monotone_reports (m : Mode) (rs : List Report) (out : List Dev)
    (h : assignParentRelationships m (mkDevs rs) = .ok out ∨ assignParentRelationships m (latch rs) = .ok out) :
    List.Pairwise (fun a b => a.dc = true → b.dc = true → a.delay ≤ b.delay) out := by
  rcases h with h | h
  · exact delay_monotone m _ out (mkDevsFrom_forall (P := fun d => d.delay = 0) (fun _ _ _ => rfl) 0) h
  · exact delay_monotone m _ out (mkDevsFrom_forall (fun i r _ => by unfold latchOne; split <;> rfl) 0) h

/-! ### clause 2: exact on pure chains -/

/-- What the loop computes on ANY chain-shaped device list, DC or not, symmetric or not: each DC
    device adds `⌊(loop time of its upstream neighbour − its own loop time) / 2⌋`, saturating at
    `u32::MAX`; a device without DC contributes nothing and presents loop time 0 to its downstream
    neighbour. (On a physical chain the difference is `pd(up) + 2·link + ret(this)`, so the error
    against the true delay `pd(up) + link` is `⌊(ret(this) − pd(up)) / 2⌋` per hop: the rounding the
    property allows, made explicit.) -/
theorem chain_delay_formula (m : Mode) (d0 : Dev) (rest : List Dev)
    (hidx : Indexed 0 (d0 :: rest)) (hchain : ChainDevs (d0 :: rest)) :
    ∃ out, assignParentRelationships m (d0 :: rest) = .ok out ∧
      out.map (·.delay) = d0.delay :: chainFold d0.prop 0 rest := by
  have hgood := chainDevs_all d0 rest hchain
  rw [assign_eq, if_pos fun d hd => (hgood d hd).1.1, assignLoop_cons]
  simp only [findParent_nil, andThen, assignStep,
    devStep_first m { d0 with parent := none } [] 0 (hgood d0 (List.mem_cons_self ..)).1 rfl]
  rcases chain_loop m rest [] { d0 with parent := none } 0 ⟨hidx.1, trivial⟩ (by simpa using hidx.2)
    (chainDevs_ports d0 _ rest rfl hchain) with ⟨out, ho, hd⟩
  exact ⟨out, ho, by simpa [Dev.prop] using hd⟩

/-- Pure chain (`NoJunction`; any of the ports 3/1/2 may carry the line) whose DC-capable devices are
    contiguous in frame order (`DcContig`: devices without DC only before the first / after the last
    DC device), forward delay of every device equal to the return delay of its downstream neighbour
    (`Symmetric`), no 32-bit wrap inside a DC device: the run succeeds and the delay programmed into
    every DC device equals its arrival time minus the arrival time of the FIRST DC device — the true
    one-way delay from the reference clock; devices without DC keep delay 0 (`chainTruth`). -/
theorem chain_delay_exact_partial (m : Mode) (T : Tree) (tin : Nat) (h : T.isNode = true)
    (hchain : NoJunction T) (hdc : DcContig T 0) (hsym : Symmetric T) (hw : NoWrap T tin) :
    ∃ out, assignParentRelationships m (mkDevs (visit T 0 tin).1) = .ok out ∧
      out.map (·.delay) = chainTruth T none tin := by
  cases T with
  | none => cases h
  | node p c3 c1 c2 =>
    have hv := chain_truth (.node p c3 c1 c2) hchain hsym 0 0 tin 0 0 none hdc hw
      ⟨fun _ => ⟨rfl, rfl, rfl⟩, fun h => by cases h⟩
    have hdevs := devsOf_chain (.node p c3 c1 c2) hchain 0 tin hw
    have hidx : Indexed 0 (devsOf (.node p c3 c1 c2) 0 tin) := mkDevsFrom_indexed _ (fun _ _ => rfl) _ _
    show ∃ out, assignParentRelationships m (devsOf (.node p c3 c1 c2) 0 tin) = .ok out ∧ _
    rw [devsOf_node] at hv hdevs hidx ⊢
    rcases chain_delay_formula m _ _ hidx hdevs with ⟨out, ho, hd⟩
    refine ⟨out, ho, ?_⟩
    rw [hd, ← hv, chainFold_cons, rootDev_delay]
    -- the first device: both sides are 0 and hand on the same accumulator
    unfold chainDelay chainAcc
    split <;> simp [rootDev_delay]

/-- The all-DC special case in terms of `arrivals`: delay `i` = `arrival i − arrival 0`. -/
theorem chain_delay_exact_all_dc (m : Mode) (T : Tree) (tin : Nat) (h : T.isNode = true)
    (hchain : NoJunction T) (hdc : AllDc T) (hsym : Symmetric T) (hw : NoWrap T tin)
    (hfit : (visit T 0 tin).2 - tin ≤ U32_MAX) :
    ∃ out, assignParentRelationships m (mkDevs (visit T 0 tin).1) = .ok out ∧
      out.map (·.delay) = (arrivals T tin).1.map (fun a => a - tin) := by
  obtain ⟨out, ho, hd⟩ :=
    chain_delay_exact_partial m T tin h hchain (allDc_contig T hdc 0 (.inl rfl)) hsym hw
  refine ⟨out, ho, ?_⟩
  rw [hd, ← chainTruth_allDc T hdc tin tin]
  cases T with
  | none => rfl
  | node p c3 c1 c2 => simp only [chainTruth, hdc.1, if_false, Option.getD_none, Option.getD_some]

/-- Witness of c17/chain-delay-nondc-gap: chain DC, non-DC, DC (delays 40 ns, links 100 ns). -/
def wGap : Tree :=
  .node ⟨2, 7, 40, 40, 100⟩ (.node ⟨0, 7, 40, 40, 100⟩ (.node ⟨2, 7, 40, 40, 100⟩ .none .none .none) .none .none) .none .none

/-- Known finding c17/chain-delay-nondc-gap: the third device is programmed with delay 0 although
    the frame reaches it 280 ns after the first (`DcContig` fails, everything else holds). -/
theorem chain_delay_exact_counterexample :
    (match assignParentRelationships .checked (mkDevs (visit wGap 0 1000).1) with
      | .ok out => out.map (·.delay)
      | _ => []) = [0, 0, 0] ∧
    (arrivals wGap 1000).1.map (fun a => a - 1000) = [0, 140, 280] ∧ chainTruth wGap none 1000 = [0, 0, 280] ∧
    NoJunction wGap ∧ Symmetric wGap ∧ NoWrap wGap 1000 ∧ ¬ DcContig wGap 0 := by
  refine ⟨by decide +kernel, by decide +kernel, by decide +kernel, ?_, ?_, ?_, ?_⟩
  · simp [wGap, NoJunction, Tree.isNode]
  · simp [wGap, Symmetric, retDelay, Tree.isNode]
  · decide +kernel
  · simp [wGap, DcContig]

/-! ### clause 3: derived from the true upstream neighbour -/

/-- For EVERY tree wired through port 0 — any nesting of chains, forks and crosses, of any size and
    depth — with any link / processing / forwarding delays, any clock offsets, any mix of DC support
    (no 32-bit wrap inside a DC device, see c17/port-time-wrap): `assign_parent_relationships`
    succeeds, the parent of every device is its physical upstream neighbour, and the downstream
    neighbour recorded on each port is the device physically plugged into it.

    Proof (Lemmas/DcTree `process_node`): induction over the tree in frame order. `Processes T` says:
    once the root of subtree `T` has been appended to ANY processed prefix, running the loop over T's
    descendants yields exactly T's wiring and leaves the prefix untouched. While a device's branches
    are processed one after the other, everything after it in the list is the result of COMPLETED
    subtrees (`done_expected`, any shape): no junction among them has a free downstream port, and the
    last device is a line end; the device itself still has a free downstream port while a later
    branch is to come (`firstFree_hasFree`). So the junctions with a free downstream port are exactly
    the ancestors of the next attachment point, the nearest one is found, and its first free port in
    the order 3, 1, 2 is the physical one. -/
theorem parent_is_true_parent (m : Mode) (T : Tree) (tin : Nat) (h : T.isNode = true)
    (hw : NoWrap T tin) :
    ∃ out, assignParentRelationships m (mkDevs (visit T 0 tin).1) = .ok out ∧
      out.map (·.parent) = trueParents T 0 none ∧
      out.map Dev.downByNumber = trueDownstream T 0 := by
  have hgood := devsOf_good T 0 tin hw
  obtain ⟨out, ho, hs⟩ : ∃ out, assignParentRelationships m (devsOf T 0 tin) = .ok out ∧
      out.map Dev.shape = expected T 0 none := by
    rw [assign_eq, if_pos fun d hd => (hgood d hd).1.1]
    exact assignLoop_of_topo m (devsOf T 0 tin) [] 0 (expected T 0 none) (fun _ h => by cases h) hgood
      (by rw [devsOf_shape]; exact topoLoop_tree T h)
  refine ⟨out, ho, ?_, ?_⟩
  · rw [← expected_parents T 0 none, ← hs, List.map_map]; rfl
  · rw [← expected_down T 0 none, ← hs, List.map_map]; rfl

def wLeaf : Tree := .node ⟨2, 1000, 40, 40, 100⟩ .none .none .none
def wY : Tree := .node ⟨2, 1000, 40, 40, 100⟩ wLeaf wLeaf .none
/-- Cross A with A.p3 → fork Y → line ends Y1, Y2 and A.p1 → Z. -/
def wT5 : Tree := .node ⟨2, 1000, 40, 40, 100⟩ wY wLeaf .none
/-- ... and A.p2 → W. -/
def wT6 : Tree := .node ⟨2, 1000, 40, 40, 100⟩ wY wLeaf wLeaf

/-- The witnesses of c17/nested-junction-wrong-parent (before fix ce264667 Z, position 4, was given
    parent 1 = Y on Y's own entry port although it hangs off A, position 0; with W the valid tree
    was rejected with `Err(Topology)`, earlier a panic): the model of the repaired code returns the
    physical parents and ports. Both trees have a junction inside a non-last branch of another
    junction (`NoNestedJunction` fails), the class on which the unrepaired search went wrong. -/
theorem parent_is_true_parent_fixed :
    (match assignParentRelationships .checked (mkDevs (visit wT5 0 1000).1) with
      | .ok out => out.map (·.parent)
      | _ => []) = [none, some 0, some 1, some 1, some 0] ∧
    trueParents wT5 0 none = [none, some 0, some 1, some 1, some 0] ∧
    (match assignParentRelationships .checked (mkDevs (visit wT6 0 1000).1) with
      | .ok out => (out.map (·.parent), out.map Dev.downByNumber)
      | _ => ([], [])) = (trueParents wT6 0 none, trueDownstream wT6 0) ∧
    trueParents wT6 0 none = [none, some 0, some 1, some 1, some 0, some 0] ∧
    NoWrap wT5 1000 ∧ NoWrap wT6 1000 ∧ ¬ NoNestedJunction wT5 ∧ ¬ NoNestedJunction wT6 := by
  refine ⟨by decide +kernel, by decide +kernel, by decide +kernel, by decide +kernel, ?_, ?_, ?_, ?_⟩
  · decide +kernel
  · decide +kernel
  · simp [wT5, wY, wLeaf, NoNestedJunction, NoJunction, Tree.isNode]
  · simp [wT6, wY, wLeaf, NoNestedJunction, NoJunction, Tree.isNode]

/-- A two-device chain whose first device latches 0xFFFFFFF0 at port 0, so its port 3 latch wraps. -/
def wWrap : Tree :=
  .node ⟨2, 4294966280, 40, 40, 100⟩ (.node ⟨2, 4294966280, 40, 40, 100⟩ .none .none .none) .none .none

/-- Known finding c17/port-time-wrap: the second device is recorded on port 0 of the first. -/
theorem port_time_wrap_counterexample :
    (match assignParentRelationships .checked (mkDevs (visit wWrap 0 1000).1) with
      | .ok out => out.map Dev.downByNumber
      | _ => []) = [(some 1, none, none, none), (none, none, none, none)] ∧
    trueDownstream wWrap 0 = [(none, none, none, some 1), (none, none, none, none)] ∧
    ¬ NoWrap wWrap 1000 := by
  decide +kernel

/-! ### clause 4: offset = master time − latched receive time -/

/-- Every build mode, every 64-bit receive time and master time: the value written to 0x0920 is
    `now − receive time` as a two's-complement 64-bit number; the computation cannot fail. -/
theorem offset_value (m : Mode) (rx now : Nat) (h1 : rx < U64) (h2 : now < U64) :
    offsetI64 m rx now = .ok ((now + U64 - rx) % U64) :=
  offsetI64_value m rx now h1

/-- `configure_dc`, either build mode: if it returns a value, then — in frame order, for exactly the
    DC-capable devices — it has written `now − receive time` (64-bit two's complement, little
    endian) to 0x0920 and the programmed delay to 0x0928 of that device's station address, where the
    receive time is the one latched from register 0x0918 of that device. -/
theorem offset_formula (m : Mode) (now : Nat) (rs : List Report) (ws : List Write) (ref : Option Nat)
    (devs : List Dev) (hnow : now < U64) (hrx : ∀ r ∈ rs, r.rx < U64)
    (h : configureDc m now rs = (ws, .ok (ref, devs))) (hdc : ref ≠ none) :
    ws = (devs.filter (fun d => d.dc)).flatMap (dcWrites now (rs.map (·.addr))) ∧
    devs.map Dev.idk = (latch rs).map Dev.idk := by
  obtain ⟨ha, -, hw⟩ := configureDc_ok h
  have hidk := assign_idk m _ devs ha
  rw [writeLoop_ok m now _ devs (latch_rx rs hrx devs hidk)] at hw
  exact ⟨(congrArg Prod.fst (hw hdc)).symm, hidk⟩

/-- The witnesses of c17/offset-i64-overflow (panics in checked builds before fix 9a668b37) give
    the two's-complement difference in both build modes. -/
theorem offset_former_witnesses (m : Mode) :
    offsetI64 m 9223372036854775808 5 = .ok 9223372036854775813 ∧
    offsetI64 m 9223372036854775809 9223372036854775807 = .ok 18446744073709551614 :=
  ⟨rfl, rfl⟩

/-! ### clause 5: the first DC-capable device becomes the reference -/

/-- `configure_dc` returns (and `init` stores) the first device, in frame order, whose support flags
    announce DC; `none` iff there is none. -/
theorem first_dc_is_reference (m : Mode) (now : Nat) (rs : List Report) (ws : List Write) (ref : Option Nat)
    (devs : List Dev) (h : configureDc m now rs = (ws, .ok (ref, devs))) :
    ref = firstDcFrom 0 rs := by
  obtain ⟨ha, rfl, -⟩ := configureDc_ok h
  exact first_dc latchOne latchOne_fields rs 0 devs (assign_idk m _ devs ha)

/-! ### clause 6: inconsistent reports produce an error, not a panic -/

/-- ARBITRARY reports — any DL status including "no port open", any `u32` receive times, any DC
    mix, any number of devices: `assign_parent_relationships` returns a value or an error, it never
    panics, in either build mode. (`Ports::topology()`'s `unreachable!`, `entry_port()`'s unwrap, the
    parent lookup, `"Parent assigned port"` and the `u32` sum are all unreachable.) -/
theorem inconsistent_is_error (m : Mode) (rs : List Report) (w : String)
    (htimes : ∀ r ∈ rs, r.t0 < U32 ∧ r.t1 < U32 ∧ r.t2 < U32 ∧ r.t3 < U32) :
    assignParentRelationships m (mkDevs rs) ≠ .panic w :=
  assign_no_panic m (mkDevs rs) w <| mkDevsFrom_forall (b := 0) fun _ r hr =>
    ⟨(htimes r hr).1, (htimes r hr).2.2.2, (htimes r hr).2.1, (htimes r hr).2.2.1⟩

/-- The whole of `configure_dc` (latch, topology, delays, offset and delay writes), either build
    mode, ARBITRARY reports and 64-bit clock values: never a panic. -/
theorem inconsistent_is_error_configure_dc (m : Mode) (now : Nat) (rs : List Report) (ws : List Write) (w : String)
    (htimes : ∀ r ∈ rs, r.t0 < U32 ∧ r.t1 < U32 ∧ r.t2 < U32 ∧ r.t3 < U32)
    (hnow : now < U64) (hrx : ∀ r ∈ rs, r.rx < U64) :
    configureDc m now rs ≠ (ws, .panic w) :=
  configureDc_no_panic m now rs ws w htimes hrx

/-- ... and for every valid tree of any shape (no wrap) there is no panic and no error at all
    (restating `parent_is_true_parent`). -/
theorem valid_tree_no_panic (m : Mode) (T : Tree) (tin : Nat) (h : T.isNode = true)
    (hw : NoWrap T tin) :
    ∃ out, assignParentRelationships m (mkDevs (visit T 0 tin).1) = .ok out := by
  obtain ⟨out, ho, -⟩ := parent_is_true_parent m T tin h hw
  exact ⟨out, ho⟩

/-- The witnesses of c17/inconsistent-panic-topology (a device reporting no open port, as a DC
    device or in front of another device) and c17/inconsistent-panic-nofree (a fork followed by four
    line ends), panics before fix d65c78d2, are rejected with `Err(Topology)`. -/
theorem inconsistent_reports_rejected (m : Mode) :
    assignParentRelationships m (mkDevs [⟨4096, false, false, false, false, true, 0, 0, 0, 0, 0⟩])
      = .err .topology ∧
    assignParentRelationships m
      (mkDevs [⟨4096, false, false, false, false, false, 0, 0, 0, 0, 0⟩, ⟨4097, true, false, false, false, true, 100, 0, 0, 0, 100⟩])
      = .err .topology ∧
    assignParentRelationships m (mkDevs [⟨0, true, true, false, true, true, 100, 900, 0, 500, 100⟩,
      ⟨0, true, false, false, false, true, 100, 0, 0, 0, 100⟩, ⟨0, true, false, false, false, true, 100, 0, 0, 0, 100⟩,
      ⟨0, true, false, false, false, true, 100, 0, 0, 0, 100⟩, ⟨0, true, false, false, false, true, 100, 0, 0, 0, 100⟩])
      = .err .topology := by
  cases m <;> refine ⟨by decide +kernel, by decide +kernel, by decide +kernel⟩

def eLeaf : Tree := .node ⟨2, 5, 40, 40, 100⟩ .none .none .none
/-- A coupler with a non-DC terminal line on port 3 and a further coupler (two terminals) on its
    last port, mixed DC. -/
def eFork : Tree :=
  .node ⟨2, 123456, 40, 40, 0⟩ (.node ⟨0, 9, 35, 45, 150⟩ eLeaf .none .none)
    (.node ⟨3, 77, 50, 50, 200⟩ eLeaf eLeaf .none) .none

/-- `eFork` satisfies every hypothesis of `parent_is_true_parent`, and the result is the wiring. -/
example : eFork.isNode = true ∧ NoWrap eFork 1000 ∧
    (match assignParentRelationships .checked (mkDevs (visit eFork 0 1000).1) with
      | .ok out => out.map (·.parent)
      | _ => []) = [none, some 0, some 1, some 0, some 3, some 3] := by
  decide +kernel

/-- Junctions nested three deep, each inside a NON-last branch of the next: cross A; A.p3 → fork B;
    B.p3 → fork C (on ports 3 and 2); C.p3 → leaf, C.p2 → leaf; B.p1 → leaf; A.p1 → passthrough →
    leaf; A.p2 → leaf. Mixed DC. -/
def eDeep : Tree :=
  .node ⟨2, 123456, 40, 40, 0⟩
    (.node ⟨3, 77, 50, 50, 200⟩ (.node ⟨2, 5, 40, 40, 100⟩ eLeaf .none eLeaf) eLeaf .none)
    (.node ⟨0, 9, 35, 45, 150⟩ .none eLeaf .none)
    eLeaf

/-- `eDeep` satisfies every hypothesis of `parent_is_true_parent` (and lies outside
    `NoNestedJunction`); parents and ports are the wiring. -/
example : eDeep.isNode = true ∧ NoWrap eDeep 1000 ∧ ¬ NoNestedJunction eDeep ∧
    (match assignParentRelationships .checked (mkDevs (visit eDeep 0 1000).1) with
      | .ok out => (out.map (·.parent), out.map Dev.downByNumber)
      | _ => ([], [])) = (trueParents eDeep 0 none, trueDownstream eDeep 0) ∧
    trueParents eDeep 0 none = [none, some 0, some 1, some 2, some 2, some 1, some 0, some 6, some 0] := by
  refine ⟨rfl, ?_, ?_, by decide +kernel, by decide +kernel⟩
  · decide +kernel
  · simp [eDeep, eLeaf, NoNestedJunction, NoJunction, Tree.isNode]

/-- A symmetric chain over mixed ports with a non-DC coupler first and a non-DC terminal last; the
    first DC device sits close to the 32-bit wrap. -/
def eChain : Tree :=
  .node ⟨0, 1, 40, 40, 0⟩
    (.node ⟨2, 4294960000, 40, 40, 300⟩
      (.node ⟨3, 5, 40, 40, 100⟩ .none
        (.node ⟨2, 9, 40, 40, 2000⟩ .none .none (.node ⟨0, 0, 40, 40, 10⟩ .none .none .none)) .none)
      .none .none) .none .none

/-- `eChain` satisfies every hypothesis of `chain_delay_exact_partial`; the delays are as stated. -/
example : eChain.isNode = true ∧ NoJunction eChain ∧ DcContig eChain 0 ∧ Symmetric eChain ∧ NoWrap eChain 1000 ∧
    chainTruth eChain none 1000 = [0, 0, 140, 2180, 0] ∧
    (match assignParentRelationships .checked (mkDevs (visit eChain 0 1000).1) with
      | .ok out => out.map (·.delay)
      | _ => []) = [0, 0, 140, 2180, 0] := by
  refine ⟨rfl, ?_, ?_, ?_, ?_, by decide +kernel, by decide +kernel⟩
  · simp [eChain, NoJunction, Tree.isNode]
  · simp [eChain, DcContig]
  · simp [eChain, Symmetric, retDelay, Tree.isNode]
  · decide +kernel

end Ec.C17
