/-
  C11 — a device that did not answer is never mistaken for one that did.
  The property theorems; the lemmas under them are in EcModel/Lemmas/{WkcLemmas, WkcEepromLemmas, GroupLemmas}.lean.

  Reading guide. `Exchange` is the result of one datagram round trip (`MainDevice::single_pdu`):
  a transport error or the payload + working counter that came back — ANY payload and counter
  (absent device, device that dropped out, hostile wire). The composite paths run against a list
  of such events, one per datagram in the order the code sends them.
-/
import EcModel.Lemmas.WkcEepromLemmas
import EcModel.Generated.WkcEeprom
import EcModel.Props.C10

namespace Ec.C11
open Ec Ec.Wkc

/-- `WrappedRead::new` / `WrappedWrite::new` expect one responder; `with_wkc(k)` expects `k`;
    `ignore_wkc()` expects nothing. (The literal `1` is re-read from the sources on every run.) -/
theorem default_expected_is_one :
    WrappedRead.new.wkc = some 1 ∧ WrappedWrite.new.wkc = some 1 ∧
    (∀ r k, (WrappedRead.withWkc r k).wkc = some k) ∧ (∀ w k, (WrappedWrite.withWkc w k).wkc = some k) ∧
    (∀ r, (WrappedRead.ignoreWkc r).wkc = none) ∧ (∀ w, (WrappedWrite.ignoreWkc w).wkc = none) :=
  ⟨rfl, rfl, fun _ _ => rfl, fun _ _ => rfl, fun _ => rfl, fun _ => rfl⟩

/-- A checked builder method returns `Ok` only if the datagram came back, its working counter
    equals the expected value, and the value is the decoding of exactly that datagram's payload. -/
theorem checked_returns_only_on_match {α : Type} (k : Nat) (ex : Exchange) (unpack : List Nat → Res α) (v : α) :
    (∀ r : WrappedRead, r.wkc = some k → r.receive ex unpack = .ok v →
        ∃ p, ex = .ok p ∧ p.wkc = k ∧ unpack p.data = .ok v) ∧
    (∀ w : WrappedWrite, w.wkc = some k → w.sendReceive ex unpack = .ok v →
        ∃ p, ex = .ok p ∧ p.wkc = k ∧ unpack p.data = .ok v) :=
  ⟨fun _ => receive_ok,
    fun _ hk h => receive_ok hk ((sendReceive_eq_receive ..).symm.trans h)⟩

/-- Same for the slice-returning methods: the returned view is the received datagram itself. -/
theorem checked_slice_returns_only_on_match (k : Nat) (ex : Exchange) (q : Pdu) :
    (∀ r : WrappedRead, r.wkc = some k → r.receiveSlice ex = .ok q → ex = .ok q ∧ q.wkc = k) ∧
    (∀ w : WrappedWrite, w.wkc = some k → w.sendReceiveSlice ex = .ok q → ex = .ok q ∧ q.wkc = k) :=
  ⟨fun _ => receiveSlice_ok,
    fun _ hk h => receiveSlice_ok hk ((sendReceiveSlice_eq_receiveSlice ..).symm.trans h)⟩

/-- When the counter differs the result is `Err(WorkingCounter { expected, received })` with
    exactly the two counts — for all four checked methods, whatever the payload decodes to. -/
theorem mismatch_error_carries_counts {α : Type} (k : Nat) (p : Pdu) (unpack : List Nat → Res α) (h : p.wkc ≠ k) :
    (∀ r : WrappedRead, r.wkc = some k →
        r.receive (.ok p) unpack = .error (.workingCounter k p.wkc) ∧
        r.receiveSlice (.ok p) = .error (.workingCounter k p.wkc)) ∧
    (∀ w : WrappedWrite, w.wkc = some k →
        w.sendReceive (.ok p) unpack = .error (.workingCounter k p.wkc) ∧
        w.sendReceiveSlice (.ok p) = .error (.workingCounter k p.wkc)) :=
  ⟨fun _ hk => ⟨receive_mismatch hk h, receiveSlice_mismatch hk h⟩,
    fun _ hk => ⟨(sendReceive_eq_receive ..).trans (receive_mismatch hk h),
      (sendReceiveSlice_eq_receiveSlice ..).trans (receiveSlice_mismatch hk h)⟩⟩

/-- A matching counter never produces a working-counter error: the value is the decoded payload. -/
theorem match_is_accepted {α : Type} (k : Nat) (p : Pdu) (unpack : List Nat → Res α) (h : p.wkc = k) :
    (∀ r : WrappedRead, r.wkc = some k → r.receive (.ok p) unpack = unpack p.data ∧ r.receiveSlice (.ok p) = .ok p) ∧
    (∀ w : WrappedWrite, w.wkc = some k → w.sendReceive (.ok p) unpack = unpack p.data ∧ w.sendReceiveSlice (.ok p) = .ok p) :=
  ⟨fun _ hk => ⟨receive_match hk h, receiveSlice_match hk h⟩,
    fun _ hk => ⟨(sendReceive_eq_receive ..).trans (receive_match hk h),
      (sendReceiveSlice_eq_receiveSlice ..).trans (receiveSlice_match hk h)⟩⟩

/-- A datagram that did not come back is an error for every method, the exempt ones included:
    no method invents a value. -/
theorem transport_error_passes_through {α : Type} (e : Err) (unpack : List Nat → Res α) (r : WrappedRead) (w : WrappedWrite) :
    r.receive (.error e) unpack = .error e ∧ r.receiveSlice (.error e) = .error e ∧
    r.receiveWkc (.error e) = .error e ∧ w.send (.error e) = .error e ∧
    w.sendReceive (.error e) unpack = .error e ∧ w.sendReceiveSlice (.error e) = .error e :=
  ⟨rfl, rfl, rfl, rfl, rfl, rfl⟩

/-- The two documented exemptions, stated as what they do: `send` accepts any counter (and hands
    nothing back), `receive_wkc` hands the counter itself to the caller; `ignore_wkc()` accepts
    any counter. -/
theorem exemptions_as_coded (p : Pdu) (w : WrappedWrite) (r : WrappedRead) :
    w.send (.ok p) = .ok () ∧ r.receiveWkc (.ok p) = .ok p.wkc ∧
    r.ignoreWkc.receiveSlice (.ok p) = .ok p ∧ w.ignoreWkc.sendReceiveSlice (.ok p) = .ok p :=
  ⟨rfl, rfl, rfl, rfl⟩

/-- `register_read` / `register_write`: the value is the payload of the one datagram, which came
    back with working counter 1. -/
theorem register_access_checked (n : Nat) (tr rest : List Ev) (v : List Nat) :
    (registerRead n tr = (.ok v, rest) → ∃ p, tr = .resp p :: rest ∧ p.wkc = 1 ∧ unpackBytes n p.data = .ok v) ∧
    (registerWrite n tr = (.ok v, rest) → ∃ p, tr = .resp p :: rest ∧ p.wkc = 1 ∧ unpackBytes n p.data = .ok v) := by
  constructor <;> intro h
  · match tr, h with
    | e :: t, h =>
      cases (Prod.mk.inj h).2
      obtain ⟨p, rfl, hw⟩ := receive_exch_ok (Prod.mk.inj h).1
      exact ⟨p, rfl, hw⟩
  · match tr, h with
    | e :: t, h =>
      cases (Prod.mk.inj h).2
      obtain ⟨p, rfl, hw⟩ := sendReceive_exch_ok (Prod.mk.inj h).1
      exact ⟨p, rfl, hw⟩

theorem statusThird_ne_ok (l : List Ev) (v : Nat × Nat) (r : List Ev) : statusThird l ≠ (.ok v, r) := by
  fun_cases statusThird l <;> nofun

/-- `SubDeviceRef::status`: both registers were read with working counter 1 and the pair is their
    decoding (state nibble without error bit, status code). -/
theorem status_checked (tr rest : List Ev) (s c : Nat) (h : status tr = (.ok (s, c), rest)) :
    ∃ p1 p2, tr = .resp p1 :: .resp p2 :: rest ∧ p1.wkc = 1 ∧ p2.wkc = 1 ∧
      unpackAlControl p1.data = .ok ⟨s, false⟩ ∧ unpackCode p2.data = .ok c := by
  revert h
  fun_cases status tr <;> intro h
  case case1 | case2 | case3 | case5 | case7 | case9 => cases h
  case case4 | case6 => exact absurd h (statusThird_ne_ok _ _ _)
  case case8 ctl h1 herr code h2 =>
    obtain ⟨p1, rfl, hw1, hu1⟩ := receive_exch_ok h1
    obtain ⟨p2, rfl, hw2, hu2⟩ := receive_exch_ok h2
    cases h
    exact ⟨p1, p2, rfl, hw1, hw2, by rw [hu1, ← Bool.eq_false_iff.2 herr], hu2⟩

/-- `request_subdevice_state_nowait`: success means the AL control write was acknowledged by
    exactly one device (working counter 1) and the read-back carried no error bit. -/
theorem state_request_checked (tr rest : List Ev) (h : requestNowait tr = (.ok (), rest)) :
    ∃ p c, tr = .resp p :: rest ∧ p.wkc = 1 ∧ unpackAlControl p.data = .ok c ∧ c.error = false := by
  obtain ⟨q, hq, _, hok⟩ := Group.requestNowaitL_spec (rfl : Group.requestNowaitL 0 0 tr = _)
  have heq := (Group.requestNowaitL_eq 0 0 tr).trans h
  obtain ⟨p, c, rfl, hw, hu, he, _⟩ := hok (congrArg Prod.fst heq)
  exact ⟨p, c, hq.trans (congrArg _ (congrArg Prod.snd heq)), hw, hu, he⟩

/-- EEPROM `read_chunk`: the bytes returned are the payload of a data-register read that came back
    with working counter 1, and it was preceded by SII status polls that ALL came back with working
    counter 1, the last of them showing "not busy". The only exchange whose counter was not looked
    at is the first one (`e0`, the fire-and-forget write of the read command — documented exempt). -/
theorem eeprom_read_checked (tr rest : List Ev) (d : List Nat) (h : readChunk tr = (.ok d, rest)) :
    ∃ (e0 : Ev) (polls : List Pdu) (ps pd : Pdu),
      tr = e0 :: (polls.map Ev.resp ++ .resp ps :: .resp pd :: rest) ∧
      (∀ q ∈ polls, q.wkc = 1) ∧ ps.wkc = 1 ∧ pd.wkc = 1 ∧ d = pd.data := by
  obtain ⟨⟨cmd, polls, ps, pd⟩, rfl, ⟨hpolls, hps, hpd⟩, rfl⟩ := readChunk_ok_seg h
  exact ⟨.resp cmd, polls, ps, pd, by simp [ChunkSeg.events], hpolls, hps, hpd, rfl⟩

/-- EEPROM `write_word`: `Ok` rests on a checked SII status poll — the acknowledgement that the
    interface is no longer busy came back with working counter 1 — after the (fire-and-forget,
    documented exempt) data and command writes. -/
theorem eeprom_write_checked (tr rest : List Ev) (h : writeWord tr = (.ok (), rest)) :
    ∃ (pre : List Ev) (p : Pdu), tr = pre ++ .resp p :: rest ∧ p.wkc = 1 :=
  writeWord_ok_seg h

/-- `clear_errors`: success rests on a status read (and, if errors were flagged, a write-read-back)
    with working counter 1. -/
theorem eeprom_clear_errors_checked (tr rest : List Ev) (h : clearErrors tr = (.ok (), rest)) :
    ∃ p t, tr = .resp p :: t ∧ p.wkc = 1 ∧
      (t = rest ∨ ∃ p2, t = .resp p2 :: rest ∧ p2.wkc = 1) := by
  obtain ⟨c, hc, rfl⟩ := clearErrors_ok_clearOk h
  cases hc with
  | clean p hw _ => exact ⟨p, rest, rfl, hw, Or.inl rfl⟩
  | reset p p2 hw _ hw2 _ => exact ⟨p, .resp p2 :: rest, rfl, hw, Or.inr ⟨p2, rfl, hw2⟩⟩

/-- One CoE mailbox round trip (the exchange under every SDO read/write): the raw response handed
    to the CoE layer is the payload of a mailbox read that came back with working counter 1,
    directly preceded by a "mailbox full" status poll that came back with working counter 1. -/
theorem sdo_checked (tr rest : List Ev) (d : List Nat) (h : mailboxWriteRead tr = (.ok d, rest)) :
    ∃ (pre : List Ev) (pf pd : Pdu), tr = pre ++ .resp pf :: .resp pd :: rest ∧
      pf.wkc = 1 ∧ unpackSmFull pf.data = .ok true ∧ pd.wkc = 1 ∧ d = pd.data := by
  revert h
  fun_cases mailboxWriteRead tr <;> intro h <;> cases h
  rename_i t hclear e t2 _ e4 pd hslice hecho hresp
  obtain ⟨pre0, hpre0⟩ := clearLoop_suffix 10 tr
  rw [hclear] at hpre0
  obtain ⟨pre1, p1, rfl, _⟩ := waitSm_ok hecho
  obtain ⟨pre3, pf, rfl, hwf, huf⟩ := waitSm_ok hresp
  obtain ⟨rfl, hw4⟩ := receiveSlice_exch_ok hslice
  exact ⟨pre0 ++ (pre1 ++ .resp p1 :: e :: pre3), pf, pd, by rw [← hpre0]; simp, hwf, huf, hw4, rfl⟩

/-- `MainDevice::wait_for_state`: success means the last broadcast read came back with working
    counter = number of SubDevices, reported the desired state and no error bit. -/
theorem md_wait_checked (num desired : Nat) (tr rest : List Ev) (h : mdWaitForState num desired tr = (.ok (), rest)) :
    ∃ (pre : List Ev) (p : Pdu), tr = pre ++ .resp p :: rest ∧ p.wkc = num ∧
      unpackAlControl p.data = .ok ⟨desired, false⟩ :=
  C10.md_wait_ok_implies_reported num desired tr rest h

/-- No response in the trace carries working counter 1 (the addressed device is absent / dropped
    out / the wire changed every counter). -/
def NoneAnswered (tr : List Ev) : Prop := ∀ p, Ev.resp p ∈ tr → p.wkc ≠ 1

/-- Against a device that never answers, none of the data-returning paths reports success —
    whatever payload bytes come back. -/
theorem absent_device_never_ok (tr : List Ev) (hno : NoneAnswered tr) :
    (∀ n v rest, registerRead n tr ≠ (.ok v, rest)) ∧
    (∀ n v rest, registerWrite n tr ≠ (.ok v, rest)) ∧
    (∀ v rest, status tr ≠ (.ok v, rest)) ∧
    (∀ rest, requestNowait tr ≠ (.ok (), rest)) ∧
    (∀ d rest, readChunk tr ≠ (.ok d, rest)) ∧
    (∀ rest, writeWord tr ≠ (.ok (), rest)) ∧
    (∀ rest, clearErrors tr ≠ (.ok (), rest)) ∧
    (∀ d rest, mailboxWriteRead tr ≠ (.ok d, rest)) := by
  refine ⟨?_, ?_, ?_, ?_, ?_, ?_, ?_, ?_⟩
  · intro n v rest h
    obtain ⟨p, rfl, hw, _⟩ := (register_access_checked n tr rest v).1 h
    exact hno p (by simp) hw
  · intro n v rest h
    obtain ⟨p, rfl, hw, _⟩ := (register_access_checked n tr rest v).2 h
    exact hno p (by simp) hw
  · intro v rest h
    obtain ⟨p1, _, rfl, hw, _⟩ := status_checked tr rest v.1 v.2 h
    exact hno p1 (by simp) hw
  · intro rest h
    obtain ⟨p, _, rfl, hw, _⟩ := state_request_checked tr rest h
    exact hno p (by simp) hw
  · intro d rest h
    obtain ⟨_, _, _, pd, rfl, _, _, hw, _⟩ := eeprom_read_checked tr rest d h
    exact hno pd (by simp) hw
  · intro rest h
    obtain ⟨_, p, rfl, hw⟩ := eeprom_write_checked tr rest h
    exact hno p (by simp) hw
  · intro rest h
    obtain ⟨p, _, rfl, hw, _⟩ := eeprom_clear_errors_checked tr rest h
    exact hno p (by simp) hw
  · intro d rest h
    obtain ⟨_, _, pd, rfl, _, _, hw, _⟩ := sdo_checked tr rest d h
    exact hno pd (by simp) hw

/-- The request phase of a group transition is checked: a group with at least one member never
    gets its new typestate from devices that do not answer (the first AL control write fails). -/
theorem group_transition_absent (m : Mode) (pduLen desired a : Nat) (members : List Nat) (tr : List Ev)
    (hno : NoneAnswered tr) (rest : List Ev) (sent : List (List Group.Dg)) :
    Group.transitionTo m pduLen desired (a :: members) tr ≠ (.ok (), rest, sent) := by
  intro h
  obtain ⟨t, s1, _, hreq, _⟩ := Group.transitionTo_ok h
  obtain ⟨ps, rfl, hl, hall, _⟩ := C10.requests_acknowledged desired (a :: members) tr t s1 hreq
  match ps, hl with
  | p :: ps, _ => exact hno p List.mem_cons_self (hall p List.mem_cons_self).1

/-- The status polls of a group transition are checked too: a transition that returns Ok ended on
    a round in which every member's status datagram came back with working counter 1 (`Reports`
    includes the counter). -/
theorem group_transition_checked (m : Mode) (pduLen desired : Nat) (members : List Nat) (tr rest : List Ev)
    (sent : List (List Group.Dg)) (hm : m = .checked ∨ Group.CHECK_SIZE ≤ pduLen)
    (h : Group.transitionTo m pduLen desired members tr = (.ok (), rest, sent)) :
    ∃ (pre : List Ev) (ps : List Pdu), tr = pre ++ ps.map Ev.resp ++ rest ∧ ps.length = members.length ∧
      ∀ p ∈ ps, p.wkc = 1 := by
  obtain ⟨pre, ps, h1, h2, h3⟩ := C10.ok_implies_all_reported m pduLen desired members tr rest sent hm h
  exact ⟨pre, ps, h1, h2, fun p hp => (h3 p hp).1⟩

/-- A status poll that was not answered by exactly one device ends `is_state` with
    `WorkingCounter { expected: 1, received }`, whatever its bytes say. -/
theorem group_poll_mismatch_is_error (desired : Nat) (p : Pdu) (ps : List Pdu) (h : p.wkc ≠ 1) :
    Group.checkStates desired (p :: ps) = .error (.workingCounter 1 p.wkc) := by
  simp [Group.checkStates, Pdu.checkWkc, h]

/-- The former witnesses of the gap: a status poll with a foreign counter but bytes saying OP, and a
    member that dropped out after its AL control write (zero payload, counter 0), now both end in the
    working-counter error. -/
theorem group_status_poll_former_witnesses :
    Group.transitionTo .checked 100 8 [0x1000] [.resp ⟨[8, 0], 1⟩, .resp ⟨[8, 0], 2⟩]
      = (.error (.workingCounter 1 2), [], [[.fpwr 0x1000 0x120 8], [.fprd 0x1000 0x130]]) ∧
    Group.transitionTo .checked 100 8 [0x1000] [.resp ⟨[8, 0], 1⟩, .resp ⟨[0, 0], 0⟩]
      = (.error (.workingCounter 1 0), [], [[.fpwr 0x1000 0x120 8], [.fprd 0x1000 0x130]]) := by
  decide +kernel

/-- Reviewed `.ignore_wkc()` call sites. Each one is an exemption the property allows ("callers
    that explicitly opt out"); none of them hands data of an unanswered datagram to the user:
    latch_dc_times / write_dc_parameters / configure_dc_sync (DC set-up, C17/C18), reset_subdevices
    (broadcast resets before the device count is known), wait_for_mailboxes (dummy read that only
    empties a stale mailbox; result discarded), MainDevice::wait_for_state (status-code sweep of
    the error branch, only logged), SubDeviceRef::wait_for_state (crate-private, unused by the
    group paths). -/
def reviewedIgnoreWkc : List (String × String) := [
  ("dc.rs", "latch_dc_times"),
  ("dc.rs", "write_dc_parameters"),
  ("dc.rs", "write_dc_parameters"),
  ("mailbox/coe/mod.rs", "wait_for_mailboxes"),
  ("maindevice.rs", "reset_subdevices"),
  ("maindevice.rs", "reset_subdevices"),
  ("maindevice.rs", "reset_subdevices"),
  ("maindevice.rs", "wait_for_state"),
  ("subdevice/mod.rs", "wait_for_state"),
  ("subdevice_group/mod.rs", "configure_dc_sync")]

/-- Reviewed `WrappedWrite::send` call sites (fire-and-forget write, outside the quantifier). The
    ones inside data-returning paths are followed by a checked exchange with the same device
    (`eeprom_read_checked`, `sdo_checked`): read_chunk, write_word ×2, mailbox_write_read,
    send_sdo_info_service; the rest are configuration writes. -/
def reviewedSend : List (String × String) := [
  ("dc.rs", "latch_dc_times"),
  ("dc.rs", "write_dc_parameters"),
  ("dc.rs", "write_dc_parameters"),
  ("eeprom/device_provider.rs", "read_chunk"),
  ("eeprom/device_provider.rs", "write_word"),
  ("eeprom/device_provider.rs", "write_word"),
  ("mailbox/coe/mod.rs", "mailbox_write_read"),
  ("mailbox/coe/mod.rs", "send_sdo_info_service"),
  ("maindevice.rs", "reset_subdevices"),
  ("maindevice.rs", "reset_subdevices"),
  ("maindevice.rs", "reset_subdevices"),
  ("maindevice.rs", "init"),
  ("subdevice/configuration.rs", "write_sm_config"),
  ("subdevice/configuration.rs", "write_fmmu_config"),
  ("subdevice/mod.rs", "set_eeprom_mode"),
  ("subdevice/mod.rs", "set_eeprom_mode"),
  ("subdevice_group/mod.rs", "configure_dc_sync"),
  ("subdevice_group/mod.rs", "configure_dc_sync"),
  ("subdevice_group/mod.rs", "configure_dc_sync"),
  ("subdevice_group/mod.rs", "configure_dc_sync"),
  ("subdevice_group/mod.rs", "configure_dc_sync")]

/-- `receive_wkc`: the counter IS the value (device count, DC static sync). -/
def reviewedReceiveWkc : List (String × String) := [
  ("dc.rs", "run_dc_static_sync"),
  ("maindevice.rs", "count_subdevices")]

/-- Code that consumes raw `ReceivedPdu`s without the builders: `single_pdu` (wrapped by the
    builders), the `tx_rx*` cycle functions (the summed counter is returned to the caller in
    `TxRxResponse`; C07) and `is_state`, which applies `ReceivedPdu::wkc(1)` to every status
    datagram itself (`reviewedRawPduChecked`). -/
def reviewedRawPdu : List (String × String) := [
  ("maindevice.rs", "single_pdu"),
  ("subdevice_group/mod.rs", "is_state"),
  ("subdevice_group/mod.rs", "tx_rx"),
  ("subdevice_group/mod.rs", "tx_rx_sync_system_time"),
  ("subdevice_group/mod.rs", "tx_rx_dc")]

/-- Raw consumers that check the counter of what they consume. -/
def reviewedRawPduChecked : List (String × String) := [("subdevice_group/mod.rs", "is_state")]

/-- Generated obligation: the opt-out sites found in /repo are exactly the reviewed ones. A new
    `.ignore_wkc()`, a new `.send(`, a new raw consumer or a new `receive_wkc` caller changes the
    regenerated list and this stops checking; so does removing the counter check from `is_state`. -/
theorem exempt_sites :
    Gen.Wkc.ignoreWkcSites = reviewedIgnoreWkc ∧ Gen.Wkc.sendSites = reviewedSend ∧
    Gen.Wkc.receiveWkcSites = reviewedReceiveWkc ∧ Gen.Wkc.rawPduSites = reviewedRawPdu ∧
    Gen.Wkc.rawPduSitesChecked = reviewedRawPduChecked :=
  ⟨rfl, rfl, rfl, rfl, rfl⟩

/-- Reviewed call sites of the provider methods above the provider, with the fate of each result.
    ALL are `.await?`: this is what `readLoop`, `rangeRead`, `categoryLoop`, `writeLoopR` translate
    (`| (.error e, t) => (.error (.base e), t)` at every provider call). -/
def reviewedProviderCalls : List (String × String × String × String) := [
  ("eeprom/mod.rs", "read_byte", "clear_errors", "?"),
  ("eeprom/mod.rs", "read_byte", "read_chunk", "?"),
  ("eeprom/mod.rs", "read", "clear_errors", "?"),
  ("eeprom/mod.rs", "read", "read_chunk", "?"),
  ("eeprom/mod.rs", "write", "write_word", "?"),
  ("subdevice/eeprom.rs", "category", "read_chunk", "?")]

/-- Reviewed calls of `EepromRange::{read, read_exact, read_byte, write_all}` by the SubDevice layer.
    `?` = error ends the caller, `ret` = the result is the caller's result (`eeprom_read_raw`),
    `other` = the two item iterators, which match on the `read_exact` result: `UnexpectedEof` is the
    end of the category (`Ok(None)`), `Other(e)` is returned as `Err(e)` — no error is swallowed. -/
def reviewedRangeCalls : List (String × String × String × String) := [
  ("subdevice/eeprom.rs", "station_alias", "read_exact", "?"),
  ("subdevice/eeprom.rs", "set_station_alias", "read_exact", "?"),
  ("subdevice/eeprom.rs", "set_station_alias", "write_all", "?"),
  ("subdevice/eeprom.rs", "set_station_alias", "write_all", "?"),
  ("subdevice/eeprom.rs", "size", "read_exact", "?"),
  ("subdevice/eeprom.rs", "mailbox_config", "read_exact", "?"),
  ("subdevice/eeprom.rs", "general", "read_exact", "?"),
  ("subdevice/eeprom.rs", "identity", "read_exact", "?"),
  ("subdevice/eeprom.rs", "fmmus", "read", "?"),
  ("subdevice/eeprom.rs", "find_string", "read_byte", "?"),
  ("subdevice/eeprom.rs", "find_string", "read_byte", "?"),
  ("subdevice/eeprom.rs", "find_string", "read_byte", "?"),
  ("subdevice/eeprom.rs", "find_string", "read_exact", "?"),
  ("subdevice/eeprom.rs", "next", "read_exact", "other"),
  ("subdevice/eeprom.rs", "next_sub_item", "read_exact", "other"),
  ("subdevice/mod.rs", "eeprom_read_raw", "read", "ret"),
  ("subdevice/mod.rs", "eeprom_read", "read_exact", "?"),
  ("subdevice/mod.rs", "eeprom_write_dangerously", "write_all", "?")]

/-- Generated obligation: the provider / range call sites found in /repo and what happens to their
    results are exactly the reviewed ones. Turning a `.await?` of the chunk loop into anything else
    (a `match` that breaks out with the bytes read so far, `.ok()`, `unwrap_or`) changes the
    regenerated list and this stops checking. -/
theorem eeprom_error_paths :
    Gen.WkcEeprom.providerCalls = reviewedProviderCalls ∧ Gen.WkcEeprom.rangeCalls = reviewedRangeCalls ∧
    (∀ c ∈ Gen.WkcEeprom.providerCalls, c.2.2.2 = "?") :=
  ⟨rfl, rfl, by decide +kernel⟩

/-- Generated obligation: of the builder methods that go through `common(..)`, exactly `receive`,
    `receive_slice`, `send_receive`, `send_receive_slice` pass the response through
    `maybe_wkc(self.wkc)`; `ReceivedPdu::wkc` compares for equality and reports both counts. -/
theorem checked_methods :
    Gen.Wkc.readMethods = ["receive", "receive_slice", "receive_wkc"] ∧
    Gen.Wkc.readMethodsChecked = ["receive", "receive_slice"] ∧
    Gen.Wkc.writeMethods = ["send", "send_receive", "send_receive_slice"] ∧
    Gen.Wkc.writeMethodsChecked = ["send_receive", "send_receive_slice"] ∧
    Gen.Wkc.wkcCheckShape = true :=
  ⟨rfl, rfl, rfl, rfl, rfl⟩

/-! ### Multi-datagram EEPROM accesses: the paths above the provider

  `EepromRange::read` (one `clear_errors`, then one `read_chunk` per 4/8-byte chunk), `read_exact`,
  `SubDeviceEeprom::fmmus`, `write_all`, and the public `SubDevice::{eeprom_read_raw, eeprom_read,
  eeprom_write_dangerously, set_alias_address}` built on them. The datagrams the property requires to
  be checked on these paths are: every SII status poll (FPRD 0x0502), every data read (FPRD 0x0508)
  and the error-reset write-and-read-back of `clear_errors` (FPWR 0x0502 via `send_receive`). The
  command writes go through `WrappedWrite::send` (documented exempt, `reviewedSend`). -/

theorem eeprom_clear_serviced (c : List Ev) (h : ClearOk c) : ∀ e ∈ c, ∃ p, e = .resp p ∧ p.wkc = 1 := by
  cases h with
  | clean p hw _ => intro e he; simp at he; exact ⟨p, he, hw⟩
  | reset p p2 hw _ hw2 _ =>
    intro e he
    simp at he
    rcases he with rfl | rfl
    · exact ⟨p, rfl, hw⟩
    · exact ⟨p2, rfl, hw2⟩

/-- `EepromRange::read`, for every window, buffer length, start parity, chunk size and trace: if it
    returns `Ok` then (1) it returns as many bytes as were asked for and lie inside the window —
    never fewer; (2) unless the window was empty (no datagram sent), the datagrams it consumed are
    those of a `clear_errors` all of whose datagrams had working counter 1, followed by chunk reads
    in EVERY one of which every status poll and the data read had working counter 1; (3) the bytes
    are gathered from exactly the payloads of those data reads (`gather`: odd start drops a byte,
    last chunk cut), so every byte returned was delivered by a data read that was serviced. -/
theorem eeprom_range_read_checked (pos endp n : Nat) (tr rest : List Ev) (out : List Nat) (pos' : Nat)
    (h : rangeRead pos endp n tr = (.ok (out, pos'), rest)) :
    out.length = min n (endp - pos) ∧
    ((endp - pos = 0 ∧ rest = tr) ∨
     ∃ (clr : List Ev) (segs : List ChunkSeg), ClearOk clr ∧
       tr = clr ++ (segs.flatMap ChunkSeg.events ++ rest) ∧ (∀ s ∈ segs, s.Checked) ∧
       out = gather pos (min n (endp - pos)) (segs.map fun s => s.data.data) ∧
       (∀ b ∈ out, ∃ s ∈ segs, s.data.wkc = 1 ∧ b ∈ s.data.data)) := by
  obtain ⟨hl, h0 | ⟨clr, segs, hc, hshape, hchk, hout⟩⟩ := rangeRead_ok h
  · exact ⟨hl, Or.inl h0⟩
  · refine ⟨hl, Or.inr ⟨clr, segs, hc, hshape, hchk, hout, fun b hb => ?_⟩⟩
    rw [hout] at hb
    obtain ⟨d, hd, hbd⟩ := gather_subset hb
    obtain ⟨s, hs, rfl⟩ := List.mem_map.1 hd
    exact ⟨s, hs, (hchk s hs).2.2, hbd⟩

/-- The window `start_at(word, n)` builds holds the `n` bytes unless it runs into the end of the
    16-bit word address space. -/
theorem eeprom_window (word n : Nat) :
    min n ((startAt word n).2 - (startAt word n).1) = min n (131072 - word * 2) := by
  show min n (min (word * 2 + (n + 1) / 2 * 2) 131072 - word * 2) = _
  rw [← Nat.sub_min_sub_right, Nat.add_sub_cancel_left, ← Nat.min_assoc, Nat.min_eq_left (le_even_up n)]

/-- The public `SubDevice::eeprom_read_raw(word, buf)`: `Ok` only with the whole buffer (as far as
    the address space reaches), every required datagram serviced. -/
theorem eeprom_raw_read_checked (word n : Nat) (tr rest : List Ev) (out : List Nat)
    (h : eeRaw word n 0 n tr = (.ok out, rest)) :
    out.length = min n (131072 - word * 2) ∧
    ((131072 - word * 2 = 0 ∧ rest = tr) ∨ n = 0 ∨
     ∃ (clr : List Ev) (segs : List ChunkSeg), ClearOk clr ∧
       tr = clr ++ (segs.flatMap ChunkSeg.events ++ rest) ∧ (∀ s ∈ segs, s.Checked) ∧
       (∀ b ∈ out, ∃ s ∈ segs, s.data.wkc = 1 ∧ b ∈ s.data.data)) := by
  simp only [eeRaw, if_true] at h
  obtain ⟨pos', h'⟩ := bytesOnly_ok h
  obtain ⟨hl, hrest⟩ := eeprom_range_read_checked _ _ _ _ _ _ _ h'
  rw [eeprom_window] at hl
  refine ⟨hl, ?_⟩
  rcases hrest with ⟨h0, hr⟩ | ⟨clr, segs, hc, hshape, hchk, _, hb⟩
  · by_cases hn : n = 0
    · exact Or.inr (Or.inl hn)
    · have hw := eeprom_window word n
      rw [h0, Nat.min_zero] at hw
      exact Or.inl ⟨(Nat.min_eq_zero_iff.1 hw.symm).resolve_left hn, hr⟩
  · exact Or.inr (Or.inr ⟨clr, segs, hc, hshape, hchk, hb⟩)

/-- `read_exact`-based reads (`SubDevice::eeprom_read::<T>`, identity, alias, size, mailbox
    configuration): `Ok` always carries exactly the `n` bytes of the type … -/
theorem eeprom_typed_read_never_short (word n : Nat) (tr rest : List Ev) (out : List Nat)
    (h : eeTyped word n tr = (.ok out, rest)) : out.length = n :=
  (readExactLoop_ok_length h).trans (Nat.zero_add n)

/-- … and when the window does not hit the end of the address space it is ONE `read`, so
    `eeprom_range_read_checked` applies to it: every required datagram was serviced. -/
theorem eeprom_typed_read_checked (word n : Nat) (tr rest : List Ev) (out : List Nat) (hn : 0 < n)
    (hwin : word * 2 + (n + 1) / 2 * 2 ≤ 131072) (h : eeTyped word n tr = (.ok out, rest)) :
    out.length = n ∧
    ∃ (clr : List Ev) (segs : List ChunkSeg), ClearOk clr ∧
      tr = clr ++ (segs.flatMap ChunkSeg.events ++ rest) ∧ (∀ s ∈ segs, s.Checked) ∧
      (∀ b ∈ out, ∃ s ∈ segs, s.data.wkc = 1 ∧ b ∈ s.data.data) := by
  refine ⟨eeprom_typed_read_never_short _ _ _ _ _ h, ?_⟩
  have hfit : n ≤ (startAt word n).2 - (startAt word n).1 := by
    rw [startAt_of_fits hwin, Nat.add_sub_cancel_left]; exact le_even_up n
  simp only [eeTyped] at h
  rw [readExact_single hn hfit] at h
  obtain ⟨pos', h'⟩ := bytesOnly_ok h
  rcases (eeprom_range_read_checked _ _ _ _ _ _ _ h').2 with ⟨h0, _⟩ | ⟨clr, segs, hc, hshape, hchk, _, hb⟩
  · exact absurd (h0 ▸ hfit) (Nat.not_le.2 hn)
  · exact ⟨clr, segs, hc, hshape, hchk, hb⟩

/-- Fault propagation through `read`, for EVERY number of chunks already copied and EVERY datagram
    position of the failing chunk read: after a serviced `clear_errors` and any sequence of healthy
    chunk reads that leaves the buffer unfilled (`advance … = some (_, want')`, `want' > 0`), a chunk
    read that fails in any of the ways `ChunkFault` lists — a status poll at any position or the data
    read coming back with working counter `r ≠ 1`, or a lost frame, or the EEPROM deadline — makes
    `read` return exactly that error: `WorkingCounter { expected: 1, received: r }` (resp.
    `Timeout(Pdu)` / `Timeout(Eeprom)`), never `Ok` with the bytes copied so far. The same for a
    failing `clear_errors`. -/
theorem eeprom_fault_propagates (pos endp n : Nat) (clr : List Ev) (segs : List ChunkSeg) (pos' want' : Nat)
    (f : List Ev) (e : Err) (t : List Ev) (h0 : endp - pos ≠ 0) (hc : ClearOk clr) (hh : ∀ s ∈ segs, s.Healthy)
    (hadv : advance pos (min n (endp - pos)) (segs.map fun s => s.data.data) = some (pos', want'))
    (hw : 0 < want') (hp : pos' / 2 < 65536) (hf : ChunkFault f e) :
    rangeRead pos endp n (clr ++ (segs.flatMap ChunkSeg.events ++ (f ++ t))) = (.error (.base e), t) ∧
    ((∃ r, r ≠ 1 ∧ e = .workingCounter 1 r) ∨ e = .timeout .pdu ∨ e = .timeout .eeprom) := by
  refine ⟨?_, ?_⟩
  · rw [rangeRead, if_neg h0, clearErrors_of_clearOk hc]
    dsimp only
    rw [readLoop_advance hh hadv, readLoop_step (Nat.ne_of_gt hw) hp, chunkFault_error hf t]
  · cases hf with
    | cmdLost => exact Or.inr (Or.inl rfl)
    | poll _ _ p _ hw' => exact Or.inl ⟨p.wkc, hw', rfl⟩
    | pollLost => exact Or.inr (Or.inl rfl)
    | pollDeadline => exact Or.inr (Or.inr rfl)
    | data _ _ _ p _ _ _ hw' => exact Or.inl ⟨p.wkc, hw', rfl⟩
    | dataLost => exact Or.inr (Or.inl rfl)

theorem eeprom_clear_fault_propagates (pos endp n : Nat) (f : List Ev) (e : Err) (t : List Ev)
    (h0 : endp - pos ≠ 0) (hf : ClearFault f e) :
    rangeRead pos endp n (f ++ t) = (.error (.base e), t) ∧
    ((∃ r, r ≠ 1 ∧ e = .workingCounter 1 r) ∨ e = .timeout .pdu) := by
  refine ⟨by rw [rangeRead, if_neg h0, clearFault_error hf t], ?_⟩
  cases hf with
  | status p hw => exact Or.inl ⟨p.wkc, hw, rfl⟩
  | statusLost => exact Or.inr rfl
  | reset _ p2 _ _ hw => exact Or.inl ⟨p2.wkc, hw, rfl⟩
  | resetLost => exact Or.inr rfl

/-- The same for the devices that exist and the public entry points: SII reads of `L = 4` or `8`
    bytes, `k` healthy chunks that do not yet cover the `n` bytes asked for (ANY `k` with `L·k < n`),
    then a chunk read that fails: `eeprom_read_raw` and `eeprom_read::<T>` both return the failing
    datagram's error. (A device that drops out after the k-th chunk makes the next status poll come
    back with counter 0: `ChunkFault.poll` with `busy = []`.) -/
theorem eeprom_fault_after_k_chunks (word n L : Nat) (clr : List Ev) (segs : List ChunkSeg) (f : List Ev) (e : Err)
    (t : List Ev) (hL : L = 4 ∨ L = 8) (hc : ClearOk clr) (hh : ∀ s ∈ segs, s.Healthy)
    (hlen : ∀ s ∈ segs, s.data.data.length = L) (hmore : L * segs.length < n)
    (hwin : word * 2 + (n + 1) / 2 * 2 ≤ 131072) (hf : ChunkFault f e) :
    eeRaw word n 0 n (clr ++ (segs.flatMap ChunkSeg.events ++ (f ++ t))) = (.error (.base e), t) ∧
    eeTyped word n (clr ++ (segs.flatMap ChunkSeg.events ++ (f ++ t))) = (.error (.base e), t) := by
  have hL0 : 0 < L ∧ L % 2 = 0 := by rcases hL with rfl | rfl <;> decide
  have hn := le_even_up n
  have hpos : 0 < n := Nat.zero_lt_of_lt hmore
  rw [eeRaw, if_pos rfl, eeTyped, startAt_of_fits hwin]
  generalize (n + 1) / 2 * 2 = c at hwin hn
  have hk : word * 2 + L * segs.length < 131072 := by omega
  have hadv := advance_uniform L hL0.1 hL0.2 (segs.map fun s => s.data.data)
    (by intro d hd; obtain ⟨s, hs, rfl⟩ := List.mem_map.1 hd; exact hlen s hs) (n - L * segs.length) (word * 2)
    (Nat.mul_mod_left _ _) (by rw [List.length_map]; exact Nat.le_of_lt hk)
  rw [List.length_map, Nat.add_sub_cancel' (Nat.le_of_lt hmore)] at hadv
  have hrr := (eeprom_fault_propagates (word * 2) (word * 2 + c) n clr segs _ _ f e t
    (by rw [Nat.add_sub_cancel_left]; exact Nat.ne_of_gt (Nat.lt_of_lt_of_le hpos hn)) hc hh
    (by rw [Nat.add_sub_cancel_left, Nat.min_eq_left hn]; exact hadv) (Nat.sub_pos_of_lt hmore)
    (Nat.div_lt_of_lt_mul hk) hf).1
  dsimp only
  rw [readExact_single hpos (by rw [Nat.add_sub_cancel_left]; exact hn), hrr]
  exact ⟨rfl, rfl⟩

/-- A device that answers everything gets its data through: the loop returns exactly what the data
    reads delivered (the theorems above are not vacuous for any number of chunks). -/
theorem eeprom_healthy_read_returns_all (pos endp n : Nat) (clr : List Ev) (segs : List ChunkSeg) (t : List Ev)
    (h0 : endp - pos ≠ 0) (hc : ClearOk clr) (hh : ∀ s ∈ segs, s.Healthy)
    (hf : fills pos (min n (endp - pos)) (segs.map fun s => s.data.data) = true) :
    rangeRead pos endp n (clr ++ (segs.flatMap ChunkSeg.events ++ t))
      = (.ok (gather pos (min n (endp - pos)) (segs.map fun s => s.data.data), pos + min n (endp - pos)), t) := by
  rw [rangeRead, if_neg h0, clearErrors_of_clearOk hc]
  simpa using readLoop_healthy hh hf [] t

/-- `SubDeviceEeprom::fmmus` (one `read` of the whole category): `Ok` means every chunk read of the
    category search was serviced, and — if the category exists — the list has as many entries as
    the category holds (up to the 16 of the buffer, never fewer) and is the decoding of the bytes of
    a `read` to which `eeprom_range_read_checked` applies. -/
theorem eeprom_fmmus_checked (tr rest : List Ev) (us : List Nat) (h : eeFmmus tr = (.ok us, rest)) :
    ∃ walk : List ChunkSeg, (∀ s ∈ walk, s.Checked) ∧
      ((us = [] ∧ tr = walk.flatMap ChunkSeg.events ++ rest) ∨
       ∃ (pos endp : Nat) (t : List Ev) (bytes : List Nat) (pos' : Nat),
         tr = walk.flatMap ChunkSeg.events ++ t ∧
         rangeRead pos endp Gen.Eeprom.FMMU_READ_BUF t = (.ok (bytes, pos'), rest) ∧
         parseFmmus bytes = some us ∧ us.length = min Gen.Eeprom.FMMU_READ_BUF (endp - pos)) := by
  revert h
  fun_cases eeFmmus tr <;> intro h <;> cases h
  · rename_i hwalk
    obtain ⟨walk, hshape, hchk⟩ := categoryLoop_ok hwalk
    exact ⟨walk, hchk, Or.inl ⟨rfl, hshape⟩⟩
  · rename_i r t hwalk bytes pos' hparse hread
    obtain ⟨walk, hshape, hchk⟩ := categoryLoop_ok hwalk
    exact ⟨walk, hchk, Or.inr ⟨r.1, r.2, t, bytes, pos', hshape, hread, hparse,
      (parseFmmus_length hparse).trans (rangeRead_ok hread).1⟩⟩

/-- `fmmus` hands on any failure of the category search's chunk reads and of its `read`: with
    `eeprom_fault_propagates`, a datagram of the category read that is not serviced makes the query
    fail with the working-counter error instead of returning a truncated list. -/
theorem eeprom_fmmus_fault_propagates (tr t t2 : List Ev) (r : Nat × Nat) (e : EErr) (e0 : Err) :
    (categoryLoop Gen.Eeprom.CAT_FMMU Gen.Eeprom.SII_FIRST_CATEGORY_START 0 tr = (.ok (some r), t) →
      rangeRead r.1 r.2 Gen.Eeprom.FMMU_READ_BUF t = (.error e, t2) → eeFmmus tr = (.error e, t2)) ∧
    (readChunk tr = (.error e0, t) → eeFmmus tr = (.error (.base e0), t)) := by
  constructor
  · intro hwalk hread
    unfold eeFmmus
    rw [hwalk]
    simp only [hread]
  · intro hbad
    unfold eeFmmus
    rw [categoryLoop_first_chunk_fault hbad]

/-- Multi-word writes (`eeprom_write_dangerously::<T>`, `write_all`): `Ok` means ALL `⌈n/2⌉` words
    were written and each `write_word` ended on a status poll that came back with working counter 1
    (for every `n > 0`). -/
theorem eeprom_write_all_checked (word n : Nat) (tr rest : List Ev) (hn : 0 < n)
    (hwin : word * 2 + (n + 1) / 2 * 2 ≤ 131072) (h : eeWrite word n tr = (.ok (), rest)) :
    ∃ ws : List (List Ev × Pdu), tr = wordsEvents ws ++ rest ∧ (∀ w ∈ ws, w.2.wkc = 1) ∧
      ws.length = (n + 1) / 2 := by
  simp only [eeWrite, startAt_of_fits hwin] at h
  obtain ⟨ws, h1, h2, h3⟩ := writeAllLoop_ok_fits (List.ne_nil_of_length_pos (by simpa using hn))
    (k := (n + 1) / 2) (by rw [List.length_replicate, Nat.mul_comm]; exact le_even_up n)
    (by rw [Nat.mul_comm 2]; exact Nat.le_refl _) h
  rw [List.length_replicate] at h3
  exact ⟨ws, h1, h2, h3⟩

/-- The write stops at the first word whose `write_word` fails — after ANY number `k` of completed
    words — with that error, e.g. `WorkingCounter { expected: 1, received: r }` of a status poll
    (`write_word_poll_mismatch`). -/
theorem eeprom_write_fault_propagates (word n : Nat) (ws : List (List Ev)) (tail t : List Ev) (e : Err)
    (hok : ∀ w ∈ ws, ∀ x, writeWord (w ++ x) = (.ok (), x)) (hk : ws.length < (n + 1) / 2)
    (hwin : word * 2 + (n + 1) / 2 * 2 ≤ 131072) (hbad : writeWord tail = (.error e, t)) :
    eeWrite word n (ws.flatten ++ tail) = (.error (.base e), t) := by
  have hn : 2 * ws.length < n := by omega
  have hn2 : 2 * ws.length < (n + 1) / 2 * 2 := by omega
  have hb : List.replicate n 0 ≠ [] :=
    List.ne_nil_of_length_pos (by rw [List.length_replicate]; exact Nat.zero_lt_of_lt hn)
  simp only [eeWrite, startAt_of_fits hwin]
  apply writeAllLoop_first_write_error hb
  rw [rangeWrite, if_neg fun h => absurd h.2 (by
    rw [Nat.add_sub_cancel_left]; exact Nat.ne_of_gt (Nat.zero_lt_of_lt hn2))]
  exact writeLoopR_stops_at_failing_word ws _ tail t e hok hbad _ _ 0 (by rw [List.length_replicate]; exact hn)
    (Nat.add_lt_add_left hn2 _) (Nat.lt_of_lt_of_le (Nat.add_lt_add_left hn2 _) hwin)

/-- A `write_word` whose first status poll, or whose completion poll after the two (exempt) writes,
    is not serviced fails with the working-counter error. -/
theorem write_word_poll_mismatch (p idle d c : Pdu) (t : List Ev) (hw : p.wkc ≠ 1)
    (hiw : idle.wkc = 1) (hib : SaysBusy false idle) :
    writeWord (.resp p :: t) = (.error (.workingCounter 1 p.wkc), t) ∧
    writeWord (.resp idle :: .resp d :: .resp c :: .resp p :: t) = (.error (.workingCounter 1 p.wkc), t) := by
  have hbad : ∀ x, waitWhileBusy (.resp p :: x) = (.error (.workingCounter 1 p.wkc), x) := fun x => by
    rw [waitWhileBusy, receive_resp_mismatch hw]
  obtain ⟨st, hst⟩ := waitWhileBusy_idle hiw hib (.resp d :: .resp c :: .resp p :: t)
  constructor
  · rw [writeWord, hbad]
  · rw [writeWord, hst]
    simp only [writeLoop, send_resp]
    split <;> rename_i heq <;> rw [hbad] at heq <;> cases heq
    rfl

/-- One chunk read of a healthy device with 4-byte SII reads: command answered, idle at the first
    poll, data `d` — every datagram with working counter 1. -/
def seg4 (d : List Nat) : ChunkSeg := ⟨⟨[0, 1, 0, 0, 0, 0], 1⟩, [], ⟨[0, 0], 1⟩, ⟨d, 1⟩⟩

theorem seg4_healthy (d : List Nat) : (seg4 d).Healthy :=
  ⟨⟨by simp [seg4], rfl, rfl⟩, by simp [seg4],
    ⟨⟨false, false, false, false, false, false⟩, (by decide : unpackSii [0, 0] = .ok ⟨false, false, false, false, false, false⟩), rfl⟩⟩

theorem clear_clean : ClearOk [.resp ⟨[0, 0], 1⟩] :=
  .clean _ rfl ⟨⟨false, false, false, false, false, false⟩, by decide, rfl⟩

/-- A healthy 12-byte `eeprom_read_raw` at word 5 (status read of `clear_errors`, then three chunk
    reads of 4 bytes): all 12 bytes, in order. -/
example : eeRaw 5 12 0 12 (.resp ⟨[0, 0], 1⟩ ::
      ((seg4 [1, 2, 3, 4]).events ++ ((seg4 [5, 6, 7, 8]).events ++ (seg4 [9, 10, 11, 12]).events)))
    = (.ok [1, 2, 3, 4, 5, 6, 7, 8, 9, 10, 11, 12], []) := by
  have h := eeprom_healthy_read_returns_all 10 22 12 [.resp ⟨[0, 0], 1⟩]
    [seg4 [1, 2, 3, 4], seg4 [5, 6, 7, 8], seg4 [9, 10, 11, 12]] [] (by decide) clear_clean
    (by simp [seg4_healthy]) (by decide)
  exact (congrArg bytesOnly h).trans (by decide +kernel)

/-- The device drops out right after the first chunk of that read (the next command write and status
    poll come back untouched, counter 0): `WorkingCounter { expected: 1, received: 0 }`, not `Ok(4)`. -/
example : eeRaw 5 12 0 12 (.resp ⟨[0, 0], 1⟩ ::
      ((seg4 [1, 2, 3, 4]).events ++ [.resp ⟨[0, 1, 0, 0, 0, 0], 0⟩, .resp ⟨[0, 0], 0⟩]))
    = (.error (.base (.workingCounter 1 0)), []) := by
  have h := (eeprom_fault_after_k_chunks 5 12 4 [.resp ⟨[0, 0], 1⟩] [seg4 [1, 2, 3, 4]]
    [.resp ⟨[0, 1, 0, 0, 0, 0], 0⟩, .resp ⟨[0, 0], 0⟩] (.workingCounter 1 0) [] (Or.inl rfl) clear_clean
    (by simp [seg4_healthy]) (by simp [seg4])
    (by decide) (by decide) (ChunkFault.poll ⟨[0, 1, 0, 0, 0, 0], 0⟩ [] ⟨[0, 0], 0⟩ (by simp) (by decide))).1
  simpa using h

/-- The same drop-out under an `fmmus()` query whose category (6 entries at word 0x42) was found by a
    healthy search: the query fails with the working-counter error, no truncated list. -/
example (walk t : List Ev)
    (hwalk : categoryLoop Gen.Eeprom.CAT_FMMU Gen.Eeprom.SII_FIRST_CATEGORY_START 0 (walk ++ t) = (.ok (some (132, 138)), t))
    (ht : t = .resp ⟨[0, 0], 1⟩ :: ((seg4 [1, 2, 3, 1]).events ++ [.resp ⟨[0, 1, 0, 0, 0, 0], 0⟩, .resp ⟨[0, 0], 0⟩])) :
    eeFmmus (walk ++ t) = (.error (.base (.workingCounter 1 0)), []) := by
  refine (eeprom_fmmus_fault_propagates (walk ++ t) t [] (132, 138) _ (.timeout .pdu)).1 hwalk ?_
  have h := (eeprom_fault_propagates 132 138 16 [.resp ⟨[0, 0], 1⟩] [seg4 [1, 2, 3, 1]] 136 2
    [.resp ⟨[0, 1, 0, 0, 0, 0], 0⟩, .resp ⟨[0, 0], 0⟩] (.workingCounter 1 0) [] (by decide) clear_clean
    (by simp [seg4_healthy]) (by decide) (by decide) (by decide)
    (ChunkFault.poll ⟨[0, 1, 0, 0, 0, 0], 0⟩ [] ⟨[0, 0], 0⟩ (by simp) (by decide))).1
  rw [ht]
  simpa [Gen.Eeprom.FMMU_READ_BUF] using h

/-- A healthy EEPROM read: command write, one busy poll, one idle poll, 4 data bytes. -/
example : readChunk [.resp ⟨[0, 1, 0x40, 0, 0, 0], 1⟩, .resp ⟨[0, 0x80], 1⟩, .resp ⟨[0, 0], 1⟩,
    .resp ⟨[1, 2, 3, 4], 1⟩] = (.ok [1, 2, 3, 4], []) := by decide +kernel

/-- The same with the device gone before the data read: working-counter error with both counts. -/
example : readChunk [.resp ⟨[0, 1, 0x40, 0, 0, 0], 1⟩, .resp ⟨[0, 0], 1⟩, .resp ⟨[0, 0, 0, 0], 0⟩]
    = (.error (.workingCounter 1 0), []) := by decide +kernel

/-- Expected counts other than 1: a broadcast read over three devices. -/
example : (WrappedRead.new.withWkc 3).receive (.ok ⟨[8, 0], 3⟩) unpackAlControl = .ok ⟨8, false⟩ ∧
    (WrappedRead.new.withWkc 3).receive (.ok ⟨[8, 0], 2⟩) unpackAlControl = .error (.workingCounter 3 2) := by decide +kernel

/-- A healthy mailbox round trip (empty out-mailbox, free in-mailbox, request, one empty poll, one
    full poll, response). -/
example : mailboxWriteRead [.resp ⟨[0], 1⟩, .resp ⟨[0], 1⟩, .resp ⟨[9, 9], 1⟩, .resp ⟨[0], 1⟩, .resp ⟨[8], 1⟩,
    .resp ⟨[7, 7, 7], 1⟩] = (.ok [7, 7, 7], []) := by decide +kernel

/-- `status` on a healthy device in OP. -/
example : status [.resp ⟨[8, 0], 1⟩, .resp ⟨[0, 0], 1⟩] = (.ok (8, 0), []) := by decide +kernel

end Ec.C11
