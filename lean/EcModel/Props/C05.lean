/-
  C05 — the receive path survives any bytes and rejects strangers without side effects.
  Theorems about `receiveFrame` (the model of `PduRx::receive_frame`), for every byte list and
  every storage state (any number of slots, any slot contents).
-/
import EcModel.Lemmas.SlotsLemmas

namespace Ec.C05

/-- The EtherCAT payload a frame declares (datagram bytes after the 2-byte EtherCAT header). -/
def ecatPayload (bytes : List Nat) : List Nat :=
  ((bytes.drop 14).drop 2).take (rd16 (bytes.drop 14) % (Gen.LEN_MASK + 1))

/-- Wire index of the frame's first datagram. -/
def firstIdx (bytes : List Nat) : Option Nat := (ecatPayload bytes)[1]?

/-- Slot `x` is awaiting a response with first index `i`. -/
def Awaits (x : Slot) (i : Nat) : Prop := x.first = i ∧ x.st = .sent

/-- Complete characterisation of what `receive_frame` can do. Either nothing changes, or exactly one
    slot — the first one awaiting the frame's first index — is claimed; the payload is then copied
    into its PDU area (`processed`) or, if it does not fit, the slot is left in `RxBusy`
    (`errInternal`; the owner's deadline recovers it, C06). -/
theorem rx_cases (s : Sys) (bytes : List Nat) :
    let r := receiveFrame s bytes
    (r.1 = s ∧ r.2 ≠ .processed) ∨
    (∃ k i, firstIdx bytes = some i ∧ k < s.n ∧ Awaits (s.slot k) i ∧
        (∀ j, j < k → ¬ Awaits (s.slot j) i) ∧
        ((r.2 = .processed ∧ (ecatPayload bytes).length ≤ s.data - 16 ∧
            r.1 = s.setSlot k { s.slot k with st := .rxDone, buf := setRange (s.slot k).buf 16 (ecatPayload bytes) }) ∨
         (r.2 = .errInternal ∧ s.data - 16 < (ecatPayload bytes).length ∧
            r.1 = s.setSlot k { s.slot k with st := .rxBusy }))) := by
  rcases receiveFrame_cases s bytes with ⟨e, h, he⟩ | ⟨p, i, k, ⟨rfl, hi⟩, hk, ha, hprev, h⟩
  · rw [h]; exact .inl ⟨rfl, by rintro rfl; simp at he⟩
  · refine .inr ⟨k, i, hi, hk, ha, hprev, ?_⟩
    rcases h with ⟨hfit, h⟩ | ⟨hbig, h⟩ <;> rw [h]
    · exact .inl ⟨rfl, hfit, rfl⟩
    · exact .inr ⟨rfl, hbig, rfl⟩

/-- **Never panics**: the unchecked slice operations of the Rust code are never reached with an
    out-of-range index, for any input and any storage state. -/
theorem rx_total (s : Sys) (bytes : List Nat) : ∀ why, (receiveFrame s bytes).2 ≠ .panic why := by
  intro why
  rcases receiveFrame_cases s bytes with ⟨e, h, he⟩ | ⟨_, _, _, _, _, _, _, ⟨_, h⟩ | ⟨_, h⟩⟩ <;> rw [h]
  · rintro rfl; simp at he
  · nofun
  · nofun

/-- Frames shorter than an Ethernet header are an error; frames that are not EtherCAT or that carry
    the MainDevice's own source address are ignored; in all these cases nothing changes. -/
theorem rx_ignores (s : Sys) (bytes : List Nat) (hx : s.exit = false) :
    (bytes.length < 14 → receiveFrame s bytes = (s, .errEthernet)) ∧
    (14 ≤ bytes.length → 256 * bytes.getD 12 0 + bytes.getD 13 0 ≠ Gen.ETHERCAT_ETHERTYPE →
        receiveFrame s bytes = (s, .ignored)) ∧
    (14 ≤ bytes.length → (bytes.drop 6).take 6 = Gen.MAINDEVICE_ADDR →
        receiveFrame s bytes = (s, .ignored)) := by
  have hign : 14 ≤ bytes.length → (256 * bytes.getD 12 0 + bytes.getD 13 0 ≠ Gen.ETHERCAT_ETHERTYPE ∨
      (bytes.drop 6).take 6 = Gen.MAINDEVICE_ADDR) → receiveFrame s bytes = (s, .ignored) := by
    intro h he
    simp only [receiveFrame, rxParse, hx, Bool.false_eq_true, if_false,
      if_neg (by omega : ¬ bytes.length < 14), if_neg (by omega : ¬ bytes.length < 12), if_pos he]
  refine ⟨fun h => ?_, fun h he => hign h (.inl he), fun h he => hign h (.inr he)⟩
  simp only [receiveFrame, rxParse, hx, Bool.false_eq_true, if_false, if_pos h]

/-- **Frame condition**: every slot other than the one the frame is accepted into is bit-identical
    before and after, whatever the bytes were. -/
theorem rx_frame_condition (s : Sys) (bytes : List Nat) :
    ∃ k, ∀ j, j ≠ k → (receiveFrame s bytes).1.slot j = s.slot j := by
  rcases rx_cases s bytes with ⟨h, _⟩ | ⟨k, i, _, _, _, _, h⟩
  · exact ⟨0, fun j _ => by rw [h]⟩
  · refine ⟨k, fun j hj => ?_⟩
    rcases h with ⟨_, _, h⟩ | ⟨_, _, h⟩ <;> rw [h] <;> exact slot_setSlot_ne _ _ _ _ hj

/-- A frame whose first datagram index matches no request currently awaiting a response is never
    accepted and leaves every slot's state and contents unchanged. -/
theorem rx_rejects_strangers (s : Sys) (bytes : List Nat)
    (h : ∀ i, firstIdx bytes = some i → ∀ k, k < s.n → ¬ Awaits (s.slot k) i) :
    (receiveFrame s bytes).1 = s ∧ (receiveFrame s bytes).2 ≠ .processed := by
  rcases rx_cases s bytes with h' | ⟨k, i, hi, hk, ha, _, _⟩
  · exact h'
  · exact absurd ha (h i hi k hk)

/-- A frame is accepted only into a slot that was in `Sent` with its marker equal to the frame's
    first index, and that slot ends in `RxDone` holding exactly the frame's payload in its PDU area;
    the buffer keeps its length and nothing outside `[16, 16 + payload)` changes. -/
theorem rx_accepts_only_awaiting (s : Sys) (bytes : List Nat)
    (hp : (receiveFrame s bytes).2 = .processed) :
    ∃ k i, firstIdx bytes = some i ∧ k < s.n ∧ Awaits (s.slot k) i ∧
      ((receiveFrame s bytes).1.slot k).st = .rxDone ∧
      ((receiveFrame s bytes).1.slot k).buf = setRange (s.slot k).buf 16 (ecatPayload bytes) ∧
      (ecatPayload bytes).length ≤ s.data - 16 ∧
      ((receiveFrame s bytes).1.slot k).first = (s.slot k).first ∧
      ((receiveFrame s bytes).1.slot k).used = (s.slot k).used := by
  rcases rx_cases s bytes with ⟨_, h⟩ | ⟨k, i, hi, hk, ha, _, h⟩
  · exact absurd hp h
  · rcases h with ⟨_, hfit, h⟩ | ⟨h, _, _⟩
    · refine ⟨k, i, hi, hk, ha, ?_⟩
      rw [h, slot_setSlot_eq _ _ _ hk]
      exact ⟨rfl, rfl, hfit, rfl, rfl⟩
    · rw [hp] at h; cases h

/-- The copy stays inside the slot: the buffer length is preserved and bytes before offset 16 and
    after the payload are untouched. -/
theorem rx_copy_bounded (buf p : List Nat) (data : Nat) (hb : buf.length = data) (h16 : 16 ≤ data)
    (hp : p.length ≤ data - 16) :
    (setRange buf 16 p).length = data ∧
    (setRange buf 16 p).take 16 = buf.take 16 ∧
    (setRange buf 16 p).drop (16 + p.length) = buf.drop (16 + p.length) ∧
    ((setRange buf 16 p).drop 16).take p.length = p := by
  have h16' : 16 ≤ buf.length := by omega
  refine ⟨by rw [setRange_length buf 16 p (by omega), hb], take_setRange _ _ _ h16', ?_, ?_⟩
  · rw [← List.drop_drop, drop_setRange _ _ _ h16', List.drop_left]
  · rw [drop_setRange _ _ _ h16', List.take_left]

/-! Non-vacuity: a concrete storage with a request in `Sent` accepts its response and rejects a
    frame with another index. -/
def demoSys : Sys :=
  { data := 32, slots := [⟨.sent, 5, 14, zeros 32⟩, ⟨.none, 0, 0, zeros 32⟩], frameIdx := 1, pduIdx := 6,
    now := 0, exit := false }
def demoFrame (idx : Nat) : List Nat :=
  [255, 255, 255, 255, 255, 255, 18, 16, 16, 16, 16, 16, 0x88, 0xa4, 14, 0x10,
   4, idx, 0, 16, 0x30, 1, 2, 0, 0, 0, 0xaa, 0xbb, 1, 0]

example : (receiveFrame demoSys (demoFrame 5)).2 = .processed := by decide +kernel
example : (receiveFrame demoSys (demoFrame 6)) = (demoSys, .errDecode) := by decide +kernel

end Ec.C05
