/-
  C08 — process data of one SubDevice reaches that SubDevice and nothing else.
  Property theorems only; the model is `EcModel/Config.lean`, helper lemmas are in `EcModel/Lemmas/Config*.lean`.

  Setting: `devs` are the members of one group with the state `init` leaves them in (`Fresh`: every FMMU entity
  disabled — `members_fresh` shows that `Net.members` is such a list); `start` is the group's logical start
  address, `maxPdi` its declared capacity. Theorems are stated for the overflow-checking build
  (`Mode.checked`); `configuration_total` shows that for EVERY PDO configuration the Rust types allow the
  configuration never panics and computes the same outcome in the wrapping build, so every one of them holds
  in both build modes (`release_agrees_with_debug` is the hypothesis-free one-directional form).

  Three places where the code as it stands does NOT satisfy the property are kept visible as `_counterexample`
  theorems next to the `_partial` theorem that excludes exactly that class:
    * CoE path, several sync managers of one direction share one FMMU     → hypothesis `SharedContig`
    * EEPROM path, FMMU number := sync manager number                      → hypothesis `FmmuAvail`
    * a group whose configuration fails keeps its FMMUs programmed          → hypothesis "the other group fits"
  A fourth one — PDO bit lengths summed, multiplied by the oversampling factor and rounded in `u16`
  (c08/pdo-bit-length-u16-overflow: panic in checked builds, silently short windows in wrapping builds) — is
  REPAIRED: the sums are `u64`, the byte length is converted with `u16::try_from(..)?`. The full statements are
  `configuration_total`, `exact_windows_or_error`, `network_total` and `registers_representable`; the witnesses
  of the overflow are kept as `bit_length_overflow_fixed`.
-/
import EcModel.Lemmas.ConfigGroup
import EcModel.Lemmas.ConfigTotal
import EcModel.Generated.Layouts
import EcModel.Generated.Config

namespace Ec.C08
open Ec Ec.Config

/-! ## Vocabulary of the statements -/

/-- Window of a device for a write (`true`: outputs) or read (`false`: inputs) service. -/
def winOf (st : DevState) (w : Bool) : Nat × Nat := if w then st.output else st.input

def dirOf (w : Bool) : Dir := if w then .output else .input

/-- Logical byte `a` lies in the window `win` of a group that starts at `start`. -/
def InWin (start : Nat) (win : Nat × Nat) (a : Nat) : Prop := start + win.1 ≤ a ∧ a < start + win.2

/-- The programmed FMMUs map the device's window byte for byte onto the programmed sync managers' physical
    ranges (in sync manager order), and nothing else of the logical address space onto this device. -/
def MapsExactly (start : Nat) (x : Device × DevState) : Prop :=
  ∀ (w : Bool) (a p : Nat),
    p ∈ fmmuMap x.2.regs.fmmu x.1.fmmuCount w a ↔
      InWin start (winOf x.2 w) a ∧
        physAt (smRanges x.1 x.2.regs (dirOf w)) (a - (start + (winOf x.2 w).1)) = some p

theorem winOf_window (st : DevState) (w : Bool) : winOf st w = st.window (dirOf w) := by cases w <;> rfl

theorem mapsExactly_of_configured {start : Nat} {x : Device × DevState} (h : ∀ dir, Configured start x.1 x.2 dir)
    (hav : FmmuAvail x.1 x.2.hasCoe) (hct : SharedContig x.1 x.2.regs x.2.hasCoe) : MapsExactly start x := by
  intro w a p
  cases w
  · exact ((h .input).maps hav.entitiesExist hct a p).trans and_assoc.symm
  · exact ((h .output).maps hav.entitiesExist hct a p).trans and_assoc.symm

/-! ## The layout of one group -/

/-- Every window lies inside the group's image, the image inside the declared capacity; all inputs come
    before all outputs (`read_pdi_len` separates them). -/
theorem windows_inside_image {start maxPdi : Nat} {devs : List (Device × DevState)} {g : GroupLayout}
    (hf : Fresh devs) (h : groupConfigureFmmus .checked start maxPdi devs = .ok g) :
    g.pdiLen ≤ maxPdi ∧ g.readLen ≤ g.pdiLen ∧
    ∀ x ∈ g.devs,
      x.2.input.1 ≤ x.2.input.2 ∧ x.2.input.2 ≤ g.readLen ∧
      g.readLen ≤ x.2.output.1 ∧ x.2.output.1 ≤ x.2.output.2 ∧ x.2.output.2 ≤ g.pdiLen := by
  obtain ⟨hl, hmax⟩ := configure_ok_iff.1 h
  have s := group_spec hf hl
  refine ⟨hmax, tiling_le s.outs, fun x hx => ?_⟩
  have b1 := tiling_mem s.ins _ (List.mem_map_of_mem (f := (·.2.input)) hx)
  have b2 := tiling_mem s.outs _ (List.mem_map_of_mem (f := (·.2.output)) hx)
  exact ⟨b1.2.1, b1.2.2, b2.1, b2.2.1, b2.2.2⟩

/-- All inputs before all outputs: any input window ends before any output window starts. -/
theorem inputs_before_outputs {start maxPdi : Nat} {devs : List (Device × DevState)} {g : GroupLayout}
    (hf : Fresh devs) (h : groupConfigureFmmus .checked start maxPdi devs = .ok g) :
    ∀ x ∈ g.devs, ∀ y ∈ g.devs, x.2.input.2 ≤ y.2.output.1 := by
  intro x hx y hy
  obtain ⟨_, _, hw⟩ := windows_inside_image hf h
  have := hw x hx
  have := hw y hy
  omega

/-- Windows of different devices of a group do not overlap: in group order each input window ends where the
    next begins or before, and likewise the output windows (together with `inputs_before_outputs`: all
    windows of a group are pairwise disjoint). -/
theorem windows_disjoint {start maxPdi : Nat} {devs : List (Device × DevState)} {g : GroupLayout}
    (hf : Fresh devs) (h : groupConfigureFmmus .checked start maxPdi devs = .ok g) :
    g.devs.Pairwise (fun x y => x.2.input.2 ≤ y.2.input.1 ∧ x.2.output.2 ≤ y.2.output.1) := by
  have s := group_spec hf (configure_ok_iff.1 h).1
  exact (List.pairwise_map.1 (tiling_pairwise s.ins)).and (List.pairwise_map.1 (tiling_pairwise s.outs))

/-- Every window has exactly the byte length the PDO configuration requires: Σ over the direction's sync
    managers of ⌈(Σ PDO bits × oversampling) / 8⌉, from CoE (0x1C1x → 0x16xx/0x1Axx) or from the EEPROM. -/
theorem window_length {start maxPdi : Nat} {devs : List (Device × DevState)} {g : GroupLayout}
    (hf : Fresh devs) (h : groupConfigureFmmus .checked start maxPdi devs = .ok g) :
    ∀ x ∈ g.devs,
      x.2.input.2 - x.2.input.1 = windowLenSpec x.1 x.2.hasCoe .input ∧
      x.2.output.2 - x.2.output.1 = windowLenSpec x.1 x.2.hasCoe .output :=
  fun x hx =>
    have c := (group_spec hf (configure_ok_iff.1 h).1).dev x hx
    ⟨(c .input).len, (c .output).len⟩

/-- The image is exactly as long as the windows require (no padding, nothing missing). -/
theorem image_length {start : Nat} {devs : List (Device × DevState)} {g : GroupLayout}
    (hf : Fresh devs) (h : groupLayout .checked start devs = .ok g) :
    g.readLen = natSum (g.devs.map fun x => windowLenSpec x.1 x.2.hasCoe .input) ∧
    g.pdiLen = g.readLen + natSum (g.devs.map fun x => windowLenSpec x.1 x.2.hasCoe .output) := by
  have s := group_spec hf h
  have c : ∀ dir : Dir, natSum (g.devs.map fun x => (x.2.window dir).2 - (x.2.window dir).1) =
      natSum (g.devs.map fun x => windowLenSpec x.1 x.2.hasCoe dir) :=
    fun dir => congrArg natSum (List.map_congr_left fun x hx => (s.dev x hx dir).len)
  have e1 := tiling_sum s.ins
  have e2 := tiling_sum s.outs
  rw [List.map_map] at e1 e2
  exact ⟨by rw [← c .input, e1, Nat.zero_add]; rfl, by rw [← c .output, e2]; rfl⟩

/-- A layout that does not fit the declared capacity is an error — `PdiTooLong` with the capacity and the
    length the layout needs (`image_length`) — and never a success. -/
theorem too_long_is_error {m : Mode} {start maxPdi : Nat} {devs : List (Device × DevState)} {g : GroupLayout}
    (h : groupLayout m start devs = .ok g) :
    (maxPdi < g.pdiLen → groupConfigureFmmus m start maxPdi devs = .err (.pdiTooLong maxPdi g.pdiLen)) ∧
    (g.pdiLen ≤ maxPdi → groupConfigureFmmus m start maxPdi devs = .ok g) := by
  rw [configure_of_layout h]
  exact ⟨fun hl => if_pos hl, fun hl => if_neg (Nat.not_lt.2 hl)⟩

/-! ## What the programmed devices do with the logical address space -/

/-- The MainDevice only programs byte-aligned FMMUs (start bit 0, end bit 7, physical start bit 0), which is
    what makes the byte-granular device semantics `Fmmu.hit` exact. -/
theorem fmmus_byte_aligned {start : Nat} {devs : List (Device × DevState)} {g : GroupLayout}
    (hf : Fresh devs) (h : groupLayout .checked start devs = .ok g) :
    ∀ x ∈ g.devs, ∀ k, (x.2.regs.fmmu k).enable = true →
      (x.2.regs.fmmu k).startBit = 0 ∧ (x.2.regs.fmmu k).endBit = 7 ∧ (x.2.regs.fmmu k).physBit = 0 :=
  groupLayout_kept (Regs.Aligned.kept .checked) (fun x hx k he => by rw [hf x hx k] at he; cases he) h

/-- PARTIAL (full statement: without the two hypotheses; `fmmu_maps_exactly_counterexample`,
    `fmmu_avail_counterexample`).
    Provided every FMMU entity the MainDevice chose exists in the controller (`FmmuAvail`) and — CoE path — the
    sync managers that share one FMMU are physically contiguous (`SharedContig`), the FMMUs and sync managers
    programmed into a device map exactly its windows onto its process data memory. Holds for every layout
    that was programmed, also one that is then rejected as too long. -/
theorem fmmu_maps_exactly_partial {start : Nat} {devs : List (Device × DevState)} {g : GroupLayout}
    (hf : Fresh devs) (h : groupLayout .checked start devs = .ok g) :
    ∀ x ∈ g.devs, FmmuAvail x.1 x.2.hasCoe → SharedContig x.1 x.2.regs x.2.hasCoe → MapsExactly start x :=
  fun x hx => mapsExactly_of_configured ((group_spec hf h).dev x hx)

/-- The sync managers programmed for a direction have together exactly the length of the window, so every
    byte of a window has a physical byte (`physAt` is defined on the whole window). -/
theorem window_is_backed {start : Nat} {devs : List (Device × DevState)} {g : GroupLayout}
    (hf : Fresh devs) (h : groupLayout .checked start devs = .ok g) :
    ∀ x ∈ g.devs, ∀ w, rangesLen (smRanges x.1 x.2.regs (dirOf w)) = (winOf x.2 w).2 - (winOf x.2 w).1 := by
  intro x hx w
  rw [winOf_window]
  exact ((group_spec hf h).dev x hx (dirOf w)).backed

/-- Bytes of one device's window reach that device: every logical byte of the window is translated by the
    owner to the corresponding byte of its sync manager memory. -/
theorem window_reaches_owner {start : Nat} {devs : List (Device × DevState)} {g : GroupLayout}
    (hf : Fresh devs) (h : groupLayout .checked start devs = .ok g)
    {x : Device × DevState} (hx : x ∈ g.devs) (hav : FmmuAvail x.1 x.2.hasCoe)
    (hct : SharedContig x.1 x.2.regs x.2.hasCoe) (w : Bool) (a : Nat) (ha : InWin start (winOf x.2 w) a) :
    ∃ p, physAt (smRanges x.1 x.2.regs (dirOf w)) (a - (start + (winOf x.2 w).1)) = some p ∧
      p ∈ fmmuMap x.2.regs.fmmu x.1.fmmuCount w a := by
  have hm := fmmu_maps_exactly_partial hf h x hx hav hct
  have hb := window_is_backed hf h x hx w
  obtain ⟨p, hp⟩ := physAt_isSome_of_lt (ws := smRanges x.1 x.2.regs (dirOf w))
    (k := a - (start + (winOf x.2 w).1)) (by rw [hb]; unfold InWin at ha; omega)
  exact ⟨p, hp, (hm w a p).2 ⟨ha, hp⟩⟩

/-- … and nothing else: a logical byte of one device's window is translated by NO other device of the group
    (same service direction), in either order of the two devices. -/
theorem window_reaches_only_owner {start maxPdi : Nat} {devs : List (Device × DevState)} {g : GroupLayout}
    (hf : Fresh devs) (h : groupConfigureFmmus .checked start maxPdi devs = .ok g)
    (hav : ∀ x ∈ g.devs, FmmuAvail x.1 x.2.hasCoe) (hct : ∀ x ∈ g.devs, SharedContig x.1 x.2.regs x.2.hasCoe) :
    g.devs.Pairwise (fun x y => ∀ (w : Bool) (a : Nat),
      (InWin start (winOf x.2 w) a → fmmuMap y.2.regs.fmmu y.1.fmmuCount w a = []) ∧
      (InWin start (winOf y.2 w) a → fmmuMap x.2.regs.fmmu x.1.fmmuCount w a = [])) := by
  have hl := (configure_ok_iff.1 h).1
  have own : ∀ x ∈ g.devs, ∀ w a, fmmuMap x.2.regs.fmmu x.1.fmmuCount w a ≠ [] → InWin start (winOf x.2 w) a := by
    intro x hx w a hne
    obtain ⟨p, hp⟩ := List.exists_mem_of_ne_nil _ hne
    exact ((fmmu_maps_exactly_partial hf hl x hx (hav x hx) (hct x hx) w a p).1 hp).1
  have apart : ∀ {x y : Device × DevState} {w a}, (winOf x.2 w).2 ≤ (winOf y.2 w).1 →
      InWin start (winOf x.2 w) a → InWin start (winOf y.2 w) a → False := fun hd ha hb =>
    Nat.lt_irrefl _ (Nat.lt_of_lt_of_le ha.2 (Nat.le_trans (Nat.add_le_add_left hd _) hb.1))
  refine (windows_disjoint hf h).imp_of_mem ?_
  intro x y hx hy hd w a
  have hd' : (winOf x.2 w).2 ≤ (winOf y.2 w).1 := by cases w; exact hd.1; exact hd.2
  exact ⟨fun ha => Classical.byContradiction fun hne => apart hd' ha (own y hy w a hne),
    fun ha => Classical.byContradiction fun hne => apart hd' (own x hx w a hne) ha⟩

/-- Outputs: a byte written to one SubDevice's outputs arrives in that device's output memory (first part)
    and in no other device of the group (second part). -/
theorem outputs_reach_only_owner {start maxPdi : Nat} {devs : List (Device × DevState)} {g : GroupLayout}
    (hf : Fresh devs) (h : groupConfigureFmmus .checked start maxPdi devs = .ok g)
    (hav : ∀ x ∈ g.devs, FmmuAvail x.1 x.2.hasCoe) (hct : ∀ x ∈ g.devs, SharedContig x.1 x.2.regs x.2.hasCoe) :
    (∀ x ∈ g.devs, ∀ a, InWin start x.2.output a →
      ∃ p, physAt (smRanges x.1 x.2.regs .output) (a - (start + x.2.output.1)) = some p ∧
        p ∈ fmmuMap x.2.regs.fmmu x.1.fmmuCount true a) ∧
    g.devs.Pairwise (fun x y => ∀ a,
      (InWin start x.2.output a → fmmuMap y.2.regs.fmmu y.1.fmmuCount true a = []) ∧
      (InWin start y.2.output a → fmmuMap x.2.regs.fmmu x.1.fmmuCount true a = [])) := by
  refine ⟨?_, (window_reaches_only_owner hf h hav hct).imp ?_⟩
  · intro x hx a ha
    exact window_reaches_owner hf (configure_ok_iff.1 h).1 hx (hav x hx) (hct x hx) true a ha
  · intro x y hxy a
    exact hxy true a

/-- Inputs: a device's input memory appears in its input window (first part) and a byte of its window comes
    from no other device of the group (second part). -/
theorem inputs_come_only_from_owner {start maxPdi : Nat} {devs : List (Device × DevState)} {g : GroupLayout}
    (hf : Fresh devs) (h : groupConfigureFmmus .checked start maxPdi devs = .ok g)
    (hav : ∀ x ∈ g.devs, FmmuAvail x.1 x.2.hasCoe) (hct : ∀ x ∈ g.devs, SharedContig x.1 x.2.regs x.2.hasCoe) :
    (∀ x ∈ g.devs, ∀ a, InWin start x.2.input a →
      ∃ p, physAt (smRanges x.1 x.2.regs .input) (a - (start + x.2.input.1)) = some p ∧
        p ∈ fmmuMap x.2.regs.fmmu x.1.fmmuCount false a) ∧
    g.devs.Pairwise (fun x y => ∀ a,
      (InWin start x.2.input a → fmmuMap y.2.regs.fmmu y.1.fmmuCount false a = []) ∧
      (InWin start y.2.input a → fmmuMap x.2.regs.fmmu x.1.fmmuCount false a = [])) := by
  refine ⟨?_, (window_reaches_only_owner hf h hav hct).imp ?_⟩
  · intro x hx a ha
    exact window_reaches_owner hf (configure_ok_iff.1 h).1 hx (hav x hx) (hct x hx) false a ha
  · intro x y hxy a
    exact hxy false a

/-- Whatever a device of a group translates lies inside that group's logical range `start .. start + pdi_len`. -/
theorem translations_inside_group {start : Nat} {devs : List (Device × DevState)} {g : GroupLayout}
    (hf : Fresh devs) (h : groupLayout .checked start devs = .ok g)
    {x : Device × DevState} (hx : x ∈ g.devs) (hav : FmmuAvail x.1 x.2.hasCoe)
    (hct : SharedContig x.1 x.2.regs x.2.hasCoe) (w : Bool) (a p : Nat)
    (hp : p ∈ fmmuMap x.2.regs.fmmu x.1.fmmuCount w a) : start ≤ a ∧ a < start + g.pdiLen := by
  have hin := ((fmmu_maps_exactly_partial hf h x hx hav hct w a p).1 hp).1
  have hw := (windows_inside_image (maxPdi := g.pdiLen) hf (configure_ok_iff.2 ⟨h, Nat.le_refl _⟩)).2.2 x hx
  have hb : (winOf x.2 w).2 ≤ g.pdiLen := by
    cases w
    · exact Nat.le_trans hw.2.1 (Nat.le_trans hw.2.2.1 (Nat.le_trans hw.2.2.2.1 hw.2.2.2.2))
    · exact hw.2.2.2.2
  exact ⟨Nat.le_trans (Nat.le_add_right _ _) hin.1, Nat.lt_of_lt_of_le hin.2 (Nat.add_le_add_left hb _)⟩

/-! ## Different groups -/

/-- Images of different groups occupy disjoint logical ranges: in `init`'s order every later group starts at
    or after the end of the image of every earlier group that was configured successfully
    (MAX_PDI below 64 KiB, as the property says; `as u16` would truncate a larger one). -/
theorem groups_disjoint {n : Net} {res : List (Nat × Nat × Out GroupLayout)}
    (hmax : ∀ s, n.maxPdi s < 65536) (h : configNet .checked n = .ok res) :
    res.Pairwise (fun u v => ∀ gu, u.2.2 = .ok gu → u.2.1 + gu.pdiLen ≤ v.2.1) := by
  unfold configNet at h
  obtain ⟨gs, hi, h⟩ := bind_eq_ok.1 h
  cases h
  unfold initPhase at hi
  split at hi
  · cases hi
  · obtain ⟨starts, hs, hi⟩ := bind_eq_ok.1 hi
    cases hi
    have hp := (starts_pairwise hs).1
    rw [List.zip_map_left, List.pairwise_map] at hp
    rw [List.pairwise_map]
    refine hp.imp ?_
    intro u v huv gu hgu
    simp only at hgu huv ⊢
    have hle := (configure_ok_iff.1 hgu).2
    have := hmax u.1
    simp only [Prod.map_fst, Prod.map_snd, id] at huv
    omega

/-- No logical byte is translated by devices of two different groups whose ranges are disjoint (as
    `groups_disjoint` gives for groups that both succeeded): traffic of one group cannot touch the other. -/
theorem groups_isolated {s1 s2 : Nat} {devs1 devs2 : List (Device × DevState)} {g1 g2 : GroupLayout}
    (hf1 : Fresh devs1) (hf2 : Fresh devs2)
    (h1 : groupLayout .checked s1 devs1 = .ok g1) (h2 : groupLayout .checked s2 devs2 = .ok g2)
    (hsep : s1 + g1.pdiLen ≤ s2)
    {x y : Device × DevState} (hx : x ∈ g1.devs) (hy : y ∈ g2.devs)
    (hax : FmmuAvail x.1 x.2.hasCoe) (hcx : SharedContig x.1 x.2.regs x.2.hasCoe)
    (hay : FmmuAvail y.1 y.2.hasCoe) (hcy : SharedContig y.1 y.2.regs y.2.hasCoe) (w w' : Bool) (a : Nat) :
    fmmuMap x.2.regs.fmmu x.1.fmmuCount w a = [] ∨ fmmuMap y.2.regs.fmmu y.1.fmmuCount w' a = [] := by
  by_cases hlt : a < s2
  · right
    apply List.eq_nil_iff_forall_not_mem.2
    intro p hp
    have := translations_inside_group hf2 h2 hy hay hcy w' a p hp
    omega
  · left
    apply List.eq_nil_iff_forall_not_mem.2
    intro p hp
    have := translations_inside_group hf1 h1 hx hax hcx w a p hp
    omega

/-! ## Sync manager lengths -/

/-- Every process-data sync manager is programmed with exactly the byte length ITS OWN PDOs require:
    ⌈(Σ PDO bits × oversampling) / 8⌉, an exact natural number — no `u16` wrap-around (this is the per-sync-manager
    form of `window_length`; before the repair of c08/pdo-bit-length-u16-overflow it was false in wrapping
    builds: 81 600 bits gave 2 008 bytes). -/
theorem sm_length_exact {start : Nat} {devs : List (Device × DevState)} {g : GroupLayout}
    (hf : Fresh devs) (h : groupLayout .checked start devs = .ok g) :
    ∀ x ∈ g.devs, ∀ y ∈ enumFrom 0 x.1.sms, ∀ dir : Dir, y.2.usageType = dir.smType →
      (x.2.regs.sm y.1).len = (smBitsSpec x.1 x.2.hasCoe dir y.1 + 7) / 8 :=
  fun x hx y hy dir => ((group_spec hf h).dev x hx dir).sm_len y hy

/-- The lengths programmed into sync managers and FMMUs fit their 16-bit registers (`Regs.Rep`): the natural
    numbers of the model ARE the register contents. Holds in both build modes, for every layout that was
    programmed (also one that is then rejected as too long). -/
theorem registers_representable {m : Mode} {start : Nat} {devs : List (Device × DevState)} {g : GroupLayout}
    (hr : ∀ x ∈ devs, x.2.regs.Rep) (h : groupLayout m start devs = .ok g) :
    ∀ x ∈ g.devs, ∀ k, (x.2.regs.sm k).len < 65536 ∧ (x.2.regs.fmmu k).length < 65536 :=
  fun x hx k => groupLayout_kept (Regs.Rep.kept m) hr h x hx k

/-- … and the state `init` leaves the devices in satisfies the hypothesis of `registers_representable`. -/
theorem members_representable {n : Net} (hty : ∀ x ∈ n.devices, x.1.TypesOk) (slot : Nat) :
    ∀ x ∈ n.members slot, x.2.regs.Rep := by
  intro x hx
  unfold Net.members at hx
  obtain ⟨y, hy, rfl⟩ := List.mem_map.1 hx
  exact initDev_rep (hty y (List.mem_filter.1 hy).1)

/-! ## Totality: every PDO configuration ends in a layout or an error, the same in both build modes -/

/-- FULL STATEMENT. For EVERY group of devices whose descriptions fit the Rust types they are read into
    (`Device.TypesOk`: u16 PDO bit lengths and oversampling factors, u8 mapping lengths and counts, at most 64
    PDOs per direction — nothing else: any number of sync managers, any sums) and whose logical range stays
    inside the `u32` address space (a device takes at most 2 × 8 × 65 535 = 1 048 560 bytes, so this admits
    4 000 devices per group), configuring the group NEVER PANICS and gives THE SAME OUTCOME — the same layout
    and registers, or the same error — in the overflow-checking and in the wrapping build. -/
theorem configuration_total {start maxPdi : Nat} {devs : List (Device × DevState)}
    (hty : ∀ x ∈ devs, x.1.TypesOk) (hsz : start + 1048560 * devs.length < 4294967296) :
    (∀ m w, groupConfigureFmmus m start maxPdi devs ≠ .panic w) ∧
    (∀ m, groupConfigureFmmus m start maxPdi devs = groupConfigureFmmus .checked start maxPdi devs) ∧
    (∀ m w, groupLayout m start devs ≠ .panic w) ∧
    (∀ m, groupLayout m start devs = groupLayout .checked start devs) := by
  have hty' : ∀ d ∈ devs.map (·.1), d.TypesOk := fun d hd => by
    obtain ⟨x, hx, rfl⟩ := List.mem_map.1 hd
    exact hty x hx
  obtain ⟨c1, c2⟩ := Agree.total (f := fun m => groupConfigureFmmus m start maxPdi devs)
    (fun m => groupConfigureFmmus_agree m) (groupConfigureFmmus_noPanic .checked maxPdi hty' hsz)
  obtain ⟨l1, l2⟩ := Agree.total (f := fun m => groupLayout m start devs)
    (fun m => groupLayout_agree m) (groupLayout_noPanic .checked hty' hsz)
  exact ⟨c1, c2, l1, l2⟩

/-- FULL STATEMENT of the length clause: in either build mode, configuring a group EITHER returns an error
    OR yields a layout inside the declared capacity in which every device's input and output window has exactly
    the byte length its PDO configuration (CoE or EEPROM, times oversampling) requires and every process-data
    sync manager exactly ⌈its bits / 8⌉ bytes, a length its 16-bit register can hold. Never a panic, never a
    silently shortened window. -/
theorem exact_windows_or_error {start maxPdi : Nat} {devs : List (Device × DevState)} (hf : Fresh devs)
    (hr : ∀ x ∈ devs, x.2.regs.Rep)
    (hty : ∀ x ∈ devs, x.1.TypesOk) (hsz : start + 1048560 * devs.length < 4294967296) (m : Mode) :
    (∃ e, groupConfigureFmmus m start maxPdi devs = .err e) ∨
    ∃ g, groupConfigureFmmus m start maxPdi devs = .ok g ∧ g.pdiLen ≤ maxPdi ∧
      ∀ x ∈ g.devs,
        x.2.input.2 - x.2.input.1 = windowLenSpec x.1 x.2.hasCoe .input ∧
        x.2.output.2 - x.2.output.1 = windowLenSpec x.1 x.2.hasCoe .output ∧
        ∀ y ∈ enumFrom 0 x.1.sms, ∀ dir : Dir, y.2.usageType = dir.smType →
          (x.2.regs.sm y.1).len = (smBitsSpec x.1 x.2.hasCoe dir y.1 + 7) / 8 ∧
          (smBitsSpec x.1 x.2.hasCoe dir y.1 + 7) / 8 < 65536 := by
  obtain ⟨np, ag, _, _⟩ := configuration_total (maxPdi := maxPdi) hty hsz
  rw [ag m]
  cases hc : groupConfigureFmmus .checked start maxPdi devs with
  | err e => exact Or.inl ⟨e, rfl⟩
  | panic w => exact absurd hc (np .checked w)
  | ok g =>
    right
    obtain ⟨hl, hmax⟩ := configure_ok_iff.1 hc
    refine ⟨g, rfl, hmax, ?_⟩
    intro x hx
    obtain ⟨w1, w2⟩ := window_length hf hc x hx
    refine ⟨w1, w2, ?_⟩
    intro y hy dir hyt
    have e := sm_length_exact hf hl x hx y hy dir hyt
    exact ⟨e, by rw [← e]; exact (registers_representable hr hl x hx y.1).1⟩

/-- A configuration that CANNOT be programmed — some process-data sync manager would need more than 65 535
    bytes, more than its length register holds — always ends in an error (`Err.intConv`,
    `Error::IntegerTypeConversion`, or an earlier error of the same group), in both build modes. Before the
    repair such a configuration panicked or was programmed with the length modulo 2¹⁶. -/
theorem unrepresentable_length_is_error {start maxPdi : Nat} {devs : List (Device × DevState)} (hf : Fresh devs)
    (hr : ∀ x ∈ devs, x.2.regs.Rep)
    (hty : ∀ x ∈ devs, x.1.TypesOk) (hsz : start + 1048560 * devs.length < 4294967296)
    {x : Device × DevState} (hx : x ∈ devs) {y : Nat × SmDesc} (hy : y ∈ enumFrom 0 x.1.sms) {dir : Dir}
    (hyt : y.2.usageType = dir.smType) (hbig : 65536 ≤ (smBitsSpec x.1 x.2.hasCoe dir y.1 + 7) / 8) (m : Mode) :
    ∃ e, groupConfigureFmmus m start maxPdi devs = .err e := by
  rcases exact_windows_or_error (maxPdi := maxPdi) hf hr hty hsz m with he | ⟨g, hg, _, hw⟩
  · exact he
  · exfalso
    rw [(configuration_total (maxPdi := maxPdi) hty hsz).2.1 m] at hg
    -- the configured group still holds this device, with the same `has_coe`
    have hk : devKey x ∈ g.devs.map devKey := by
      rw [(group_spec hf (configure_ok_iff.1 hg).1).keys]; exact List.mem_map_of_mem hx
    obtain ⟨x', hx', e⟩ := List.mem_map.1 hk
    simp only [devKey, Prod.mk.injEq] at e
    have := ((hw x' hx').2.2 y (by rw [e.1]; exact hy) dir hyt).2
    rw [e.1, e.2] at this
    omega

/-- FULL STATEMENT for a whole network (`init`'s start addresses, then `into_safe_op` on every group): no
    panic anywhere, the same result in both build modes — per group the same layout or the same error. The
    size hypothesis admits 3 855 devices; the property's networks have at most 16 (`network_total_16`). -/
theorem network_total {n : Net} (hty : ∀ x ∈ n.devices, x.1.TypesOk)
    (hsz : 65535 * n.devices.length + 1048560 * n.devices.length < 4294967296) :
    (∀ m w, configNet m n ≠ .panic w) ∧ (∀ m, configNet m n = configNet .checked n) ∧
    ∀ m res, configNet m n = .ok res → ∀ u ∈ res, ∀ w, u.2.2 ≠ .panic w := by
  obtain ⟨s2, s3⟩ := configNet_total hty hsz
  exact ⟨fun m w => by rw [s2 m]; exact s3.ne_panic w, s2, fun m res h => s3.post (by rw [← s2 m]; exact h)⟩

/-- The networks of the property (1..16 devices, any split into groups, any MAX_PDI). -/
theorem network_total_16 {n : Net} (hty : ∀ x ∈ n.devices, x.1.TypesOk) (h16 : n.devices.length ≤ 16) :
    (∀ m w, configNet m n ≠ .panic w) ∧ (∀ m, configNet m n = configNet .checked n) ∧
    ∀ m res, configNet m n = .ok res → ∀ u ∈ res, ∀ w, u.2.2 ≠ .panic w :=
  network_total hty (Nat.lt_of_le_of_lt
    (Nat.add_le_add (Nat.mul_le_mul_left 65535 h16) (Nat.mul_le_mul_left 1048560 h16)) (by decide))

/-! ## Overflow-checking build and wrapping build -/

/-- Whenever the overflow-checking (debug) build configures a group without panicking, the wrapping (release)
    build computes exactly the same result — error or success, same windows, same registers. Needs no
    hypothesis on the descriptions at all; `configuration_total` is the two-directional statement (and shows
    that the checking build does not panic) for every description the Rust types allow. -/
theorem release_agrees_with_debug (m : Mode) {start maxPdi : Nat} {devs : List (Device × DevState)} :
    (∀ g, groupConfigureFmmus .checked start maxPdi devs = .ok g → groupConfigureFmmus m start maxPdi devs = .ok g) ∧
    (∀ g, groupLayout .checked start devs = .ok g → maxPdi < g.pdiLen →
      groupConfigureFmmus m start maxPdi devs = .err (.pdiTooLong maxPdi g.pdiLen)) ∧
    (∀ mps starts, groupStarts .checked 0 mps = .ok starts → groupStarts m 0 mps = .ok starts) := by
  refine ⟨fun g h => (groupConfigureFmmus_agree m).ok h, fun g hl hlt => ?_,
    fun mps starts hs => (groupStarts_agree m).ok hs⟩
  rw [configure_of_layout ((groupLayout_agree m).ok hl), if_pos hlt]

/-! ## Where the code as it stands breaks the property: concrete witnesses (all evaluated by the kernel) -/

namespace Witness

def smD (start control usage : Nat) : SmDesc := { start := start, control := control, enable := 1, usage := usage }

/-- A CoE device: mailbox on SM0/SM1, two output sync managers (SM2 at 0x1100: 2 bytes, SM3 at `out2`: 3 bytes),
    two input sync managers (SM4 at 0x1400: 3 bytes, SM5 at `in2`: 4 bytes); FMMU usage Outputs, Inputs, MbxState. -/
def coeDev (out2 in2 : Nat) : Device :=
  { mailbox := { recvSize := 64, sendSize := 64, protocols := 4 }
    sms := [smD 0x1000 0x26 1, smD 0x1080 0x22 2, smD 0x1100 0x64 3, smD out2 0x64 3, smD 0x1400 0x20 4, smD in2 0x20 4]
    fmmuUsage := [1, 2, 3], fmmuEx := [], txPdos := [], rxPdos := []
    coe := fun i => if i = 2 then some [⟨0x1600, [8, 8]⟩] else if i = 3 then some [⟨0x1601, [16, 8]⟩]
      else if i = 4 then some [⟨0x1a00, [16, 8]⟩] else if i = 5 then some [⟨0x1a01, [32]⟩] else none
    oversampling := [], fmmuCount := 8 }

/-- A digital output terminal without mailbox: 4 output bits on SM0 at 0x0f00. -/
def plainOut : Device :=
  { mailbox := {}, sms := [smD 0x0f00 0x44 3], fmmuUsage := [1], fmmuEx := [], txPdos := [],
    rxPdos := [⟨0x1600, 0, 4⟩], coe := fun _ => none, oversampling := [], fmmuCount := 8 }

/-- A digital input terminal without mailbox: 17 input bits on SM0 at 0x1000. -/
def plainIn : Device :=
  { mailbox := {}, sms := [smD 0x1000 0x00 4], fmmuUsage := [2], fmmuEx := [], txPdos := [⟨0x1a00, 0, 17⟩],
    rxPdos := [], coe := fun _ => none, oversampling := [], fmmuCount := 8 }

/-- A device with a mailbox but without CoE (FoE only): outputs on SM2, inputs on SM3 — and a controller with
    three FMMU entities (0, 1, 2), like an ET1200-based terminal. -/
def foeDev : Device :=
  { mailbox := { recvSize := 64, sendSize := 64, protocols := 8 }
    sms := [smD 0x1000 0x26 1, smD 0x1080 0x22 2, smD 0x1100 0x64 3, smD 0x1400 0x20 4]
    fmmuUsage := [1, 2, 3], fmmuEx := [], txPdos := [⟨0x1a00, 3, 16⟩], rxPdos := [⟨0x1600, 2, 16⟩],
    coe := fun _ => none, oversampling := [], fmmuCount := 3 }

/-- An input device inside the property's quantifier: 5 TxPDOs of 255 entries × 64 bit each on one sync manager. -/
def bigIn : Device :=
  { mailbox := {}, sms := [smD 0x1000 0x00 4], fmmuUsage := [2], fmmuEx := [],
    txPdos := [⟨0x1a00, 0, 16320⟩, ⟨0x1a01, 0, 16320⟩, ⟨0x1a02, 0, 16320⟩, ⟨0x1a03, 0, 16320⟩, ⟨0x1a04, 0, 16320⟩],
    rxPdos := [], coe := fun _ => none, oversampling := [], fmmuCount := 8 }

/-- 2 TxPDO entries of 64 bit, oversampling factor 512: 65 536 bits. -/
def osIn : Device :=
  { mailbox := {}, sms := [smD 0x1000 0x00 4], fmmuUsage := [2], fmmuEx := [], txPdos := [⟨0x1a00, 0, 128⟩],
    rxPdos := [], coe := fun _ => none, oversampling := [(0x1a00, 512)], fmmuCount := 8 }

/-- `n` TxPDOs of 255 entries × 255 bit (the largest PDO an EEPROM can describe) on one sync manager. -/
def hugeIn (n : Nat) : Device :=
  { mailbox := {}, sms := [smD 0x1000 0x00 4], fmmuUsage := [2], fmmuEx := [],
    txPdos := (List.range n).map fun j => ⟨0x1a00 + j, 0, 65025⟩,
    rxPdos := [], coe := fun _ => none, oversampling := [], fmmuCount := 8 }

/-- A CoE device with two output sync managers of 40 000 bytes each (one 250-bit mapping, oversampling 1280). -/
def coeBig : Device :=
  { mailbox := { recvSize := 64, sendSize := 64, protocols := 4 }
    sms := [smD 0x1000 0x26 1, smD 0x1080 0x22 2, smD 0x1100 0x64 3, smD 0xad40 0x64 3]
    fmmuUsage := [1, 2, 3], fmmuEx := [], txPdos := [], rxPdos := []
    coe := fun i => if i = 2 then some [⟨0x1600, [250]⟩] else if i = 3 then some [⟨0x1601, [250]⟩] else none
    oversampling := [(0x1600, 1280), (0x1601, 1280)], fmmuCount := 8 }

def fresh1 (d : Device) : List (Device × DevState) := [(d, initDev d)]

theorem fresh1_fresh (d : Device) : Fresh (fresh1 d) := by
  intro y hy k
  cases List.mem_singleton.1 hy
  exact initDev_fresh d k

/-- Evaluate something on the devices of a programmed layout (empty list if there is none). -/
def onLayout {α : Type} (r : Out GroupLayout) (f : Device × DevState → α) : List α :=
  match r with
  | .ok g => g.devs.map f
  | _ => []

theorem onLayout_singleton {α : Type} {r : Out GroupLayout} {f : Device × DevState → α} {v : α}
    (h : onLayout r f = [v]) : ∃ g x, r = .ok g ∧ g.devs = [x] ∧ f x = v := by
  cases r with
  | ok g =>
    simp only [onLayout] at h
    match hd : g.devs, h with
    | [x], h => exact ⟨g, x, rfl, hd, by simpa using h⟩
  | err e => simp [onLayout] at h
  | panic w => simp [onLayout] at h

def isPanic {α : Type} : Out α → Bool
  | .panic _ => true
  | _ => false

def errOf {α : Type} : Out α → Option Err
  | .err e => some e
  | _ => none

end Witness

open Witness

/-- Kernel evaluation behind `fmmu_maps_exactly_counterexample`: the CoE device with its second output sync
    manager at 0x1200. Outputs window = image bytes 7..12; logical byte 9 is byte 2 of the window, i.e. byte 0 of
    SM3 = physical 0x1200 — but the one shared FMMU delivers it to 0x1102. -/
theorem coe_shared_fmmu_eval :
    onLayout (groupLayout .checked 0 (fresh1 (coeDev 0x1200 0x1500))) (fun x =>
      (fmmuMap x.2.regs.fmmu x.1.fmmuCount true 9, physAt (smRanges x.1 x.2.regs .output) (9 - (0 + x.2.output.1)),
       x.2.output, x.2.hasCoe, x.1.fmmuUsage.length, x.1.fmmuCount))
      = [([0x1102], some 0x1200, (7, 12), true, 3, 8)] := by decide +kernel

/-- COUNTEREXAMPLE to the full statement of `fmmu_maps_exactly_partial` (hypothesis `SharedContig` dropped):
    CoE path, two sync managers of one direction that are not physically contiguous share ONE FMMU (the second
    only adds to `length_bytes`), so the mapping is wrong although every FMMU the MainDevice picked exists. -/
theorem fmmu_maps_exactly_counterexample :
    ∃ (d : Device) (g : GroupLayout), Fresh (fresh1 d) ∧ groupLayout .checked 0 (fresh1 d) = .ok g ∧
      ∃ x ∈ g.devs, FmmuAvail x.1 x.2.hasCoe ∧ ¬ MapsExactly 0 x := by
  obtain ⟨g, x, hg, hd, hv⟩ := onLayout_singleton coe_shared_fmmu_eval
  simp only [Prod.mk.injEq] at hv
  obtain ⟨v1, v2, v3, v4, v5, v6⟩ := hv
  refine ⟨coeDev 0x1200 0x1500, g, ?_, hg, x, by simp [hd], ?_, ?_⟩
  · exact fresh1_fresh _
  · rw [v4]; exact fmmuAvail_coe (by rw [v5, v6]; decide)
  · intro hm
    have := ((hm true 9 0x1102).1 (by rw [v1]; simp)).2
    simp only [winOf, dirOf, if_true] at this
    rw [v2] at this
    simp at this

/-- Kernel evaluation behind `fmmu_avail_counterexample`: the FoE device. Inputs window = image bytes 0..2 on SM3
    at 0x1400, programmed into FMMU 3 — which a controller with three FMMU entities does not have. -/
theorem eeprom_fmmu_index_eval :
    onLayout (groupLayout .checked 0 (fresh1 foeDev)) (fun x =>
      (fmmuMap x.2.regs.fmmu x.1.fmmuCount false 0, physAt (smRanges x.1 x.2.regs .input) (0 - (0 + x.2.input.1)),
       x.2.input, x.2.hasCoe, (x.2.regs.fmmu 3).enable))
      = [([], some 0x1400, (0, 2), false, true)] := by decide +kernel

/-- COUNTEREXAMPLE to the full statement of `fmmu_maps_exactly_partial` (hypothesis `FmmuAvail` dropped):
    EEPROM path. The FMMU number used for a sync manager is the sync manager's own number (the FMMU_EX lookup
    returns `fmmu.sync_manager`, the FMMU usage list is never consulted), so inputs on SM3 need FMMU 3; a
    device with FMMUs 0..2 never maps them. -/
theorem fmmu_avail_counterexample :
    ∃ (d : Device) (g : GroupLayout), Fresh (fresh1 d) ∧ groupLayout .checked 0 (fresh1 d) = .ok g ∧
      ∃ x ∈ g.devs, SharedContig x.1 x.2.regs x.2.hasCoe ∧ ¬ MapsExactly 0 x := by
  obtain ⟨g, x, hg, hd, hv⟩ := onLayout_singleton eeprom_fmmu_index_eval
  simp only [Prod.mk.injEq] at hv
  obtain ⟨v1, v2, v3, v4, _⟩ := hv
  refine ⟨foeDev, g, ?_, hg, x, by simp [hd], ?_, ?_⟩
  · exact fresh1_fresh _
  · intro hc; rw [v4] at hc; simp at hc
  · intro hm
    have := (hm false 0 0x1400).2 ⟨by simp [InWin, winOf, v3], by
      simp only [winOf, dirOf, Bool.false_eq_true, if_false]; exact v2⟩
    rw [v1] at this
    simp at this

/-- COUNTEREXAMPLE to `groups_isolated` / `outputs_reach_only_owner` across groups when one group FAILED.
    Ring: `plainOut` (group 1), `plainOut`, `plainOut` (group 0); MAX_PDI 1 for group 0, 40 for group 1.
    `init` puts group 0 at logical 0 and group 1 at logical 1. Group 0 needs 2 bytes: `into_safe_op` returns
    `PdiTooLong {1, 2}` — but only after both devices were programmed, and nothing is undone: its second
    device keeps an enabled write FMMU at logical byte 1. Group 1 succeeds with its output window at logical
    byte 1: every cycle of group 1 also writes into the failed group's device. -/
theorem failed_group_keeps_fmmus_counterexample :
    -- what `init` + `into_safe_op` report, per group: (slot, start, error, output windows)
    ((match configNet .checked { devices := [(plainOut, 1), (plainOut, 0), (plainOut, 0)],
                                 maxPdi := fun s => if s = 0 then 1 else 40 } with
      | .ok res => res.map fun u => (u.1, u.2.1, errOf u.2.2, onLayout u.2.2 fun x => x.2.output)
      | _ => []) = [(0, 0, some (.pdiTooLong 1 2), []), (1, 1, none, [(0, 1)])]) ∧
    -- what the devices of the failed group are left with: logical byte 1 (write) per device
    onLayout (groupLayout .checked 0 [(plainOut, initDev plainOut), (plainOut, initDev plainOut)])
      (fun x => fmmuMap x.2.regs.fmmu x.1.fmmuCount true 1) = [[], [0x0f00]] ∧
    -- the running group's device translates the same logical byte
    onLayout (groupConfigureFmmus .checked 1 40 (fresh1 plainOut))
      (fun x => fmmuMap x.2.regs.fmmu x.1.fmmuCount true 1) = [[0x0f00]] := by
  refine ⟨by decide +kernel, by decide +kernel, by decide +kernel⟩

/-- FIXED (5 PDOs of 255 × 64-bit entries on one sync manager = 81 600 bits = 10 200 bytes, MAX_PDI 65 535:
    before the repair the overflow-checking build panicked in `configure_pdos_eeprom` (`.sum()` of u16) and the
    wrapping build silently configured 2 008 bytes). Both builds configure the 10 200 bytes the PDO
    configuration requires; with a capacity of 4 000 bytes both return `PdiTooLong` with the true length.
    Likewise 2 × 64 bit × oversampling 512 = 65 536 bits = 8 192 bytes. -/
theorem bit_length_overflow_fixed :
    (∀ m : Mode, onLayout (groupConfigureFmmus m 0 65535 (fresh1 bigIn))
      (fun x => (x.2.input, windowLenSpec x.1 x.2.hasCoe .input, (x.2.regs.sm 0).len, (x.2.regs.fmmu 0).length))
        = [((0, 10200), 10200, 10200, 10200)]) ∧
    (∀ m : Mode, errOf (groupConfigureFmmus m 0 4000 (fresh1 bigIn)) = some (.pdiTooLong 4000 10200)) ∧
    (∀ m : Mode, onLayout (groupConfigureFmmus m 0 65535 (fresh1 osIn))
      (fun x => (x.2.input, windowLenSpec x.1 x.2.hasCoe .input)) = [((0, 8192), 8192)]) := by
  refine ⟨fun m => by cases m <;> decide +kernel, fun m => by cases m <;> decide +kernel, fun m => by cases m <;> decide +kernel⟩

/-- Where the repaired arithmetic ends in an error: a sync manager of 9 × 65 025 bits = 73 154 bytes does not
    fit the 16-bit length register (`Err.intConv`), in both builds; 8 × 65 025 bits = 65 025 bytes still does. A
    CoE device whose two output sync managers (40 000 bytes each) share one FMMU overflows the FMMU length
    (`checked_add`): `Err.intConv` as well, in both builds. -/
theorem unrepresentable_lengths_are_errors :
    (∀ m : Mode, errOf (groupConfigureFmmus m 0 65535 (fresh1 (hugeIn 9))) = some .intConv) ∧
    (∀ m : Mode, onLayout (groupConfigureFmmus m 0 65535 (fresh1 (hugeIn 8))) (fun x => x.2.input) = [(0, 65025)]) ∧
    (∀ m : Mode, errOf (groupConfigureFmmus m 0 65535 (fresh1 coeBig)) = some .intConv) := by
  refine ⟨fun m => by cases m <;> decide +kernel, fun m => by cases m <;> decide +kernel, fun m => by cases m <;> decide +kernel⟩

/-! ## Non-vacuity: concrete configurations satisfying all hypotheses -/

/-- The same CoE device with physically contiguous sync managers (0x1100+2 = 0x1102, 0x1400+3 = 0x1403) between
    two plain terminals, in a group starting at logical 300 with capacity 40: configured, 13 bytes, inputs first. -/
example :
    (match groupConfigureFmmus .checked 300 40
        [(plainIn, initDev plainIn), (coeDev 0x1102 0x1403, initDev (coeDev 0x1102 0x1403)), (plainOut, initDev plainOut)] with
     | .ok g => some (g.readLen, g.pdiLen, g.devs.map fun x => (x.2.input, x.2.output))
     | _ => none) = some (10, 16, [((0, 3), (10, 10)), ((3, 10), (10, 15)), ((10, 10), (15, 16))]) := by decide +kernel

/-- … and its hypotheses `FmmuAvail` and `SharedContig` hold, and the mapping is the expected one:
    logical 300+10+2 (third output byte of the CoE device) goes to 0x1102, which is byte 0 of SM3. -/
example :
    onLayout (groupLayout .checked 300
        [(plainIn, initDev plainIn), (coeDev 0x1102 0x1403, initDev (coeDev 0x1102 0x1403)), (plainOut, initDev plainOut)])
      (fun x => (decide (Contig 0x1100 (smRanges x.1 x.2.regs .output)), decide (Contig 0x1400 (smRanges x.1 x.2.regs .input)),
                 fmmuMap x.2.regs.fmmu x.1.fmmuCount true 312, fmmuMap x.2.regs.fmmu x.1.fmmuCount false 300))
      = [(true, false, [], [0x1000]), (true, true, [0x1102], []), (false, true, [], [])] := by decide +kernel

/-- `Device.TypesOk` is satisfiable by exactly the descriptions one expects: the witnesses of the repaired
    overflow — the largest PDOs an EEPROM can describe, an oversampling factor of 512 — satisfy it, so
    `configuration_total` / `exact_windows_or_error` / `unrepresentable_length_is_error` apply to them. -/
example : bigIn.TypesOk ∧ osIn.TypesOk ∧ (hugeIn 9).TypesOk ∧ plainIn.TypesOk :=
  ⟨⟨by decide, by decide, by decide, by decide, by intro i pdos h; simp [bigIn] at h⟩,
   ⟨by decide, by decide, by decide, by decide, by intro i pdos h; simp [osIn] at h⟩,
   ⟨by decide, by decide, by decide, by decide, by intro i pdos h; simp [hugeIn] at h⟩,
   ⟨by decide, by decide, by decide, by decide, by intro i pdos h; simp [plainIn] at h⟩⟩

/-- The hypotheses of `exact_windows_or_error` hold for the state `init` leaves a device in. -/
example : ∀ x ∈ fresh1 bigIn, x.2.regs.Rep := by
  intro x hx
  simp only [fresh1, List.mem_singleton] at hx
  subst hx
  exact initDev_rep ⟨by decide, by decide, by decide, by decide, by intro i pdos h; simp [bigIn] at h⟩

example : FmmuAvail (coeDev 0x1102 0x1403) true := fmmuAvail_coe (by decide)
example : FmmuAvail plainIn false := fmmuAvail_eeprom (by decide)
example : Fresh (fresh1 plainIn) := fresh1_fresh _

/-- `too_long_is_error` is not vacuous: two input terminals (3 bytes each) in a group declared with 4 bytes. -/
example :
    errOf (groupConfigureFmmus .checked 0 4 [(plainIn, initDev plainIn), (plainIn, initDev plainIn)])
      = some (.pdiTooLong 4 6) := by decide +kernel

/-- `groups_disjoint` is not vacuous: three groups, interleaved membership; `init` hands out the addresses in
    reverse order of first appearance (the IndexMap of groups is drained from the back). -/
example :
    (match configNet .checked { devices := [(plainIn, 1), (plainOut, 0), (plainIn, 2), (plainOut, 1), (plainIn, 0)],
                                maxPdi := fun s => if s = 0 then 6 else if s = 1 then 40 else 300 } with
     | .ok res => res.map fun u => (u.1, u.2.1, match u.2.2 with | .ok g => some g.pdiLen | _ => none)
     | _ => []) = [(2, 0, some 3), (0, 300, some 4), (1, 306, some 4)] := by decide +kernel

/-! ## T1: facts regenerated from /repo that the model relies on -/

open Ec.Gen.Layouts in
/-- `SyncManagerType` discriminants (Unknown 0 default, MailboxWrite 1, MailboxRead 2, ProcessDataWrite 3,
    ProcessDataRead 4) and `FmmuUsage` (Unused 0 / alt 0xFF, Outputs 1, Inputs 2, SyncManagerStatus 3), as
    `Dir.smType`, `Dir.fmmuType` and `SmDesc.usageType` use them. -/
theorem t1_discriminants :
    E_SyncManagerType.variants.map (·.disc) = [some 0, some 1, some 2, some 3, some 4] ∧
    (variantNames.lookup "SyncManagerType") =
      some ["Unknown", "MailboxWrite", "MailboxRead", "ProcessDataWrite", "ProcessDataRead"] ∧
    E_FmmuUsage.variants.map (·.disc) = [some 0, some 1, some 2, some 3] ∧
    (variantNames.lookup "FmmuUsage") = some ["Unused", "Outputs", "Inputs", "SyncManagerStatus"] ∧
    E_Direction.variants.map (·.disc) = [some 0, some 1] ∧ E_OperationMode.variants.map (·.disc) = [some 0, some 2] ∧
    Dir.input.smType = 4 ∧ Dir.output.smType = 3 ∧ Dir.input.fmmuType = 2 ∧ Dir.output.fmmuType = 1 := by
  decide +kernel

open Ec.Gen.Layouts in
/-- Field order of the two register images the MainDevice writes (the driver packs them through these layouts). -/
theorem t1_register_layouts :
    fieldNames.lookup "Fmmu" = some ["logical_start_address", "length_bytes", "logical_start_bit", "logical_end_bit",
      "physical_start_address", "physical_start_bit", "read_enable", "write_enable", "enable"] ∧
    fieldNames.lookup "SyncManagerChannel" = some ["physical_start_address", "length_bytes", "control", "status", "enable"] ∧
    S_Fmmu.bytes = some 16 ∧ S_SyncManagerChannel.bytes = some 8 := by
  decide +kernel

open Ec.Gen.Config in
/-- The arithmetic the model does is the arithmetic of the source (regenerated from
    `src/subdevice/configuration.rs`, `src/pdi.rs`, `src/eeprom/types.rs`, `src/subdevice/mod.rs` on every run): the PDO
    bit lengths are accumulated and multiplied in `u64` (`U64`) from `u8` / `u16` operands, both paths convert the
    byte length with `u16::try_from(bits.div_ceil(8))?` (`lenBytes`), no `(x + 7) / 8` on a bit length is left, the
    shared FMMU is extended with `checked_add` (`extendLen`) and the offset advances by the programmed byte length.
    Reverting the repair of c08/pdo-bit-length-u16-overflow breaks this theorem (and the extractor reports the
    missing shapes) before any failing input is searched for. -/
theorem t1_config_arithmetic :
    SM_BIT_LEN_BITS = 64 ∧ PDO_BIT_LEN_BITS = 64 ∧ MAPPING_WIDENED_TO_BITS = 64 ∧
    COE_OVERSAMPLING_WIDENED_TO_BITS = 64 ∧ EEPROM_SUM_BITS = 64 ∧ EEPROM_PRODUCT_BITS = 64 ∧
    U64 = 2 ^ SM_BIT_LEN_BITS ∧
    PDO_BIT_LEN_FIELD_BITS = 16 ∧ OVERSAMPLING_FACTOR_BITS = 16 ∧ SM_LENGTH_REGISTER_BITS = 16 ∧
    U16 = 2 ^ SM_LENGTH_REGISTER_BITS ∧
    byteLenCheckedConversions = 2 ∧ plusSevenRoundings = 0 ∧ fmmuExtendChecked = 1 ∧ fmmuExtendUnchecked = 0 ∧
    offsetAdvancesByProgrammedLength = 1 ∧ offsetAdvancesByBits = 0 ∧ incrementByteAlignedDivCeil = 1 := by
  decide +kernel

end Ec.C08
