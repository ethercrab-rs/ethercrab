/-
  C19 — the hand-written impls of ethercrab-wire/src/impls.rs: `heapless::Vec<T, N>`, `heapless::String<N>`, `[T; N]`,
  tuples, `()`, `bool`, and the `EtherCrabWireSized::buffer()` sizes.
  Property theorems only; the model is EcModel/WireImpls.lean (+ `decTuple`, `Codec.array`, `Codec.bool`, `Codec.unitTy` of
  EcModel/Wire.lean), helper lemmas are in EcModel/Lemmas/WireImpls.lean.

  Reading guide. A buffer is ANY list of bytes of ANY length. `hvecDec c n buf` is
  `<heapless::Vec<T, n>>::unpack_from_slice(buf)` for an element type with codec `c` (`c.len = T::PACKED_LEN`);
  `hstrDec n buf` is `<heapless::String<n>>::unpack_from_slice(buf)`; `arrayDecImpl c n buf` is
  `<[T; n]>::unpack_from_slice(buf)`; `decTuple cs buf` is the tuple decoder over component codecs `cs`;
  `tuplePackU` / `tuplePackToSlice` are the tuple's `pack_to_slice_unchecked` / `pack_to_slice`.
  `decChunks c k buf` decodes `k` consecutive elements from offsets `0, len, 2·len, …` (first failure wins);
  `slice buf a b` is `&buf[a..b]`. An outcome is `.ok v`, `.err e` (a `WireError`) or `.panic why`.

  Hypotheses that appear:
  * `0 < c.len`                  — the element type is not zero-sized (`heapless::Vec<(), N>` / `[(); N]` panic in
                                   `chunks_exact(0)` for every buffer: `heapless_vec_zero_size_panics`);
  * `∀ b why, c.dec b ≠ .panic why` — the element decoder itself does not panic (true of every lawful codec);
  * `AllLawfulC cs`              — the tuple's components obey the trait laws `Lawful` (primitives, bool, arrays of them,
                                   derived structs/enums: Lemmas/WireCodecs, WireRoundtrip, WireEnum). `heapless::Vec` /
                                   `heapless::String` components are NOT lawful (they accept buffers shorter than
                                   PACKED_LEN); the layout theorems
                                   (`tuple_unpack_fields`, `tuple_roundtrip`, …) are about lawful components;
  * `Modelled c`                 — any component type of the model: lawful ones, `()`, `heapless::Vec` / `[T; N]` over a
                                   modelled element of non-zero size, `heapless::String`. `tuple_unpack_total` (never a
                                   panic) holds for ALL of them since fix-c19-tuple-short (`buf.get(PACKED_LEN..)` instead of
                                   `&buf[PACKED_LEN..]`); the former witnesses are `tuple_unpack_short_heapless_fixed`.
-/
import EcModel.Lemmas.WireImpls

namespace Ec.C19
open Ec.Wire

/-! ## `heapless::Vec<T, N>` -/

/-- **heapless_vec_unpack_total.** Whatever the buffer (shorter than, equal to or longer than N elements, with or without a
    trailing partial element) and whatever N: decoding a `heapless::Vec<T, N>` never panics — neither `chunks_exact`
    (element size > 0) nor the `collect` into the fixed-capacity vector (`.take(N)` bounds the number of pushes). -/
theorem heapless_vec_unpack_total (c : Codec) (hpos : 0 < c.len) (hc : ∀ b why, c.dec b ≠ .panic why)
    (n : Nat) (buf : List Nat) (why : String) : hvecDec c n buf ≠ .panic why := by
  rw [hvecDec_eq c hpos]
  exact bindO_ok_ne_panic (fun w => decChunks_total c hc _ _ w) why

/-- **heapless_vec_unpack_prefix.** A buffer of at least `N * size` bytes decodes to exactly its first N elements (the rest
    is ignored); a shorter buffer decodes to the complete elements present (`⌊len / size⌋` of them; a trailing partial
    element is dropped). Elements are decoded in order and the first failing element's error is the result. -/
theorem heapless_vec_unpack_prefix (c : Codec) (hpos : 0 < c.len) (n : Nat) (buf : List Nat) :
    (n * c.len ≤ buf.length → hvecDec c n buf = bindO (decChunks c n buf) fun vs => .ok (.seq vs)) ∧
    (buf.length < n * c.len → hvecDec c n buf = bindO (decChunks c (buf.length / c.len) buf) fun vs => .ok (.seq vs)) := by
  rw [hvecDec_eq c hpos]
  constructor
  · intro h
    have : n ≤ buf.length / c.len := (Nat.le_div_iff_mul_le hpos).mpr h
    rw [Nat.min_eq_left this]
  · intro h
    have : buf.length / c.len < n := (Nat.div_lt_iff_lt_mul hpos).mpr h
    rw [Nat.min_eq_right (by omega)]

/-- What a successful decode holds: `min N ⌊len / size⌋` elements, element `i` decoded from bytes
    `[i * size, i * size + size)` of the buffer. -/
theorem heapless_vec_unpack_elements (c : Codec) (hpos : 0 < c.len) (n : Nat) (buf : List Nat) (vs : List Val)
    (h : hvecDec c n buf = .ok (.seq vs)) :
    vs.length = min n (buf.length / c.len) ∧
    ∀ i (hi : i < vs.length), c.dec (slice buf (i * c.len) (i * c.len + c.len)) = .ok vs[i] := by
  rw [hvecDec_eq c hpos] at h
  obtain ⟨vs', hvs', h⟩ := bindO_eq_ok.mp h
  simp only [Outcome.ok.injEq, Val.seq.injEq] at h
  subst h
  exact decChunks_get c _ buf vs' hvs'

/-- For the unsigned primitives (u8, u16, u32, u64 = `Codec.uN 1/2/4/8`) the decode always succeeds and element `i` is the
    little-endian value of bytes `[i * k, i * k + k)`: the first `min N ⌊len / k⌋` elements of the declared layout. -/
theorem heapless_vec_unpack_prims (k : Nat) (hk : 0 < k) (n : Nat) (buf : List Nat) :
    ∃ vs, hvecDec (Codec.uN k) n buf = .ok (.seq vs) ∧ vs.length = min n (buf.length / k) ∧
      ∀ i (hi : i < vs.length), vs[i] = .int (leVal (slice buf (i * k) (i * k + k))) := by
  have hpos : 0 < (Codec.uN k).len := hk
  have hfit : min n (buf.length / k) * k ≤ buf.length :=
    Nat.le_trans (Nat.mul_le_mul_right k (Nat.min_le_right _ _)) (Nat.div_mul_le_self _ _)
  obtain ⟨vs, hvs⟩ := decChunks_ok_of_full (Codec.uN k) (fun _ => uN_dec_full) _ buf hfit
  have hdec : hvecDec (Codec.uN k) n buf = .ok (.seq vs) := by
    rw [hvecDec_eq _ hpos]
    show bindO (decChunks (Codec.uN k) (min n (buf.length / k)) buf) _ = _
    rw [hvs]; rfl
  obtain ⟨hl, hg⟩ := heapless_vec_unpack_elements _ hpos n buf vs hdec
  refine ⟨vs, hdec, hl, fun i hi => ?_⟩
  have h : vs[i] = .int (leVal ((slice buf (i * k) (i * k + k)).take k)) := (uN_dec_eq_ok.mp (hg i hi)).2
  rw [h, List.take_of_length_le]
  unfold slice
  rw [Nat.add_sub_cancel_left]
  exact List.length_take_le ..

/-- Zero-sized elements (`heapless::Vec<(), N>`): `chunks_exact(0)` panics for EVERY buffer. This is why the theorems above
    assume `0 < c.len`. -/
theorem heapless_vec_zero_size_panics (c : Codec) (h0 : c.len = 0) (n : Nat) (buf : List Nat) :
    hvecDec c n buf = .panic "chunk size must be non-zero" := by
  simp [hvecDec, chunksExact, h0, bindO]

/-- **heapless_vec_no_take_counterexample.** What `.take(N)` is there for: the same pipeline without it panics inside
    heapless' `FromIterator` (`Vec::from_iter overflow`) for EVERY N as soon as the buffer holds N + 1 elements of an
    unsigned primitive. -/
theorem heapless_vec_no_take_counterexample (k : Nat) (hk : 0 < k) (n : Nat) (buf : List Nat)
    (hl : (n + 1) * k ≤ buf.length) :
    hvecDecNoTake (Codec.uN k) n buf = .panic "Vec::from_iter overflow" :=
  hvecDecNoTake_overflow (Codec.uN k) hk (fun _ => uN_dec_full) n buf hl

/-- Concrete witness: `heapless::Vec<u8, 1>` on the two bytes `00 00`. -/
theorem heapless_vec_no_take_witness :
    hvecDecNoTake (Codec.uN 1) 1 [0, 0] = .panic "Vec::from_iter overflow" ∧
    hvecDec (Codec.uN 1) 1 [0, 0] = .ok (.seq [.int 0]) := ⟨by rfl, by rfl⟩

/-! ## `heapless::String<N>` -/

/-- **heapless_string_unpack.** For every buffer and every N: never a panic; invalid UTF-8 is `InvalidUtf8`; valid UTF-8 of
    more than N bytes is `ArrayLength`; valid UTF-8 of at most N bytes is the string holding exactly the buffer's bytes
    (the whole buffer is the string: `PACKED_LEN = N` is a capacity, not a length). -/
theorem heapless_string_unpack (n : Nat) (buf : List Nat) :
    (∀ why, hstrDec n buf ≠ .panic why) ∧
    (utf8Valid buf = false → hstrDec n buf = .err .invalidUtf8) ∧
    (utf8Valid buf = true → n < buf.length → hstrDec n buf = .err .arrayLength) ∧
    (utf8Valid buf = true → buf.length ≤ n → hstrDec n buf = .ok (.seq (buf.map fun (b : Nat) => .int (b : Int)))) := by
  refine ⟨?_, ?_, ?_, ?_⟩
  · intro why h
    unfold hstrDec at h
    split at h
    · split at h <;> cases h
    · cases h
  · intro h; simp [hstrDec, h]
  · intro h hl
    have : ¬ buf.length ≤ n := by omega
    simp [hstrDec, h, this]
  · intro h hl; simp [hstrDec, h, hl]

/-- Round trip with `str::as_bytes` as the writer (the crate has no `EtherCrabWireWrite` impl for strings): the UTF-8
    encoding of ANY sequence of Unicode scalar values, if it has at most N bytes, decodes to the string with exactly those
    bytes; if it is longer the answer is `ArrayLength`. -/
theorem heapless_string_roundtrip (n : Nat) (cps : List Nat) (hs : ∀ cp ∈ cps, isScalar cp) :
    ((encodeStr cps).length ≤ n →
      hstrDec n (encodeStr cps) = .ok (.seq ((encodeStr cps).map fun (b : Nat) => .int (b : Int)))) ∧
    (n < (encodeStr cps).length → hstrDec n (encodeStr cps) = .err .arrayLength) :=
  ⟨(heapless_string_unpack n _).2.2.2 (utf8Valid_encodeStr cps hs),
   (heapless_string_unpack n _).2.2.1 (utf8Valid_encodeStr cps hs)⟩

/-- A multi-byte code point cut off by the end of the buffer is invalid, whatever precedes it: "€" = e2 82 ac cut after
    two bytes, after a valid prefix. -/
theorem heapless_string_cut_code_point (n : Nat) (cps : List Nat) (hs : ∀ cp ∈ cps, isScalar cp) :
    hstrDec n (encodeStr cps ++ [0xe2, 0x82]) = .err .invalidUtf8 :=
  (heapless_string_unpack n _).2.1 (utf8Valid_encodeStr_append cps hs _)

/-! ## `[T; N]` -/

/-- **array_unpack_exact.** For every buffer and every N: fewer than `N * size` bytes is `ReadBufferTooShort` (the code
    checks this first; the `ArrayLength` of `into_array` is unreachable: `array_impl_is_codec_array`); at least
    `N * size` bytes decode to exactly the first N elements, trailing bytes ignored; never a panic (element size > 0). -/
theorem array_unpack_exact (c : Codec) (n : Nat) (buf : List Nat) :
    (buf.length < c.len * n → arrayDecImpl c n buf = .err .readBufferTooShort) ∧
    (0 < c.len → c.len * n ≤ buf.length →
      arrayDecImpl c n buf = bindO (decChunks c n buf) fun vs => .ok (.seq vs)) ∧
    (0 < c.len → (∀ b why, c.dec b ≠ .panic why) → ∀ why, arrayDecImpl c n buf ≠ .panic why) := by
  refine ⟨fun h => by simp [arrayDecImpl, h], ?_, ?_⟩
  · intro hpos hl
    rw [arrayDecImpl_eq_codec, array_dec_eq hpos, if_neg (by omega),
      decChunks_take c n _ buf (by rw [Nat.mul_comm]; exact Nat.le_refl _)]
  · intro hpos hc why
    rw [arrayDecImpl_eq_codec, array_dec_eq hpos]
    split
    · exact nofun
    · exact bindO_ok_ne_panic (fun w => decChunks_total c hc _ _ w) why

/-- The line-by-line model of the array decoder (chunks, take, collect into a `heapless::Vec`, `into_array`) is the
    `Codec.array` the struct theorems of Props/C19 are about; so `into_array` never fails. -/
theorem array_impl_is_codec_array (c : Codec) (n : Nat) (buf : List Nat) :
    arrayDecImpl c n buf = (Codec.array c n).dec buf :=
  arrayDecImpl_eq_codec c n buf

/-- `into_array`'s error is never the answer for element types that cannot produce it themselves. -/
theorem array_length_error_unreachable (c : Codec) (n : Nat) (buf : List Nat)
    (hc : ∀ b, c.dec b ≠ .err .arrayLength) : arrayDecImpl c n buf ≠ .err .arrayLength := by
  rw [arrayDecImpl_eq_codec]
  intro h
  rcases array_dec_err h with h' | ⟨b, hb⟩
  · cases h'
  · exact hc b hb

/-- Zero-sized elements (`[(); N]`): `chunks_exact(0)` panics for every buffer. -/
theorem array_zero_size_panics (c : Codec) (h0 : c.len = 0) (n : Nat) (buf : List Nat) :
    arrayDecImpl c n buf = .panic "chunk size must be non-zero" := by
  simp [arrayDecImpl, chunksExact, h0, bindO]

/-- `[u8; N]` (the only array with a write impl) round-trips, also with trailing bytes; arrays over any lawful element
    type of non-zero size are lawful codecs. -/
theorem array_roundtrip (c : Codec) (n : Nat) (hc : Lawful c) (hpos : 0 < c.len) (v : Val) (bs extra : List Nat)
    (hv : (Codec.array c n).valid v) (he : (Codec.array c n).enc v = .ok bs) :
    arrayDecImpl c n (bs ++ extra) = .ok v := by
  rw [arrayDecImpl_eq_codec]
  exact (lawful_array c n hc hpos).roundtrip_append hv he extra

/-! ## tuples -/

/-- **tuple_unpack_fields.** For a buffer of at least the packed length the `if buf.len() > 0 { buf = buf.get(PACKED_LEN..)… }`
    walk decodes component `i` from the bytes at offset `PACKED_LEN_0 + … + PACKED_LEN_{i-1}`; components are decoded in
    order and the first failing one's error is the result. -/
theorem tuple_unpack_fields (cs : List Codec) (hl : AllLawfulC cs) (buf : List Nat) (hlen : sumLen cs ≤ buf.length) :
    decTuple cs buf = decTupleSpec cs buf ∧
    ∀ vs, decTuple cs buf = .ok vs →
      vs.length = cs.length ∧
      ∀ (i : Nat) (c : Codec) (v : Val), cs[i]? = some c → vs[i]? = some v →
        c.dec (slice buf (sumLen (cs.take i)) (sumLen (cs.take i) + c.len)) = .ok v := by
  have h := decTuple_eq_spec cs buf hl hlen
  exact ⟨h, fun vs hvs => decTupleSpec_get cs buf vs (h ▸ hvs)⟩

/-- A buffer shorter than the packed length is an error (of the first component that does not find its bytes, or of an
    earlier one that rejects its value). -/
theorem tuple_unpack_short_error (cs : List Codec) (hl : AllLawfulC cs) (buf : List Nat) (hlen : buf.length < sumLen cs) :
    ∃ e, decTuple cs buf = .err e :=
  decTuple_short cs buf hl hlen

/-- The component types a tuple can be built from, as far as the model knows them: every lawful codec (primitives, bool,
    derived structs and enums, arrays of them), `()`, `heapless::Vec<T, N>` and `[T; N]` over a modelled element type of
    non-zero size, `heapless::String<N>`. -/
inductive Modelled : Codec → Prop
  | lawful {c : Codec} : Lawful c → Modelled c
  | unit : Modelled Codec.unitTy
  | hvec {c : Codec} (n : Nat) : Modelled c → 0 < c.len → Modelled (Codec.hvec c n)
  | hstr (n : Nat) : Modelled (Codec.hstr n)
  | array {c : Codec} (n : Nat) : Modelled c → 0 < c.len → Modelled (Codec.array c n)

/-- No modelled component decoder panics, whatever the buffer. -/
theorem modelled_dec_total {c : Codec} (h : Modelled c) : DecTotal c := by
  induction h with
  | lawful hl => exact hl.dec_total
  | unit => intro b why; simp [Codec.unitTy]
  | hvec n _ hpos ih => exact fun b why => heapless_vec_unpack_total _ hpos ih n b why
  | hstr n => exact fun b why => (heapless_string_unpack n b).1 why
  | array n _ hpos ih =>
    intro b why
    have := (array_unpack_exact _ n b).2.2 hpos ih why
    rwa [arrayDecImpl_eq_codec] at this

/-- **tuple_unpack_total.** For EVERY buffer and every tuple of modelled components — lawful or not, `heapless::Vec` and
    `heapless::String` included — `unpack_from_slice` returns a value or an error, never a panic: the walk advances with
    the checked `buf.get(PACKED_LEN..)`, so a component that decoded successfully from fewer than `PACKED_LEN` bytes is
    answered with `ReadBufferTooShort`. -/
theorem tuple_unpack_total (cs : List Codec) (hm : ∀ c ∈ cs, Modelled c) (buf : List Nat) :
    (∀ why, decTuple cs buf ≠ .panic why) ∧ ((∃ vs, decTuple cs buf = .ok vs) ∨ (∃ e, decTuple cs buf = .err e)) := by
  have ht : ∀ why, decTuple cs buf ≠ .panic why :=
    fun why => decTuple_total_of_decTotal cs buf why (fun c hc => modelled_dec_total (hm c hc))
  refine ⟨ht, ?_⟩
  cases h : decTuple cs buf with
  | ok vs => exact Or.inl ⟨vs, rfl⟩
  | err e => exact Or.inr ⟨e, rfl⟩
  | panic w => exact absurd h (ht w)

/-- The witnesses of the former defect (known finding c19/impl-tuple-varlen-short-panic, repaired by fix-c19-tuple-short):
    `<(heapless::Vec<u8, 4>, u8)>::unpack_from_slice(&[1, 2])`, `<(heapless::String<4>, u8)>::unpack_from_slice(b"ab")`
    and `<(u8, heapless::Vec<u8, 2>)>::unpack_from_slice(&[1, 2])` indexed `&buf[PACKED_LEN..]` out of range; they are
    `Err(ReadBufferTooShort)` now, and with enough bytes nothing changed. -/
theorem tuple_unpack_short_heapless_fixed :
    decTuple [Codec.hvec (Codec.uN 1) 4, Codec.uN 1] [1, 2] = .err .readBufferTooShort ∧
    decTuple [Codec.hstr 4, Codec.uN 1] [0x61, 0x62] = .err .readBufferTooShort ∧
    decTuple [Codec.uN 1, Codec.hvec (Codec.uN 1) 2] [1, 2] = .err .readBufferTooShort ∧
    decTuple [Codec.hvec (Codec.uN 1) 4, Codec.uN 1] [1, 2, 3, 4, 5] = .ok [.seq [.int 1, .int 2, .int 3, .int 4], .int 5] :=
  ⟨by rfl, by rfl, by rfl, by rfl⟩

/-- Consequence of `heapless::String` taking the whole remaining buffer as the string: a tuple with a
    `heapless::String<N>` in front of another component of non-zero size NEVER decodes, whatever the buffer. -/
theorem tuple_after_string_never_decodes (n : Nat) (c : Codec) (hc : Lawful c) (hpos : 0 < c.len) (buf : List Nat)
    (vs : List Val) : decTuple [Codec.hstr n, c] buf ≠ .ok vs := by
  intro h
  simp only [decTuple] at h
  obtain ⟨v, hv, h⟩ := bindO_eq_ok.mp h
  have hle : buf.length ≤ n := by
    simp only [Codec.hstr, hstrDec] at hv
    split at hv
    · split at hv
      · assumption
      · cases hv
    · cases hv
  split at h
  · cases h
  · obtain ⟨v2, hv2, _⟩ := bindO_eq_ok.mp h
    obtain ⟨v3, hv3, _⟩ := bindO_eq_ok.mp hv2
    have hlen := hc.len_le_of_ok hv3
    have hn : (Codec.hstr n).len = n := rfl
    split at hlen
    · rw [List.length_drop, hn] at hlen; omega
    · omega

/-- **tuple_pack_fields.** Into a destination of at least the packed length, `pack_to_slice_unchecked` (and
    `pack_to_slice`) store component `i`'s own encoding at offset `PACKED_LEN_0 + … + PACKED_LEN_{i-1}`, leave the bytes
    behind the image alone and do not panic. -/
theorem tuple_pack_fields (cs : List Codec) (hl : AllLawfulC cs) (vs : List Val) (hv : validTuple cs vs)
    (dst : List Nat) (hlen : sumLen cs ≤ dst.length) :
    ∃ bs, bs.length = sumLen cs ∧ AllBytes bs ∧
      tuplePackU cs vs dst = .ok (bs ++ dst.drop (sumLen cs)) ∧
      tuplePackToSlice cs vs dst = .ok (bs ++ dst.drop (sumLen cs)) ∧
      ∀ (i : Nat) (c : Codec) (v : Val), cs[i]? = some c → vs[i]? = some v →
        c.enc v = .ok (slice bs (sumLen (cs.take i)) (sumLen (cs.take i) + c.len)) := by
  obtain ⟨bs, hbs, hbl, hba⟩ := encTuple_ok cs vs hl hv
  have hu := tuplePackU_ok (dst := dst) hlen hbs hbl
  refine ⟨bs, hbl, hba, hu, ?_, encTuple_get cs vs bs hl hbs⟩
  have : ¬ dst.length < sumLen cs := by omega
  simp only [tuplePackToSlice, this, if_false, hu]

/-- The line-by-line `split_at_mut` walk is the `Codec.tuple` of Wire.lean (used by the struct theorems for tuple-typed
    fields) on every destination of at least the packed length, including its panics on ill-typed values. -/
theorem tuple_pack_is_codec_tuple (cs : List Codec) (hl : AllLawfulC cs) (vs : List Val) (dst : List Nat)
    (hlen : sumLen cs ≤ dst.length) : tuplePackWalk cs vs dst = (Codec.tuple cs).packU (.seq vs) dst := by
  have h1 : ¬ dst.length < sumLen cs := by omega
  rw [tuplePackWalk_eq cs vs dst hlen]
  simp only [Codec.packU, Codec.tuple, h1, if_false]

/-- A destination shorter than the packed length: the checked `pack_to_slice` answers `WriteBufferTooShort` (for any
    components and values); the unchecked method panics (in `split_at_mut`), as its contract demands. -/
theorem tuple_pack_short (cs : List Codec) (vs : List Val) (dst : List Nat) (hlen : dst.length < sumLen cs) :
    tuplePackToSlice cs vs dst = .err .writeBufferTooShort ∧
    (AllLawfulC cs → validTuple cs vs → ∃ why, tuplePackU cs vs dst = .panic why) := by
  refine ⟨by simp [tuplePackToSlice, hlen], ?_⟩
  intro hl hv
  obtain ⟨w, hw⟩ := tuplePackWalk_short cs vs dst hl hv hlen
  exact ⟨w, by simp [tuplePackU, hw, bindO]⟩

/-- **tuple_roundtrip.** Unpacking what was packed gives the components back — also when more bytes follow the image. -/
theorem tuple_roundtrip (cs : List Codec) (hl : AllLawfulC cs) (vs : List Val) (hv : validTuple cs vs)
    (dst : List Nat) (hlen : sumLen cs ≤ dst.length) :
    ∃ out, tuplePackU cs vs dst = .ok out ∧ decTuple cs out = .ok vs := by
  obtain ⟨bs, hbs, hbl, _⟩ := encTuple_ok cs vs hl hv
  have hu' := tuplePackU_ok (dst := dst) hlen hbs hbl
  refine ⟨_, hu', ?_⟩
  rw [decTuple_eq_spec cs _ hl (by rw [List.length_append]; omega)]
  exact decTupleSpec_roundtrip cs vs bs _ hl hv hbs

/-! ## `()`, `bool`, `&[u8]` -/

/-- `()`: decodes from any buffer (also the empty one), packs to nothing. `bool`: an empty buffer is
    `ReadBufferTooShort`, any non-zero first byte is `true`, `true` packs to 0xff and `false` to 0x00. -/
theorem unit_and_bool_impls (buf : List Nat) (x : Nat) (b : Bool) :
    Codec.unitTy.dec buf = .ok (.seq []) ∧ Codec.unitTy.pack (.seq []) = .ok [] ∧
    Codec.bool.dec [] = .err .readBufferTooShort ∧ Codec.bool.dec (x :: buf) = .ok (.bool (decide (x > 0))) ∧
    Codec.bool.pack (.bool b) = .ok [if b then 255 else 0] ∧
    Codec.bool.dec [if b then 255 else 0] = .ok (.bool b) := by
  refine ⟨rfl, rfl, rfl, rfl, ?_, ?_⟩
  · cases b <;> rfl
  · cases b <;> rfl

/-- `&[u8]`: copied to the front of the destination; a shorter destination panics in the range index. -/
theorem slice_u8_pack (self dst : List Nat) :
    (self.length ≤ dst.length → sliceU8PackU self dst = .ok (self ++ dst.drop self.length)) ∧
    (dst.length < self.length → ∃ why, sliceU8PackU self dst = .panic why) := by
  constructor
  · intro h
    have : ¬ dst.length < self.length := by omega
    simp [sliceU8PackU, this]
  · intro h
    exact ⟨"range end index out of range", by simp only [sliceU8PackU, h, if_true]⟩

/-! ## `EtherCrabWireSized::buffer()` -/

/-- `buffer()` has `PACKED_LEN` bytes for every hand-written impl EXCEPT arrays: `[$ty; N]` declares
    `type Buffer = [u8; N]` while `PACKED_LEN = N * size`. -/
theorem buffer_sizes (s : SizedImpl) :
    s.bufferLen = s.packedLen ∨ ∃ size n, s = .array size n ∧ s.bufferLen = n ∧ s.packedLen = n * size := by
  cases s with
  | array size n => exact Or.inr ⟨size, n, rfl, rfl, rfl⟩
  | _ => exact Or.inl rfl

/-- Consequence (the cause of the C15 finding `c15/word-array-buffer`): for an element type wider than a byte and N ≥ 1 the
    array's own `buffer()` is shorter than its `PACKED_LEN`, so whatever is read into it can never be unpacked:
    `<[u16; N]>::unpack_from_slice(&<[u16; N]>::buffer())` is `ReadBufferTooShort`. -/
theorem array_buffer_shorter_counterexample (size n : Nat) (hs : 2 ≤ size) (hn : 1 ≤ n) (contents : List Nat)
    (hl : contents.length = (SizedImpl.array size n).bufferLen) :
    (SizedImpl.array size n).bufferLen < (SizedImpl.array size n).packedLen ∧
    arrayDecImpl (Codec.uN size) n contents = .err .readBufferTooShort := by
  have h1 : n < n * size := by
    calc n = n * 1 := (Nat.mul_one n).symm
      _ < n * size := Nat.mul_lt_mul_of_pos_left (by omega) (by omega)
  refine ⟨h1, ?_⟩
  refine (array_unpack_exact _ n contents).1 ?_
  rw [hl]
  show n < size * n
  rw [Nat.mul_comm]
  exact h1

/-! ## Non-vacuity -/

/-- The tuple hypotheses are satisfiable: `(u32, u8, bool, [u16; 2])`. -/
example : AllLawfulC [Codec.uN 4, Codec.uN 1, Codec.bool, Codec.array (Codec.uN 2) 2] :=
  ⟨lawful_uN 4, lawful_uN 1, lawful_bool, lawful_array _ 2 (lawful_uN 2) (by decide), trivial⟩

example : validTuple [Codec.uN 4, Codec.uN 1, Codec.bool] [.int 0xaabbccdd, .int 0x99, .bool true] :=
  ⟨⟨0xaabbccdd, rfl, by decide⟩, ⟨0x99, rfl, by decide⟩, ⟨true, rfl⟩, trivial⟩

/-- `tuple_unpack_total` is not vacuous: `(heapless::Vec<u8, 4>, u8, heapless::String<3>, [heapless::Vec<u16, 2>; 2], ())`. -/
example : ∀ c ∈ [Codec.hvec (Codec.uN 1) 4, Codec.uN 1, Codec.hstr 3, Codec.array (Codec.hvec (Codec.uN 2) 2) 2, Codec.unitTy],
    Modelled c := by
  intro c hc
  simp only [List.mem_cons, List.mem_nil_iff, or_false] at hc
  rcases hc with rfl | rfl | rfl | rfl | rfl
  · exact .hvec 4 (.lawful (lawful_uN 1)) (by decide)
  · exact .lawful (lawful_uN 1)
  · exact .hstr 3
  · exact .array 2 (.hvec 2 (.lawful (lawful_uN 2)) (by decide)) (by decide)
  · exact .unit

/-- Why `tuple_unpack_short_error` asks for lawful components: a `heapless::Vec` decodes the EMPTY buffer to the empty
    vector, and the walk does not advance over an empty buffer. -/
example : decTuple [Codec.hvec (Codec.uN 1) 4, Codec.hvec (Codec.uN 1) 4] [1, 2, 3, 4] =
    .ok [.seq [.int 1, .int 2, .int 3, .int 4], .seq []] := by rfl

/-- impls.rs' own tests `tuple_decode` / `tuple_encode`. -/
example : decTuple [Codec.uN 4, Codec.uN 1] [0xaa, 0xbb, 0xcc, 0xdd, 0x99] = .ok [.int 0xddccbbaa, .int 0x99] := by rfl
example : tuplePackU [Codec.uN 4, Codec.uN 1, Codec.uN 2] [.int 0xaabbccdd, .int 0x99, .int 0x1234] (zeros 9) =
    .ok [0xdd, 0xcc, 0xbb, 0xaa, 0x99, 0x34, 0x12, 0, 0] := by rfl
example : decTuple [Codec.uN 4, Codec.uN 1] [0xaa, 0xbb, 0xcc, 0xdd] = .err .readBufferTooShort := by rfl
example : tuplePackToSlice [Codec.uN 4, Codec.uN 1] [.int 1, .int 2] [0, 0, 0, 0] = .err .writeBufferTooShort := by rfl

/-- `heapless::Vec<u16, 2>`: shorter (one element and a partial one), exact, longer. -/
example : hvecDec (Codec.uN 2) 2 [1, 0, 2] = .ok (.seq [.int 1]) := by rfl
example : hvecDec (Codec.uN 2) 2 [1, 0, 2, 0] = .ok (.seq [.int 1, .int 2]) := by rfl
example : hvecDec (Codec.uN 2) 2 [1, 0, 2, 0, 3, 0, 9] = .ok (.seq [.int 1, .int 2]) := by rfl
example : hvecDec (Codec.uN 2) 0 [1, 0, 2, 0] = .ok (.seq []) := by rfl
example : hvecDecNoTake (Codec.uN 2) 2 [1, 0, 2, 0, 3, 0, 9] = .panic "Vec::from_iter overflow" := by rfl

/-- `heapless::String<4>`: "€A" fits; "€AB" is too long; a lone continuation byte, an overlong form, a surrogate and a
    code point above U+10FFFF are invalid. -/
example : hstrDec 4 [0xe2, 0x82, 0xac, 0x41] = .ok (.seq [.int 0xe2, .int 0x82, .int 0xac, .int 0x41]) := by rfl
example : encodeStr [0x20ac, 0x41] = [0xe2, 0x82, 0xac, 0x41] := by rfl
example : isScalar 0x20ac := Or.inl (by decide)
example : hstrDec 4 [0xe2, 0x82, 0xac, 0x41, 0x42] = .err .arrayLength := by rfl
example : hstrDec 4 [0x80] = .err .invalidUtf8 := by rfl
example : hstrDec 4 [0xc0, 0x80] = .err .invalidUtf8 := by rfl
example : hstrDec 4 [0xed, 0xa0, 0x80] = .err .invalidUtf8 := by rfl
example : hstrDec 4 [0xf4, 0x90, 0x80, 0x80] = .err .invalidUtf8 := by rfl
example : hstrDec 0 [] = .ok (.seq []) := by rfl

/-- `[u16; 2]`: exact, longer, short. -/
example : arrayDecImpl (Codec.uN 2) 2 [1, 0, 2, 0] = .ok (.seq [.int 1, .int 2]) := by rfl
example : arrayDecImpl (Codec.uN 2) 2 [1, 0, 2, 0, 7] = .ok (.seq [.int 1, .int 2]) := by rfl
example : arrayDecImpl (Codec.uN 2) 2 [1, 0, 2] = .err .readBufferTooShort := by rfl

end Ec.C19
