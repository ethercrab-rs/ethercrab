/-
  C04 — every transmitted frame is a well-formed EtherCAT frame saying what was asked.
  Property theorems only; the model is EcModel/Frame.lean, the invariant and its lemmas are in
  EcModel/Lemmas/FrameInv.lean.
-/
import EcModel.Lemmas.FrameInv

namespace Ec.C04

open Ec

/-- One push request, together with the value the shared PDU index counter hands out for it. -/
inductive PushOp where
  | pdu (c : Cmd) (data : List Nat) (lenOv : Option Nat) (idx : Nat)
  | rest (c : Cmd) (bytes : List Nat) (idx : Nat)
  deriving Repr

/-- Run one push; second component: the datagrams that were accepted (returned `Ok`) so far. -/
def stepOp (s : CFrame × List Dgram) (op : PushOp) : CFrame × List Dgram :=
  match op with
  | .pdu c data lenOv idx =>
    let r := s.1.pushPdu c data lenOv idx
    match r.2 with
    | some _ => (r.1, s.2 ++ [⟨c, idx, declLen data lenOv, data⟩])
    | none => (r.1, s.2)
  | .rest c bytes idx =>
    let r := s.1.pushRest c bytes idx
    match r.2.1 with
    | .some k _ => (r.1, s.2 ++ [⟨c, idx, k, bytes.take k⟩])
    | _ => (r.1, s.2)

def run (cap : Nat) (ops : List PushOp) : CFrame × List Dgram :=
  ops.foldl stepOp (CFrame.init cap, [])

theorem stepOp_inv (s : CFrame × List Dgram) (op : PushOp) (h : FInv s.1 s.2)
    (hcap : s.1.cap ≤ 2063) : FInv (stepOp s op).1 (stepOp s op).2 ∧ (stepOp s op).1.cap = s.1.cap := by
  cases op with
  | pdu c data lenOv idx =>
    by_cases hfit : s.1.used + (declLen data lenOv + PDU_OVERHEAD) ≤ s.1.pdu.length
    · simp only [stepOp, CFrame.pushPdu_fit hfit]
      exact ⟨h.commit c idx _ data (declLen_ge ..) hfit hcap, rfl⟩
    · simp only [stepOp, CFrame.pushPdu_nofit hfit]
      exact ⟨h, trivial⟩
  | rest c bytes idx =>
    by_cases hn : bytes = [] ∨ s.1.pdu.length - s.1.used ≤ 12
    · simp only [stepOp, CFrame.pushRest_eq, if_pos hn]
      exact ⟨h, trivial⟩
    · simp only [stepOp, CFrame.pushRest_eq, if_neg hn]
      exact ⟨h.commit c idx _ _ (List.length_take_le _ _) (restLen_fits _ fun h => hn (.inr h)) hcap, rfl⟩

theorem run_inv (cap : Nat) (hcap : cap ≤ 2063) (ops : List PushOp) :
    FInv (run cap ops).1 (run cap ops).2 ∧ (run cap ops).1.cap = cap :=
  List.foldlRecOn ops stepOp (motive := fun s => FInv s.1 s.2 ∧ s.1.cap = cap) ⟨FInv.init cap, rfl⟩
    fun s hs op _ => (stepOp_inv s op hs.1 (hs.2 ▸ hcap)).imp_right (·.trans hs.2)

/-- **C04 main theorem.** For every frame size up to the 11-bit limit and every sequence of pushes
    (with any index values), the bytes handed to the network driver are exactly the independent
    encoding of the datagrams whose push returned `Ok`: broadcast destination, MainDevice source,
    EtherType 0x88A4, length field = exact size of the datagrams, each datagram with the requested
    command/address/length/data zero-padded, zero irq and working counter, `more follows` on all but
    the last. -/
theorem frame_wellformed (cap : Nat) (hcap : cap ≤ 2063) (ops : List PushOp) :
    (run cap ops).1.markSendable.asBytes = encodeFrame (run cap ops).2 :=
  (run_inv cap hcap ops).1.asBytes

/-- The transmitted frame never exceeds the configured frame size. -/
theorem frame_fits (cap : Nat) (hlo : 16 ≤ cap) (hcap : cap ≤ 2063) (ops : List PushOp) :
    (run cap ops).1.markSendable.asBytes.length ≤ cap := by
  obtain ⟨h, hc⟩ := run_inv cap hcap ops
  have := h.fits
  rw [hc] at this
  rw [h.asBytes_length]; omega

/-- The length field of the EtherCAT header is the exact size of the datagrams that follow and
    carries protocol type 1. -/
theorem length_field (ds : List Dgram) (h : dgramsSize ds < 2048) :
    rd16 (ecatHeader (dgramsSize ds)) = dgramsSize ds + 4096 := by
  simp only [ecatHeader, Gen.LEN_MASK]
  rw [rd16_le16 _ (by omega), Nat.mod_eq_of_lt h]

/-- A datagram that does not fit is refused (`TooLong`) and the frame is left exactly as it was,
    and it is refused *only* if it does not fit. -/
theorem push_refused_iff (f : CFrame) (c : Cmd) (data : List Nat) (lenOv : Option Nat) (idx : Nat) :
    ((f.pushPdu c data lenOv idx).2 = none ↔ f.pdu.length < f.used + declLen data lenOv + 12) ∧
    ((f.pushPdu c data lenOv idx).2 = none → (f.pushPdu c data lenOv idx).1 = f) := by
  by_cases hfit : f.used + (declLen data lenOv + PDU_OVERHEAD) ≤ f.pdu.length
  · rw [CFrame.pushPdu_fit hfit]; simp [PDU_OVERHEAD] at hfit ⊢; omega
  · rw [CFrame.pushPdu_nofit hfit]; simp [PDU_OVERHEAD] at hfit ⊢; omega

/-- Fill-the-rest pushes: the reported count is `min (room - 12) bytes.length`, exactly that prefix of
    the bytes is the datagram's data, nothing is pushed iff the input is empty or at most 12 bytes of
    room remain, and the `TooLong` branch is dead. -/
theorem rest_reports (f : CFrame) (c : Cmd) (bytes : List Nat) (idx : Nat) :
    let room := f.pdu.length - f.used
    ((f.pushRest c bytes idx).2.1 = .none ↔ (bytes = [] ∨ room ≤ 12)) ∧
    (f.pushRest c bytes idx).2.1 ≠ .tooLong ∧
    (∀ k h, (f.pushRest c bytes idx).2.1 = .some k h →
        k = min (room - 12) bytes.length ∧ 0 < k ∧
        (f.pushRest c bytes idx).1 = (f.commit c idx k (bytes.take k)).1) := by
  intro room
  rw [CFrame.pushRest_eq]
  split
  · rename_i h; exact ⟨⟨fun _ => h, fun _ => rfl⟩, nofun, nofun⟩
  · rename_i h
    refine ⟨⟨nofun, fun h' => absurd h' h⟩, nofun, ?_⟩
    rintro k hd ⟨⟩
    have := List.length_pos_iff.2 (fun e => h (Or.inl e))
    refine ⟨rfl, ?_, rfl⟩
    simp only [restLen, PDU_OVERHEAD]; omega

theorem neg16_add (pos : Nat) : ((65536 - pos % 65536) % 65536 + pos) % 65536 = 0 := by omega

/-- Auto-increment commands carry `0 - position` modulo 2^16. -/
theorem aprd_negation (pos r : Nat) (h : pos < 65536) :
    ∃ a, Cmd.mkAprd pos r = .aprd a r ∧ a < 65536 ∧ (a + pos) % 65536 = 0 :=
  ⟨_, rfl, Nat.mod_lt _ (by decide), neg16_add pos⟩

theorem apwr_negation (pos r : Nat) (h : pos < 65536) :
    ∃ a, Cmd.mkApwr pos r = .apwr a r ∧ a < 65536 ∧ (a + pos) % 65536 = 0 :=
  ⟨_, rfl, Nat.mod_lt _ (by decide), neg16_add pos⟩

/-- The 16-bit address/register pair is transmitted as two little-endian words. -/
theorem pack_addr_reg (a r : Nat) (ha : a < 65536) (hr : r < 65536) :
    (Cmd.fprd a r).pack = le16 a ++ le16 r := by
  show [_, _, _, _] = [_, _, _, _]
  -- the low word of `r * 2^16 + a` is `a`, the high word `r`
  have h1 : r * 65536 + a = a + 256 * (256 * r) := by omega
  have h2 : (r * 65536 + a) / 65536 = r := by
    rw [Nat.add_comm, Nat.add_mul_div_right _ _ (by decide), Nat.div_eq_of_lt ha, Nat.zero_add]
  have h3 : (r * 65536 + a) / 16777216 = r / 256 := by
    rw [show 16777216 = 65536 * 256 from rfl, ← Nat.div_div_eq_div_mul, h2]
  rw [h2, h3, h1, Nat.add_mul_mod_self_left, Nat.add_mul_div_left _ _ (by decide), Nat.add_mul_mod_self_left]

/-! Non-vacuity: a concrete two-datagram program with a refused push in the middle. -/
example :
    (run 60 [.pdu (.fpwr 0x1000 0x0120) [8, 0] none 7,
             .pdu (.brd 0 0) [] (some 100) 8,          -- refused: does not fit
             .rest (.lrw 0) [1, 2, 3, 4, 5, 6, 7, 8, 9, 10, 11, 12, 13, 14, 15, 16, 17, 18, 19, 20] 9]).2
      = [⟨.fpwr 0x1000 0x0120, 7, 2, [8, 0]⟩,
         ⟨.lrw 0, 9, 18, [1, 2, 3, 4, 5, 6, 7, 8, 9, 10, 11, 12, 13, 14, 15, 16, 17, 18]⟩] := by
  decide +kernel

end Ec.C04
