/-
  C19 — derived wire encodings match their declared layout and round-trip.
  Property theorems only; the model is EcModel/Wire.lean, helper lemmas live in EcModel/Lemmas/Wire*.lean.

  Reading guide. `parseStruct d = .ok m` is "the derive macro accepts the struct declaration `d`" (m = its StructMeta).
  `structCodecOfMeta m` is the triple of impls the macro generates: `.pack` = `pack()`, `.packToSlice` = `pack_to_slice`,
  `.packU` = `pack_to_slice_unchecked`, `.dec` = `unpack_from_slice`, `.len` = `PACKED_LEN`.
  `bitAt buf k` is bit `k` of a byte string in little-endian bit order (byte k/8, bit k%8 from the LSB; `testBit_leVal`
  in Lemmas/WireBits shows it is bit k of the little-endian number). A struct value is `.seq vs`, one value per field.

  Hypotheses that appear:
  * `Accepted d m`  — the macro's own validator accepts `d`, and every non-skipped field is at least 1 bit wide
                      (the property quantifies over widths 1..64; `bits = 0` fields are accepted by the macro and are
                      degenerate: see the note at the end);
  * `WellTyped m`   — what rustc and the user guarantee and the macro cannot see: field codecs obey the trait laws
                      (`Lawful`, proved for the primitives in Lemmas/WireCodecs and closed under nesting by
                      `nested_struct_lawful`), the field's type is not longer than its slot (`slotFits`), the write half of
                      the derive compiles (`deriveWriteOk`);
  * `validVals`     — the value is representable: a `u8` in a 3-bit field is < 8, skipped fields hold their default, …
-/
import EcModel.Generated.LayoutsLawful

namespace Ec.C19
open Ec.Wire

/-- The derive macro accepts the declaration; widths are ≥ 1. -/
structure Accepted (d : StructDecl) (m : StructMeta) : Prop where
  parsed : parseStruct d = .ok m
  pos : ∀ f ∈ m.fields, f.skip = false → 0 < f.bitsLen

/-- Facts about the field types that are outside the macro's view. -/
structure WellTyped (m : StructMeta) : Prop where
  lawful : ∀ f ∈ m.fields, Lawful f.codec
  fits : ∀ f ∈ m.fields, f.slotFits = true
  gen : deriveWriteOk m = true

theorem structGood {d : StructDecl} {m : StructMeta} (ha : Accepted d m) (hw : WellTyped m) : StructGood m :=
  ⟨parseStruct_chain ha.parsed, ha.pos, hw.lawful, hw.fits, hw.gen⟩

/-- `pack()` returns what `pack_to_slice_unchecked` stores. -/
theorem pack_eq_ok (c : Codec) (v : Val) (bs : List Nat) : c.pack v = .ok bs ↔ c.enc v = .ok bs := by
  simp only [Codec.pack, Codec.packU, zeros, List.length_replicate, Nat.lt_irrefl, if_false]
  constructor
  · intro h
    obtain ⟨a, ha, h2⟩ := bindO_eq_ok.mp h
    simp at h2
    rw [ha, h2]
  · intro h
    simp [h, bindO]

/-! ## Structs -/

/-- Packing a representable value never panics and yields exactly `PACKED_LEN` bytes. -/
theorem pack_never_panics {d : StructDecl} {m : StructMeta} (ha : Accepted d m) (hw : WellTyped m)
    (vs : List Val) (hv : validVals m.fields vs) :
    ∃ bs, (structCodecOfMeta m).pack (.seq vs) = .ok bs ∧ bs.length = m.sizeBytes ∧ AllBytes bs := by
  have hg := structGood ha hw
  obtain ⟨bs, hbs⟩ := (structCodec_lawful hg).enc_ok (.seq vs) ⟨vs, rfl, hv⟩
  obtain ⟨h1, h2⟩ := (structCodec_lawful hg).enc_len _ _ hbs
  exact ⟨bs, (pack_eq_ok _ _ _).mpr hbs, h1, h2⟩

/-- The whole image, bit by bit: bit `k` of `pack v` is set iff `k` lies in the declared range of a non-skipped field
    and the corresponding bit of that field's own encoding is set. -/
theorem pack_is_the_declared_layout {d : StructDecl} {m : StructMeta} (ha : Accepted d m) (hw : WellTyped m)
    {vs : List Val} {bs : List Nat} (hp : (structCodecOfMeta m).pack (.seq vs) = .ok bs) (k : Nat) :
    bitAt bs k = fieldsBit m.fields vs k :=
  (structEnc_spec (structGood ha hw) ((pack_eq_ok _ _ _).mp hp)).2.2 k

/-- **field_at_declared_bits.** Bits `[bit_start, bit_start + w)` of `pack v`, little-endian, hold the encoding of the
    field (`self.f as u8` for u8/bool fields, the field type's own packing otherwise). -/
theorem field_at_declared_bits {d : StructDecl} {m : StructMeta} (ha : Accepted d m) (hw : WellTyped m)
    {vs : List Val} {bs : List Nat} (hp : (structCodecOfMeta m).pack (.seq vs) = .ok bs)
    (i : Nat) (hi : i < m.fields.length) (hs : m.fields[i].skip = false) (v : Val) (hv : vs[i]? = some v)
    (j : Nat) (hj : j < m.fields[i].bitsLen) :
    bitAt bs (m.fields[i].bitStart + j) = bitAt (fieldEnc m.fields[i] v) j := by
  rw [pack_is_the_declared_layout ha hw hp,
    fieldsBit_at_field m.fields vs 0 m.widthBits (structGood ha hw).chain i hi hs v hv j hj]

/-- **undeclared_bits_zero.** Every bit that belongs to no non-skipped field (skips, padding up to the byte boundary,
    anything past the end) is zero. -/
theorem undeclared_bits_zero {d : StructDecl} {m : StructMeta} (ha : Accepted d m) (hw : WellTyped m)
    {vs : List Val} {bs : List Nat} (hp : (structCodecOfMeta m).pack (.seq vs) = .ok bs) (k : Nat)
    (hk : ∀ f ∈ m.fields, f.skip = false → ¬ (f.bitStart ≤ k ∧ k < f.bitEnd)) :
    bitAt bs k = false := by
  rw [pack_is_the_declared_layout ha hw hp, fieldsBit_undeclared _ _ _ hk]

/-- The declared ranges are what `parse_struct` computed from the attributes: consecutive fields do not overlap and stay
    inside the declared struct width (so the two theorems above describe disjoint regions that tile the image). -/
theorem declared_ranges_disjoint {d : StructDecl} {m : StructMeta} (ha : Accepted d m) :
    Chain m.fields 0 m.widthBits ∧ m.widthBits ≤ 8 * m.sizeBytes :=
  ⟨parseStruct_chain ha.parsed, m.width_le⟩

/-- **unpack_reads_declared_bits.** For any buffer of at least the packed length, `unpack_from_slice` decodes every
    non-skipped field from bits `[bit_start, bit_start + w)` of the buffer (`extractBits`, zero-extended to whole bytes;
    `extractBits_bits` says which bits those are) and nothing else; the first failing field's error is returned.
    No assumption on the field types. -/
theorem unpack_reads_declared_bits {d : StructDecl} {m : StructMeta} (ha : Accepted d m)
    (buf : List Nat) (hb : AllBytes buf) (hl : m.sizeBytes ≤ buf.length) :
    structRead m buf = bindO (readFieldsSpec m.fields buf) fun vs => .ok (.seq vs) := by
  have hch := parseStruct_chain ha.parsed
  have h1 : ¬ buf.length < m.sizeBytes := by omega
  simp only [structRead, h1, if_false]
  rw [readFields_spec m.fields _ 0 m.widthBits hch ha.pos (by simp; have := m.width_le; omega) (allBytes_take _ hb)]
  congr 1
  -- the bits of the first PACKED_LEN bytes are the bits of the buffer
  apply readFieldsSpec_congr (allBytes_take _ hb) hb
  intro f hf hs k _ hk2
  have hk : k < 8 * m.sizeBytes := by
    have := (hch.mem_bounds f hf hs).2.2.1
    have := m.width_le
    omega
  simp [bitAt_take, hk]

/-- Consequence: two buffers that agree on the declared bits unpack to the same result — undeclared bits (skips, padding,
    trailing bytes) are never looked at. -/
theorem unpack_ignores_undeclared_bits {d : StructDecl} {m : StructMeta} (ha : Accepted d m)
    (b1 b2 : List Nat) (h1 : AllBytes b1) (h2 : AllBytes b2) (l1 : m.sizeBytes ≤ b1.length) (l2 : m.sizeBytes ≤ b2.length)
    (h : ∀ f ∈ m.fields, f.skip = false → ∀ k, f.bitStart ≤ k → k < f.bitEnd → bitAt b1 k = bitAt b2 k) :
    structRead m b1 = structRead m b2 := by
  rw [unpack_reads_declared_bits ha b1 h1 l1, unpack_reads_declared_bits ha b2 h2 l2]
  rw [readFieldsSpec_congr h1 h2 m.fields h]

/-- **unpack_pack.** Unpacking what was packed gives the value back — also when more bytes follow the image. -/
theorem unpack_pack {d : StructDecl} {m : StructMeta} (ha : Accepted d m) (hw : WellTyped m)
    (vs : List Val) (hv : validVals m.fields vs) {bs : List Nat}
    (hp : (structCodecOfMeta m).pack (.seq vs) = .ok bs) (extra : List Nat) :
    (structCodecOfMeta m).dec (bs ++ extra) = .ok (.seq vs) :=
  (structCodec_lawful (structGood ha hw)).roundtrip_append ⟨vs, rfl, hv⟩ ((pack_eq_ok _ _ _).mp hp) extra

/-- **short_buffer_error.** A buffer shorter than `PACKED_LEN` is `Err(ReadBufferTooShort)`, for every declaration the
    macro accepts and every field type (no hypothesis at all). -/
theorem short_buffer_error (m : StructMeta) (buf : List Nat) (h : buf.length < m.sizeBytes) :
    (structCodecOfMeta m).dec buf = .err .readBufferTooShort := by
  simp [structCodecOfMeta, structRead, h]

/-- Decoding never panics, whatever the bytes, as long as the field types' own decoders do not. -/
theorem unpack_never_panics (m : StructMeta) (hlaw : ∀ f ∈ m.fields, Lawful f.codec) (buf : List Nat) (why : String) :
    (structCodecOfMeta m).dec buf ≠ .panic why :=
  structRead_total m (fun f hf => (hlaw f hf).dec_total) buf why

/-- **pack_to_slice_refuses_short.** The checked `pack_to_slice` returns `Err(WriteBufferTooShort)` for a destination
    shorter than `PACKED_LEN`, for every codec (derived or primitive) and every value. -/
theorem pack_to_slice_refuses_short (c : Codec) (v : Val) (dst : List Nat) (h : dst.length < c.len) :
    c.packToSlice v dst = .err .writeBufferTooShort := by
  simp [Codec.packToSlice, h]

/-- With a long enough destination `pack_to_slice` stores the image in front (overwriting whatever was there, i.e. the
    generated code zeroes its range first) and leaves the bytes behind it alone. -/
theorem pack_to_slice_long (c : Codec) (v : Val) (dst bs : List Nat) (h : c.len ≤ dst.length) (hp : c.pack v = .ok bs) :
    c.packToSlice v dst = .ok (bs ++ dst.drop c.len) := by
  have h1 : ¬ dst.length < c.len := by omega
  simp [Codec.packToSlice, Codec.packU, h1, (pack_eq_ok _ _ _).mp hp, bindO]

/-- A derived struct over lawful field types is itself lawful: all of the above composes over nested structs. -/
theorem nested_struct_lawful {d : StructDecl} {m : StructMeta} (ha : Accepted d m) (hw : WellTyped m) :
    Lawful (structCodecOfMeta m) :=
  structCodec_lawful (structGood ha hw)

/-- The primitive impls of impls.rs obey the laws. -/
theorem primitives_lawful : (∀ n, Lawful (Codec.uN n)) ∧ (∀ n, Lawful (Codec.iN n)) ∧ Lawful Codec.bool :=
  ⟨lawful_uN, lawful_iN, lawful_bool⟩

/-- Observation on the validator itself: its check "Fields smaller than 8 bits may not cross byte boundaries" can never be
    the reported error — a field crossing a byte boundary is always refused by the alignment check in front of it. (The
    harness never sees that message either.) -/
theorem small_crosses_unreachable (d : StructDecl) : parseStruct d ≠ .error .smallCrosses := by
  intro h
  have := parseStruct_inv d
  rw [h] at this
  exact this rfl

/-! ## Enums -/

/-- **enum_roundtrip (full statement).** Every unit variant of the enum packs to bytes that unpack to the same variant. -/
def EnumRoundtrips (e : EnumDecl) : Prop :=
  ∀ m size, parseEnum e = .ok m → e.repr.size = some size →
    ∀ idx d, e.variants[idx]? = some d → d.catchAll = false →
      ∃ bs, enumWrite m size (.unit idx) = .ok bs ∧ bs.length = size ∧ enumRead m size bs = .ok (.unit idx)

/-- **enum_roundtrip.** The full statement holds for every enum whose read arms (discriminants and alternatives) are
    pairwise distinct and whose discriminants are values of the repr. Both hypotheses are needed: rustc only enforces
    them for the discriminants, not for `alternatives` (see `enum_roundtrip_needs_distinct_arms`). -/
theorem enum_roundtrip (e : EnumDecl)
    (hnd : ∀ m, parseEnum e = .ok m → ((m.variants.filter fun b => !b.catchAll).map (·.discriminant)).Nodup)
    (hr : ∀ size, e.repr.size = some size → ∀ x ∈ rustDiscsFrom e.variants 0, reprInRange e.repr.signed size x) :
    EnumRoundtrips e := by
  intro m size hp hs idx d hd hc
  obtain ⟨bs, h1, h3⟩ := enum_unit_roundtrip hp (hnd m hp) (hr size hs) hd hc
  exact ⟨bs, h1, (enumWrite_len h1).1, h3⟩

/-- The distinct-arms hypothesis is genuine: `#[repr(u8)] enum E { #[wire(alternatives = [2])] A = 1, B = 2 }` compiles
    (rustc only warns about the unreachable match arm); B packs to 2 and 2 decodes as A, because the first arm wins. -/
theorem enum_roundtrip_needs_distinct_arms :
    ¬ EnumRoundtrips { repr := .u8, variants := [{ disc := some 1, alternatives := [2] }, { disc := some 2 }] } := by
  intro h
  obtain ⟨bs, h1, _, h2⟩ := h _ 1 rfl rfl 1 { disc := some 2 } rfl rfl
  cases h1
  cases h2

/-- The former witnesses of the implicit-discriminant defect (fixed in parse_enum.rs: the accumulator started at 0 and
    alternatives advanced it) now round-trip: `#[repr(u8)] enum E { A, B, C }` — A packs to 0x00 and 0x00 unpacks to A,
    B packs to 0x01 and unpacks to B. -/
theorem implicit_discriminants_roundtrip_witness :
    let e : EnumDecl := { repr := .u8, variants := [{}, {}, {}] }
    ∃ m, parseEnum e = .ok m ∧
      enumWrite m 1 (.unit 0) = .ok [0] ∧ enumRead m 1 [0] = .ok (.unit 0) ∧
      enumWrite m 1 (.unit 1) = .ok [1] ∧ enumRead m 1 [1] = .ok (.unit 1) ∧
      enumRead m 1 [3] = .err .invalidValue :=
  ⟨_, rfl, rfl, rfl, rfl, rfl, rfl⟩

/-- `#[repr(u8)] enum E { #[wire(alternatives = [5, 6])] A = 1, B }`: B packs to 2 and 2 unpacks to B; 5 and 6 unpack to
    A; 7 (what the read side expected for B before the fix) is undefined. -/
theorem implicit_after_alternatives_witness :
    let e : EnumDecl := { repr := .u8, variants := [{ disc := some 1, alternatives := [5, 6] }, {}] }
    ∃ m, parseEnum e = .ok m ∧ enumWrite m 1 (.unit 1) = .ok [2] ∧ enumRead m 1 [2] = .ok (.unit 1) ∧
      enumRead m 1 [5] = .ok (.unit 0) ∧ enumRead m 1 [7] = .err .invalidValue :=
  ⟨_, rfl, rfl, rfl, rfl, rfl⟩

/-- The catch-all payload round-trips when it is not one of the declared values (a payload equal to a declared
    discriminant reads back as that variant: the value is not canonical). -/
theorem enum_catch_all_roundtrip {e : EnumDecl} {m : EnumMeta} {size : Nat}
    (hp : parseEnum e = .ok m) (hca : m.catchAll.isSome = true) (raw : Int)
    (hr : reprInRange e.repr.signed size raw) (hcanon : matchReadArms m.variants raw = none) :
    ∃ bs, enumWrite m size (.catchAll raw) = .ok bs ∧ bs.length = size ∧ enumRead m size bs = .ok (.catchAll raw) := by
  obtain ⟨bs, hw, hrd⟩ := enum_catchAll_roundtrip hp hca raw hr hcanon
  exact ⟨bs, hw, (enumWrite_len hw).1, hrd⟩

/-- **undefined_value_error_or_fallback.** Whatever `size` bytes arrive: a value that matches no declared discriminant or
    alternative is the catch-all variant carrying it, else the `#[default]` variant, else `Err(InvalidValue)`;
    a short buffer is `Err(ReadBufferTooShort)`; nothing panics. -/
theorem undefined_value_error_or_fallback (m : EnumMeta) (size : Nat) (buf : List Nat) :
    (buf.length < size → enumRead m size buf = .err .readBufferTooShort) ∧
    (size ≤ buf.length →
      let u := leVal (buf.take size)
      let raw : Int := if m.repr.signed then toSigned size u else (u : Int)
      matchReadArms m.variants raw = none →
        enumRead m size buf =
          match m.catchAll, m.default with
          | some _, _ => .ok (.catchAll raw)
          | none, some dflt => .ok (.unit dflt)
          | none, none => .err .invalidValue) ∧
    (∀ why, enumRead m size buf ≠ .panic why) := by
  refine ⟨fun h => by simp [enumRead, h], ?_, enumRead_total m size buf⟩
  intro h u raw hm
  have h1 : ¬ buf.length < size := by omega
  simp only [enumRead, h1, if_false]
  simp only [u, raw] at hm
  rw [hm]
  cases m.catchAll <;> cases m.default <;> rfl

/-! ## T1: the layouts of /repo as they are now -/

/-- Every `#[derive(EtherCrabWire…)]` struct of /repo/src (regenerated into Generated/Layouts.lean on every run) is
    accepted by the model of `parse_struct`, so the theorems above speak about PduHeader, AlControl, Fmmu,
    SyncManagerChannel, the mailbox/CoE headers, the SII structs, … as declared in the current tree. -/
theorem layouts_accepted :
    ∀ x ∈ Gen.Layouts.structs, (match parseStruct x.2.2 with | .ok _ => true | .error _ => false) = true := by
  intro x hx
  obtain ⟨m, hm⟩ := structDeclGood_parsed (Gen.Layouts.structs_good x hx)
  rw [hm]

/-- …with every non-skipped field at least one bit wide, every field type no longer than its slot, and the write half
    of the derive well-formed (no u8/bool field of 16 or more bits). -/
theorem layouts_well_formed :
    ∀ x ∈ Gen.Layouts.structs,
      (match parseStruct x.2.2 with
        | .ok m => m.fields.all (fun f => f.skip || decide (0 < f.bitsLen)) && m.fields.all (·.slotFits) && deriveWriteOk m
        | .error _ => false) = true :=
  Gen.Layouts.structs_good

/-- Every derived enum of /repo/src is accepted by the model of `parse_enum`, has a supported repr, and its
    non-catch-all variants all carry explicit discriminants (so no in-crate enum was ever affected by the former
    implicit-discriminant defect). -/
theorem layouts_enums_explicit :
    ∀ x ∈ Gen.Layouts.enums,
      (match parseEnum x.2.2 with
        | .ok _ => x.2.2.repr.size.isSome && x.2.2.variants.all (fun v => v.catchAll || v.disc.isSome)
        | .error _ => false) = true := by
  have hx : ∀ x ∈ Gen.Layouts.enums, x.2.2.variants.all (fun v => v.catchAll || v.disc.isSome) = true := by
    decide +kernel
  intro x hm
  have hg := Gen.Layouts.enums_good x hm
  unfold enumGood at hg
  split at hg
  · rename_i hp hs
    rw [hp, hs]
    exact hx x hm
  · cases hg

/-- Every derived type of /repo/src all of whose parts are modelled (i.e. without a hand-written impl inside) satisfies ALL
    hypotheses of the theorems above — accepted, widths ≥ 1, slots fit, write half well-formed, field types lawful down to
    the primitives, enum discriminants distinct and in range — hence is itself a lawful codec: it
    packs to its declared layout, ignores undeclared bits and round-trips. The side conditions are evaluated once per
    table (Lemmas/WireLayouts.lean); the theorems per type are regenerated with the layouts (Generated/LayoutsLawful.lean:
    position in the table, composition for nesting). -/
theorem in_crate_types_lawful : ∀ x ∈ Gen.Layouts.lawfulTable, Lawful x.2.val :=
  fun x _ => x.2.property

/-- Coverage of the table: every extracted struct and enum is in it, except the structs listed as opaque
    (a field with a hand-written impl: bitflags wrappers, PduFlags). -/
theorem in_crate_types_covered :
    ∀ n ∈ Gen.Layouts.structs.map (·.1) ++ Gen.Layouts.enums.map (·.1),
      (Gen.Layouts.opaqueStructs.contains n || (Gen.Layouts.lawfulTable.map (·.1)).contains n) = true := by
  -- the table lists the types in the order of `structs` and of `enums`, so two linear sweeps find them all
  have hs : List.Sublist ((Gen.Layouts.structs.map (·.1)).filter fun n => !Gen.Layouts.opaqueStructs.contains n)
      (Gen.Layouts.lawfulTable.map (·.1)) := by decide +kernel
  have he : List.Sublist (Gen.Layouts.enums.map (·.1)) (Gen.Layouts.lawfulTable.map (·.1)) := by decide +kernel
  intro n hn
  rw [Bool.or_eq_true, List.contains_iff_mem, List.contains_iff_mem]
  rcases List.mem_append.mp hn with h | h
  · by_cases ho : n ∈ Gen.Layouts.opaqueStructs
    · exact Or.inl ho
    · exact Or.inr (hs.subset (List.mem_filter.mpr ⟨h, by simpa using ho⟩))
  · exact Or.inr (he.subset h)

/-! ## Non-vacuity: the hypotheses are satisfiable by a non-trivial declaration -/

/-- `#[repr(u8)] enum { A = 1, B = 2 }` -/
def exEnum : EnumDecl := { repr := .u8, variants := [{ disc := some 1 }, { disc := some 2 }] }

/-- `#[wire(bytes = 4)] struct { #[wire(pre_skip = 5, bits = 3)] a: u8, #[wire(bits = 1)] b: bool,
     #[wire(bits = 2, post_skip = 5)] c: exEnum, d: u16 }` — a 3-bit field at bit offset 5 after a skip. -/
def exDecl : StructDecl := { bytes := some 4, fields := [
  { ty := .u8, codec := Codec.uN 1, bits := some 3, preSkip := some 5 },
  { ty := .bool, codec := Codec.bool, bits := some 1 },
  { ty := .other, codec := enumCodec exEnum, bits := some 2, postSkip := some 5 },
  { ty := .u16, codec := Codec.uN 2 } ] }

def exVal : Val := .seq [.int 5, .bool true, .unit 1, .int 0x1234]

example : Lawful (structCodec exDecl) :=
  structCodec_lawful_of_decl _ (by decide) ⟨lawful_uN _, lawful_bool, enumCodec_lawful exEnum (by decide), lawful_uN _, trivial⟩
example : (structCodec exDecl).pack exVal = .ok [0xa0, 0x05, 0x34, 0x12] := by decide
example : (structCodec exDecl).dec [0xa0, 0x05, 0x34, 0x12, 0xff] = .ok exVal := by rfl
example : (structCodec exDecl).dec [0xa0, 0x05, 0x34] = .err .readBufferTooShort := by rfl
example : (structCodec exDecl).valid exVal :=
  ⟨_, rfl, ⟨5, rfl, by decide⟩, ⟨true, rfl⟩, ⟨⟨_, rfl, rfl⟩, 2, rfl, by decide⟩, ⟨0x1234, rfl, by decide⟩, trivial⟩

/-- The hypothesis bundles of the struct theorems hold for it. -/
example : ∃ m, Accepted exDecl m ∧ WellTyped m ∧ validVals m.fields [.int 5, .bool true, .unit 1, .int 0x1234] :=
  have g := structGood_of_decl (d := exDecl) rfl (by decide)
    ⟨lawful_uN _, lawful_bool, enumCodec_lawful exEnum (by decide), lawful_uN _, trivial⟩
  ⟨_, ⟨rfl, g.pos⟩, ⟨g.lawful, g.fits, g.gen⟩,
    ⟨5, rfl, by decide⟩, ⟨true, rfl⟩, ⟨⟨_, rfl, rfl⟩, 2, rfl, by decide⟩, ⟨0x1234, rfl, by decide⟩, trivial⟩

/-- `enum_roundtrip` is not vacuous: distinct, in-range discriminants. -/
example : ∃ m, parseEnum exEnum = .ok m ∧
    ((m.variants.filter fun b => !b.catchAll).map (·.discriminant)).Nodup ∧ reprInRange exEnum.repr.signed 1 2 :=
  ⟨_, rfl, by decide, by simp [reprInRange, exEnum, ReprTy.signed]⟩

/-
  Note on `bits = 0`. parse_struct accepts zero-width fields (`Accepted.pos` excludes them). They are degenerate in the
  generated code: a zero-width `u8`/`bool` field placed at the very end of a struct whose width is a multiple of 8 makes
  `pack` index one byte past the buffer (panic) and makes `unpack_from_slice` return ReadBufferTooShort for every input.
-/
example :
    let d : StructDecl := { bytes := some 1, fields := [{ ty := .u8, codec := Codec.uN 1, bits := some 8 },
                                                         { ty := .u8, codec := Codec.uN 1, bits := some 0 }] }
    (structCodec d).pack (.seq [.int 1, .int 0]) = .panic "index out of bounds" ∧
      (structCodec d).dec [1] = .err .readBufferTooShort :=
  ⟨by decide, by rfl⟩

end Ec.C19
