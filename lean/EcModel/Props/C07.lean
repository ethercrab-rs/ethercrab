/-
  C07 — one process-data cycle moves the whole image, each byte once, to the right place.
  Property theorems only; the model is EcModel/TxRx.lean, helper lemmas live in EcModel/Lemmas/TxRx*.lean.

  All theorems are about `cycle c image resps idx0`, the common loop of the three Rust entry points; `variants`
  (below) states which `Cfg.dc` each entry point runs it with. They hold for every image (length and content),
  every `readLen` split, every list of SubDevice addresses, every frame size allowed by `CfgOk` (30 resp. 50 up to
  2063 bytes), every starting value of the PDU index counter, both overflow modes, and every list of answers
  (`resps`: any number of frames, any datagrams, any data, any working counters). Theorems that speak about what
  came back from the network assume `Shaped` (every frame answered datagram for datagram with data of the
  requested length) — what devices that obey the frame structure do; the model also covers the other answers.

  Vocabulary (EcModel/Lemmas/TxRxInv.lean): `lrws` = (address, length) of the LRW datagrams in order, `Tiles a l b`
  = `l` tiles `[a, b)` contiguously with non-empty pieces, `lrwData` = their data concatenated, `allDescs` = every
  datagram as (command, length, data), `frmwDesc r` = FRMW to `r`, register 0x0910, eight zero bytes, `returned` =
  the data of the LRW answers concatenated (the logical window as the network returned it), `lrwWkcSum`,
  `stateAnswers` = low nibble of byte 0 of each state-check answer, `fprds` = addressees of the state checks.
-/
import EcModel.Lemmas.TxRxInv

namespace Ec.C07
open Ec Ec.TxRx

/-! ### T1: the facts regenerated from /repo are the ones the proofs were written against -/

theorem constants_as_modelled :
    Gen.TxRx.REG_AlStatus = 0x0130 ∧ Gen.TxRx.REG_DcSystemTime = 0x0910 ∧ Gen.TxRx.AL_CONTROL_PACKED_LEN = 2 ∧
    Gen.TxRx.AL_STATE_BITS = 4 ∧ Gen.TxRx.U64_PACKED_LEN = 8 ∧ Gen.TxRx.STATE_CHECKS_BREAK_AFTER = 128 ∧
    Gen.CMD_LRW = 12 ∧ Gen.CMD_FPRD = 4 ∧ Gen.CMD_FRMW = 14 := by decide

theorem source_shapes_present :
    Gen.TxRx.sourceShapes =
      ["exit_condition", "chunk_len", "chunk_start", "chunk_slice", "start_addr", "lrw_rest", "state_checks_call",
       "empty_frame_exit", "wkc_add", "sent_add", "state_push", "frmw_push", "time_unpack", "state_fprd",
       "state_can_push", "rx_range", "rx_copy", "sync_lock_in_clock_branch", "sync_fallback", "dc_pdu_size",
       "dc_ref_nonzero"] := by rfl

theorem variants (c : Cfg) (image : List Nat) (resps : List (List RPdu)) (idx0 ref : Nat) :
    txRx c image resps idx0 = cycle { c with dc := none } image resps idx0 ∧
    txRxDc c ref image resps idx0 = cycle { c with dc := some ref } image resps idx0 ∧
    (0 < ref → txRxSyncSystemTime c ref image resps idx0 = cycle { c with dc := some ref } image resps idx0) ∧
    txRxSyncSystemTime c 0 image resps idx0 = cycle { c with dc := none } image resps idx0 := by
  refine ⟨rfl, rfl, fun h => by simp [txRxSyncSystemTime, h], by simp [txRxSyncSystemTime, txRx]⟩

theorem finish_ok {c : Cfg} {L : St × Outcome TxErr Unit} {r : Resp} (h : (finish c L).res = .ok r) :
    L.2 = .ok () ∧ r = ⟨L.1.wkc, L.1.states, if c.dc.isSome then some L.1.time else none⟩ := by
  obtain ⟨s, _ | _ | _⟩ := L <;> cases h
  exact ⟨rfl, rfl⟩

theorem finish_err {c : Cfg} {L : St × Outcome TxErr Unit} {e : TxErr} (h : (finish c L).res = .err e) :
    L.2 = .err e := by
  obtain ⟨s, _ | _ | _⟩ := L <;> cases h
  rfl

/-- A successful cycle ends in a state `sf` that satisfies both invariants, with the whole image sent and every
    SubDevice checked; with well-shaped answers `sf` is what the answers say. -/
theorem cycle_ok {c : Cfg} {image : List Nat} {resps : List (List RPdu)} {idx0 : Nat} {r : Resp}
    (hc : CfgOk c image.length) (hok : (cycle c image resps idx0).res = .ok r) :
    ∃ sf, (cycle c image resps idx0).frames = sf.frames ∧ (cycle c image resps idx0).image = sf.image ∧
      r = ⟨sf.wkc, sf.states, if c.dc.isSome then some sf.time else none⟩ ∧
      FrInv c image (Phi c (initSt c image resps idx0)) sf ∧ sf.sent = image.length ∧
      sf.checks = c.addrs.length ∧ needDc c sf = false ∧
      (c.addrs.length ≤ c.maxSd → RInv c image resps sf ∧ (Shaped sf.frames resps → RFacts c image sf resps)) := by
  obtain ⟨hl, hr⟩ := finish_ok hok
  obtain ⟨hi, hri, hsent, hchk, hnd⟩ :=
    loop_ok hc (P := fun s => c.addrs.length ≤ c.maxSd → RInv c image resps s)
      (fun _ _ hi hr ha hn => RInv.advance hc hn hi (hr hn) ha) _ _ (FrInv.init c image resps idx0)
      (fun _ => RInv.init c image resps idx0) (phi_init_le hc resps idx0) hl
  refine ⟨_, rfl, rfl, hr, hi, hsent, hchk, hnd, fun hn => ?_⟩
  replace hri := hri hn
  generalize (loop c (fuelFor c image) (initSt c image resps idx0)).1 = sf at hri ⊢
  refine ⟨hri, fun hsh => ?_⟩
  obtain ⟨used, hu, hul, _, hfacts⟩ := hri
  have hz : sf.frames.zip resps = sf.frames.zip used := by rw [hu]; exact zip_append_extra _ _ _ hul.symm
  exact (hfacts fun x hx => hsh.2 x (hz ▸ hx)).of_pairs (by rw [pairs, pairs, hz])

/-- Whatever the outcome, the state a cycle ends in satisfies the weak invariant, and a clock variant has sent a
    frame. -/
theorem cycle_any {c : Cfg} {image : List Nat} (resps : List (List RPdu)) (idx0 : Nat) (hc : CfgOk c image.length) :
    WInv c image (Phi c (initSt c image resps idx0)) (loop c (fuelFor c image) (initSt c image resps idx0)).1 ∧
    (c.dc.isSome = true → (loop c (fuelFor c image) (initSt c image resps idx0)).1.frames ≠ []) :=
  loop_weak hc _ _ (FrInv.init c image resps idx0) (phi_init_le hc resps idx0)

/-- **lrw_tiles.** After a successful cycle the LRW datagrams, in transmission order, tile the group's logical
    window `[pdiStart, pdiStart + pdiLen)`: each starts where the previous one ended, each is non-empty, the
    first starts at `pdiStart`, the last ends at `pdiStart + pdiLen` — no gap, no overlap, nothing outside. -/
theorem lrw_tiles (c : Cfg) (image : List Nat) (resps : List (List RPdu)) (idx0 : Nat)
    (hc : CfgOk c image.length) (r : Resp) (hok : (cycle c image resps idx0).res = .ok r) :
    Tiles c.pdiStart (lrws (cycle c image resps idx0).frames) (c.pdiStart + image.length) := by
  -- not `obtain`: it would evaluate `Tiles`, which recurses on the list, at every component
  have ⟨sf, hfr, _, _, hi, hsent, _⟩ := cycle_ok hc hok
  have := hi.tiles
  rwa [hsent, ← hfr] at this

/-- **image_sent_once.** After a successful cycle the data of the LRW datagrams, concatenated, is the image as the
    application left it: every byte exactly once, at the address `pdiStart + offset` (with `lrw_tiles`). In
    particular the output part is transmitted exactly as written. -/
theorem image_sent_once (c : Cfg) (image : List Nat) (resps : List (List RPdu)) (idx0 : Nat)
    (hc : CfgOk c image.length) (r : Resp) (hok : (cycle c image resps idx0).res = .ok r) :
    lrwData (cycle c image resps idx0).frames = image := by
  obtain ⟨sf, hfr, _, _, hi, hsent, _⟩ := cycle_ok hc hok
  rw [hfr, hi.sentData, hsent, List.take_length]

/-- **each_frame_fits.** Whatever the outcome, every transmitted frame is the well-formed encoding (C04) of its
    datagram list, carries at least one datagram, and fits the configured frame size. -/
theorem each_frame_fits (c : Cfg) (image : List Nat) (resps : List (List RPdu)) (idx0 : Nat)
    (hc : CfgOk c image.length) :
    ∀ fr ∈ (cycle c image resps idx0).frames,
      fr.bytes = encodeFrame fr.dgrams ∧ fr.dgrams ≠ [] ∧ dgramsSize fr.dgrams ≤ c.cap - 16 ∧
      fr.bytes.length ≤ c.cap := by
  intro fr hfr
  have := (cycle_any resps idx0 hc).1.frames fr hfr
  exact ⟨this.bytes, this.nonempty, this.size, this.len⟩

/-- **terminates.** The fuel `pdiLen + #SubDevices + 2` is never the reason a cycle stops. -/
theorem terminates (c : Cfg) (image : List Nat) (resps : List (List RPdu)) (idx0 : Nat)
    (hc : CfgOk c image.length) : (cycle c image resps idx0).res ≠ .err .fuel := by
  intro h
  obtain ⟨sl, o, hl, _, ho, hlo⟩ := run_final hc (P := fun _ => True) (fun _ _ _ _ _ => trivial) _ _
    (FrInv.init c image resps idx0) trivial (phi_init_le hc resps idx0)
  have hf := finish_err h
  rw [hlo] at hf; cases hf
  rcases step_fail_kind (hl.len ▸ hc) hl.sent_le (Step.out_err ho) with h | h | h <;> cases h

/-- **frame_count_bound.** Whatever the outcome, a cycle sends at most
    `⌈pdiLen / (cap − 28)⌉ + ⌈n / min(⌊(cap − 16) / 14⌋, 129)⌉` frames — what sending the image and the state checks
    in separate frames would need — plus one in the clock variants (whose first frame gives 20 bytes to the clock
    datagram). -/
theorem frame_count_bound (c : Cfg) (image : List Nat) (resps : List (List RPdu)) (idx0 : Nat)
    (hc : CfgOk c image.length) :
    (cycle c image resps idx0).frames.length
      ≤ ceilDiv image.length (c.cap - 28) + ceilDiv c.addrs.length (min ((c.cap - 16) / 14) 129)
        + (if c.dc.isSome then 1 else 0) := by
  have := (cycle_any resps idx0 hc).1.count
  have e : Phi c (initSt c image resps idx0)
      = ceilDiv image.length (c.cap - 28) + ceilDiv c.addrs.length (min ((c.cap - 16) / 14) 129)
        + (if c.dc.isSome then 1 else 0) := by
    simp [Phi, remOf, initSt, perFrame, needDc]
  rw [e] at this; exact this

/-- **dc_first_once (frames).** In the clock variants the first datagram of the first frame is the FRMW to the
    reference clock (register 0x0910, eight zero bytes) and no other datagram of the cycle is an FRMW — whatever the
    outcome. Without a reference no FRMW is sent at all. -/
theorem dc_first_once (c : Cfg) (image : List Nat) (resps : List (List RPdu)) (idx0 : Nat)
    (hc : CfgOk c image.length) :
    (∀ ref, c.dc = some ref → ∃ rest, allDescs (cycle c image resps idx0).frames = frmwDesc ref :: rest ∧
        ∀ d ∈ rest, isFrmw d = false) ∧
    (c.dc = none → ∀ d ∈ allDescs (cycle c image resps idx0).frames, isFrmw d = false) := by
  obtain ⟨hw, hne⟩ := cycle_any resps idx0 hc
  have hd := hw.dc
  unfold DcFrames at hd
  constructor
  · intro ref href
    rw [href] at hd
    exact hd.resolve_left (hne (by rw [href]; rfl))
  · intro hnone; rw [hnone] at hd; exact hd

/-- **dc_first_once (time).** After a successful cycle of a clock variant the reported time is the value the
    first datagram of the first answer carried (little endian, first eight bytes); the plain variant reports none. -/
theorem dc_time (c : Cfg) (image : List Nat) (resps : List (List RPdu)) (idx0 : Nat)
    (hc : CfgOk c image.length) (hn : c.addrs.length ≤ c.maxSd) (r : Resp)
    (hok : (cycle c image resps idx0).res = .ok r) :
    (c.dc = none → r.time = none) ∧
    (∀ ref, c.dc = some ref → ∃ p0 rest0 restR, resps = (p0 :: rest0) :: restR ∧ r.time = some (rd64 p0.data)) := by
  obtain ⟨sf, _, _, hr, _, _, _, hnd, hri⟩ := cycle_ok hc hok
  refine ⟨fun hnone => by rw [hr, hnone]; rfl, fun ref href => ?_⟩
  obtain ⟨used, hu, _, htime, _⟩ := (hri hn).1
  rw [needDc, href] at hnd
  obtain ⟨p0, rest0, restU, hused, ht⟩ := htime (by
    cases h : sf.timeRead
    · rw [h] at hnd; cases hnd
    · rfl)
  exact ⟨p0, rest0, restU ++ sf.resps, by rw [hu, hused]; rfl, by rw [hr, href, ht]; rfl⟩

/-- **outputs_untouched.** Whatever the outcome and whatever came back, the image keeps its length and its output
    part `image[readLen..)` is byte for byte what the application wrote. (That it is also what was transmitted is
    `image_sent_once`.) -/
theorem outputs_untouched (c : Cfg) (image : List Nat) (resps : List (List RPdu)) (idx0 : Nat)
    (hc : CfgOk c image.length) :
    (cycle c image resps idx0).image.length = image.length ∧
    (cycle c image resps idx0).image.drop c.readLen = image.drop c.readLen := by
  have hw := (cycle_any resps idx0 hc).1
  exact ⟨hw.len, hw.outs⟩

/-- **inputs_land.** After a successful cycle with well-shaped answers, the input part of the image is what the
    network returned for those addresses: `image'[i] = returned[i]` for every `i < readLen`, where `returned` is the
    data of the LRW answers laid out from `pdiStart` on — for every split `readLen ≤ pdiLen`. -/
theorem inputs_land (c : Cfg) (image : List Nat) (resps : List (List RPdu)) (idx0 : Nat)
    (hc : CfgOk c image.length) (hn : c.addrs.length ≤ c.maxSd) (hrl : c.readLen ≤ image.length) (r : Resp)
    (hok : (cycle c image resps idx0).res = .ok r) (hsh : Shaped (cycle c image resps idx0).frames resps) :
    (cycle c image resps idx0).image.take c.readLen
      = (returned (cycle c image resps idx0).frames resps).take c.readLen ∧
    (returned (cycle c image resps idx0).frames resps).length = image.length := by
  obtain ⟨sf, hfr, himg, _, _, hsent, _, _, hri⟩ := cycle_ok hc hok
  rw [hfr] at hsh ⊢
  have F := (hri hn).2 hsh
  have hlen := F.retLen
  rw [hsent] at hlen
  refine ⟨?_, hlen⟩
  rw [himg, F.image, hsent, Nat.min_eq_right hrl,
    List.take_append_of_le_length (by rw [List.length_take, hlen, Nat.min_eq_left hrl]; exact Nat.le_refl _),
    List.take_take, Nat.min_self]

/-- **wkc_sum (partial).** After a successful cycle with well-shaped answers the reported working counter is the
    sum of the working counters of the LRW answers modulo 2^16; in a build with overflow checks the sum is below
    2^16 (otherwise the cycle panicked, see `wkc_sum_counterexample`). Hence, **if the sum is representable in the
    `u16` the result has**, the reported value is the sum. -/
theorem wkc_sum_partial (c : Cfg) (image : List Nat) (resps : List (List RPdu)) (idx0 : Nat)
    (hc : CfgOk c image.length) (hn : c.addrs.length ≤ c.maxSd) (r : Resp)
    (hok : (cycle c image resps idx0).res = .ok r) (hsh : Shaped (cycle c image resps idx0).frames resps) :
    r.wkc = lrwWkcSum (cycle c image resps idx0).frames resps % 65536 ∧
    (c.mode = .checked → lrwWkcSum (cycle c image resps idx0).frames resps < 65536) ∧
    (lrwWkcSum (cycle c image resps idx0).frames resps < 65536 →
      r.wkc = lrwWkcSum (cycle c image resps idx0).frames resps) := by
  obtain ⟨sf, hfr, _, hr, _, _, _, _, hri⟩ := cycle_ok hc hok
  rw [hfr] at hsh ⊢
  have F := (hri hn).2 hsh
  have hw : r.wkc = sf.wkc := by rw [hr]
  rw [hw, F.wkc]
  exact ⟨rfl, F.wkcChk, fun hlt => Nat.mod_eq_of_lt hlt⟩

/-- The clause as the property states it ("the reported working counter is the sum over the process-data
    datagrams", for arbitrary device answers), kept visible. It is false of the code: -/
def WkcSumFull : Prop :=
  ∀ (c : Cfg) (image : List Nat) (resps : List (List RPdu)) (idx0 : Nat), CfgOk c image.length →
    c.addrs.length ≤ c.maxSd → (∀ f ∈ resps, ∀ p ∈ f, p.wkc < 65536) →
    Shaped (cycle c image resps idx0).frames resps →
    ∃ r, (cycle c image resps idx0).res = .ok r ∧ r.wkc = lrwWkcSum (cycle c image resps idx0).frames resps

/-- Witness configuration: 30-byte frames, a 4-byte image (all outputs), no SubDevices; two LRW chunks whose
    answers carry working counter 0x8000 each. -/
def wkcWitness (m : Mode) : Cfg :=
  { cap := 30, pdiStart := 0, readLen := 0, addrs := [], maxSd := 16, mode := m, dc := none }

/-- **wkc_sum counterexample.** On the witness a build with overflow checks panics (`lrw_wkc_sum += wkc`), a
    build without reports 0 although the sum is 65536 — with answers of exactly the requested shape. -/
theorem wkc_sum_counterexample :
    (cycle (wkcWitness .checked) [1, 2, 3, 4] [[⟨[1, 2], 32768⟩], [⟨[3, 4], 32768⟩]] 0).res
        = .panic "attempt to add with overflow" ∧
    (cycle (wkcWitness .wrapping) [1, 2, 3, 4] [[⟨[1, 2], 32768⟩], [⟨[3, 4], 32768⟩]] 0).res
        = .ok ⟨0, [], none⟩ ∧
    lrwWkcSum (cycle (wkcWitness .wrapping) [1, 2, 3, 4] [[⟨[1, 2], 32768⟩], [⟨[3, 4], 32768⟩]] 0).frames
        [[⟨[1, 2], 32768⟩], [⟨[3, 4], 32768⟩]] = 65536 := by
  decide +kernel

/-- The clause as stated does not hold of the code (witness above, build with overflow checks): well-shaped answers,
    every working counter a `u16`, yet no result. -/
theorem wkc_sum_full_false : ¬ WkcSumFull := by
  intro h
  have hf : (cycle (wkcWitness .checked) [1, 2, 3, 4] [[⟨[1, 2], 32768⟩], [⟨[3, 4], 32768⟩]] 0).frames
      = [⟨encodeFrame [⟨.lrw 0, 0, 2, [1, 2]⟩], [⟨.lrw 0, 0, 2, [1, 2]⟩]⟩,
         ⟨encodeFrame [⟨.lrw 2, 1, 2, [3, 4]⟩], [⟨.lrw 2, 1, 2, [3, 4]⟩]⟩] := by decide +kernel
  obtain ⟨r, hr, _⟩ := h (wkcWitness .checked) [1, 2, 3, 4] [[⟨[1, 2], 32768⟩], [⟨[3, 4], 32768⟩]] 0
    ⟨by decide, by decide, by decide, by decide⟩ (by decide) (by decide)
    (by rw [hf]; refine ⟨by decide, ?_⟩; intro x hx; simp at hx; rcases hx with rfl | rfl <;> simp [ShapedOne])
  rw [wkc_sum_counterexample.1] at hr; cases hr

/-- **states_in_group_order.** After a successful cycle with well-shaped answers there is exactly one state check
    per SubDevice, addressed in group order, and the reported list holds, in that order, the low nibble of the AL
    status each device returned. -/
theorem states_in_group_order (c : Cfg) (image : List Nat) (resps : List (List RPdu)) (idx0 : Nat)
    (hc : CfgOk c image.length) (hn : c.addrs.length ≤ c.maxSd) (r : Resp)
    (hok : (cycle c image resps idx0).res = .ok r) (hsh : Shaped (cycle c image resps idx0).frames resps) :
    fprds (cycle c image resps idx0).frames = c.addrs ∧
    r.states = stateAnswers (cycle c image resps idx0).frames resps ∧
    r.states.length = c.addrs.length := by
  obtain ⟨sf, hfr, _, hr, hi, _, hchk, _, hri⟩ := cycle_ok hc hok
  rw [hfr] at hsh ⊢
  have F := (hri hn).2 hsh
  have hst : r.states = sf.states := by rw [hr]
  exact ⟨by rw [hi.fprd, hchk, List.take_length], hst.trans F.states, by rw [hst, F.nstates, hchk]⟩

/-- **no_error_when_answered.** A cycle returns `Err` only if some frame stayed unanswered or some answer did not
    have the requested shape: with well-shaped answers to everything that was sent it succeeds (or, with overflow
    checks, panics in the working-counter sum). -/
theorem no_error_when_answered (c : Cfg) (image : List Nat) (resps : List (List RPdu)) (idx0 : Nat)
    (hc : CfgOk c image.length) (hn : c.addrs.length ≤ c.maxSd) (e : TxErr)
    (herr : (cycle c image resps idx0).res = .err e) : ¬ Shaped (cycle c image resps idx0).frames resps := by
  exact loop_err_misshaped hc hn _ _ (FrInv.init c image resps idx0) (RInv.init c image resps idx0)
    (phi_init_le hc resps idx0) e (finish_err herr)

/-- **terminates, all variants.** `tx_rx`, `tx_rx_dc` and `tx_rx_sync_system_time` — the latter with or without a DC
    reference stored in the MainDevice (without one it is `tx_rx`, which takes the image lock itself) — never
    exhaust the fuel, for every frame size the variant that runs allows. -/
theorem terminates_all_variants (c : Cfg) (image : List Nat) (resps : List (List RPdu)) (idx0 ref : Nat) :
    (CfgOk { c with dc := none } image.length →
      (txRx c image resps idx0).res ≠ .err .fuel ∧ (txRxSyncSystemTime c 0 image resps idx0).res ≠ .err .fuel) ∧
    (CfgOk { c with dc := some ref } image.length →
      (txRxDc c ref image resps idx0).res ≠ .err .fuel ∧
      (0 < ref → (txRxSyncSystemTime c ref image resps idx0).res ≠ .err .fuel)) := by
  obtain ⟨h1, h2, h3, h4⟩ := variants c image resps idx0 ref
  refine ⟨fun hc => ⟨?_, ?_⟩, fun hc => ⟨?_, fun href => ?_⟩⟩
  · rw [h1]; exact terminates _ image resps idx0 hc
  · rw [h4]; exact terminates _ image resps idx0 hc
  · rw [h2]; exact terminates _ image resps idx0 hc
  · rw [h3 href]; exact terminates _ image resps idx0 hc

/-- Regression witness of the repaired defect (KNOWN_FINDINGS `fixed:` C07): without a DC reference
    `tx_rx_sync_system_time` on an empty group and image returns `Ok` with no time, having sent nothing. -/
theorem sync_without_reference_returns :
    (txRxSyncSystemTime { cap := 64, pdiStart := 0, readLen := 0, addrs := [], maxSd := 16, mode := .checked, dc := none }
      0 [] [] 0).res = .ok ⟨0, [], none⟩ := by decide +kernel

/-! ### Non-vacuity: concrete cycles satisfying the hypotheses -/

/-- The smallest frame size: two image bytes per frame, then one state check per frame. -/
def demoPlain : Cfg :=
  { cap := 30, pdiStart := 0, readLen := 2, addrs := [0x1000, 0x1001], maxSd := 16, mode := .checked, dc := none }

def demoPlainResps : List (List RPdu) :=
  [[⟨[10, 11], 3⟩], [⟨[12, 13], 3⟩], [⟨[8, 0], 1⟩], [⟨[0x14, 0], 1⟩]]

example : CfgOk demoPlain 4 := ⟨by decide, by decide, by decide, by decide⟩

example : (cycle demoPlain [1, 2, 3, 4] demoPlainResps 5).res = .ok ⟨6, [8, 4], none⟩ := by decide +kernel
example : (cycle demoPlain [1, 2, 3, 4] demoPlainResps 5).image = [10, 11, 3, 4] := by decide +kernel
example : lrws (cycle demoPlain [1, 2, 3, 4] demoPlainResps 5).frames = [(0, 2), (2, 2)] := by decide +kernel

/-- A clock variant at its smallest frame size: clock datagram + 2 image bytes, then 1 byte + one state check. -/
def demoDc : Cfg :=
  { cap := 50, pdiStart := 100, readLen := 1, addrs := [0x1000], maxSd := 16, mode := .checked, dc := some 0x1000 }

def demoDcResps : List (List RPdu) :=
  [[⟨[1, 0, 0, 0, 0, 0, 0, 0], 1⟩, ⟨[0xaa, 0xbb], 3⟩], [⟨[0xcc], 3⟩, ⟨[8, 0], 1⟩]]

example : CfgOk demoDc 3 := ⟨by decide, by decide, by decide, by decide⟩
example : (cycle demoDc [1, 2, 3] demoDcResps 0).res = .ok ⟨6, [8], some 1⟩ := by decide +kernel
example : (cycle demoDc [1, 2, 3] demoDcResps 0).image = [0xaa, 2, 3] := by decide +kernel
example : (allDescs (cycle demoDc [1, 2, 3] demoDcResps 0).frames).head? = some (frmwDesc 0x1000) := by decide +kernel

end Ec.C07
