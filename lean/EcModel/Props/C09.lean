/-
  C09 — initialisation finds every SubDevice once and addresses each distinctly.
  Property theorems only; the lemmas about the loops of `init` are in EcModel/Lemmas/{NetLemmas,InitLemmas}.

  Subject: `Ec.Init.init`, the hand translation of `MainDevice::init` over the abstract segment of
  `Ec.Net` (ring of responsive devices in a line, arbitrary station addresses and AL states before init).
  All theorems hold for every ring of 1..65535 devices (65535 = the largest count a 16-bit working
  counter can report), every capacity, every group filter.
-/
import EcModel.Lemmas.InitLemmas

namespace Ec.C09

open Ec Ec.Net Ec.Init Ec.Gen.Init

/-! ### T1: facts regenerated from /repo on every run that the model relies on -/

/-- Shape of `MainDevice::init` and its helpers as found in the source. -/
theorem t1_init_shape :
    countFirst = true ∧ zeroReturnsGroups = true ∧ twoPhase = true ∧ phaseOrder = true ∧
    cfgAddrWrapping = true ∧ apwrTargetsStationAddress = true ∧ capacitySubDevice = true ∧
    capacityGroup = true ∧ groupPushCapacity = true ∧ countIsBrdWkc = true ∧ apwrNegatesPosition = true ∧
    newWaitsForInit = true ∧ preopPerSubdevice = true := by decide +kernel

/-- Register numbers and the base address the theorems are stated for. -/
theorem t1_registers :
    REG_Type = 0x0000 ∧ REG_ConfiguredStationAddress = 0x0010 ∧ REG_AlControl = 0x0120 ∧ REG_AlStatus = 0x0130 ∧
    Ec.Gen.BASE_SUBDEVICE_ADDRESS = 0x1000 ∧ fmmuRegs.length = 16 ∧ smRegs.length = 16 := by decide +kernel

/-- The count is the ring length: a broadcast read is executed by every device once. -/
theorem count_is_n (ring : List Dev) (h : ring.length ≤ 65535) :
    wkc (bExecutors ring.length) = ring.length := wkc_bExecutors h

/-- ... and it is the first thing on the wire. -/
theorem count_first (maxSub : Nat) (caps : List Nat) (assign : Record → Option Nat) (iters : Nat) (ring : List Dev)
    (h : ring.length ≤ 65535) :
    (init maxSub caps assign iters ring).log1.head? = some (Tok1.brd REG_Type, List.range ring.length) := by
  by_cases h0 : ring = []
  · subst h0; rfl
  · rw [init_eq h0 h]; rfl

/-- Auto-increment addressing reaches exactly the position asked for. -/
theorem apwr_reaches_position (idx n : Nat) (hi : idx < n) (hn : n ≤ 65536) :
    apExecutors (apAddr idx) n = [idx] := apExecutors_single hi hn

/-- After init's first loop the device at ring position `i` holds `0x1000 + i (mod 2^16)`, whatever any
    device held before (duplicates included), whatever else init goes on to do (capacity errors included). -/
theorem address_assigned (maxSub : Nat) (caps : List Nat) (assign : Record → Option Nat) (iters : Nat)
    (ring : List Dev) (h0 : ring ≠ []) (h : ring.length ≤ 65535) :
    (init maxSub caps assign iters ring).stations = (List.range ring.length).map cfgAddr := by
  rw [init_eq h0 h]

theorem address_at (maxSub : Nat) (caps : List Nat) (assign : Record → Option Nat) (iters : Nat)
    (ring : List Dev) (h0 : ring ≠ []) (h : ring.length ≤ 65535) (i : Nat) (hi : i < ring.length) :
    (init maxSub caps assign iters ring).stations[i]? = some ((0x1000 + i) % 65536) := by
  rw [address_assigned maxSub caps assign iters ring h0 h]
  simp [hi, cfgAddr, Ec.Gen.BASE_SUBDEVICE_ADDRESS]

/-- No wrap below position 61 440. -/
theorem address_no_wrap (i : Nat) (h : i < 61440) : cfgAddr i = 0x1000 + i :=
  Nat.mod_eq_of_lt (Nat.add_lt_of_lt_sub' h)

/-- The wrap statement: position 61 440 gets address 0, and so on (`wrapping_add`). -/
theorem address_wraps (i : Nat) (h1 : 61440 ≤ i) (h2 : i < 65536) : cfgAddr i = i - 61440 := by
  show (0x1000 + i) % 65536 = i - 61440
  rw [show 0x1000 + i = i - 61440 + 65536 by omega, Nat.add_mod_right, Nat.mod_eq_of_lt (by omega)]

/-- Pairwise distinct for every n ≤ 65 535. -/
theorem addresses_distinct (maxSub : Nat) (caps : List Nat) (assign : Record → Option Nat) (iters : Nat)
    (ring : List Dev) (h0 : ring ≠ []) (h : ring.length ≤ 65535) (i j : Nat) (hi : i < ring.length)
    (hj : j < ring.length)
    (heq : (init maxSub caps assign iters ring).stations[i]? = (init maxSub caps assign iters ring).stations[j]?) :
    i = j := by
  rw [address_assigned maxSub caps assign iters ring h0 h] at heq
  simp [hi, hj] at heq
  exact cfgAddr_inj (Nat.lt_succ_of_le (Nat.le_trans (Nat.le_of_lt hi) h))
    (Nat.lt_succ_of_le (Nat.le_trans (Nat.le_of_lt hj) h)) heq

/-- The two command logs share no addressing mode: phase 1 cannot emit a configured-address command ... -/
theorem phase1_no_fp (t : Tok1) : (∃ r, t = .brd r) ∨ (∃ r, t = .bwr r) ∨ (∃ p r, t = .apwr p r) := by
  cases t with
  | brd r => exact Or.inl ⟨r, rfl⟩
  | bwr r => exact Or.inr (Or.inl ⟨r, rfl⟩)
  | apwr p r => exact Or.inr (Or.inr ⟨p, r, rfl⟩)

/-- ... and the whole of phase 1 (count, reset, every APWR, each executed by its own position only) is on
    the wire before the first configured-address command: the full trace is `log1` followed by `log2`. -/
theorem phase1_complete (maxSub : Nat) (caps : List Nat) (assign : Record → Option Nat) (iters : Nat)
    (ring : List Dev) (h0 : ring ≠ []) (h : ring.length ≤ 65535) :
    (init maxSub caps assign iters ring).log1 = phase1Log ring.length ∧
    ∀ i, i < ring.length →
      (Tok1.apwr i REG_ConfiguredStationAddress, [i]) ∈ (init maxSub caps assign iters ring).log1 := by
  rw [init_eq h0 h]
  refine ⟨rfl, ?_⟩
  intro i hi
  simp only [phase1Log, List.mem_append, List.mem_map, List.mem_range'_1]
  exact Or.inr ⟨i, ⟨Nat.zero_le i, (Nat.zero_add _).symm ▸ hi⟩, rfl⟩

/-- Sufficient: once all addresses are assigned, a command to `0x1000 + i` is executed by device `i` and by
    no other, so stale duplicates never answer together. -/
theorem two_phase_sufficient (maxSub : Nat) (caps : List Nat) (assign : Record → Option Nat) (iters : Nat)
    (ring : List Dev) (h0 : ring ≠ []) (h : ring.length ≤ 65535) (i : Nat) (hi : i < ring.length) :
    fpExecutors (init maxSub caps assign iters ring).stations (cfgAddr i) = [i] := by
  rw [address_assigned maxSub caps assign iters ring h0 h]
  exact fpExecutors_assigned (Nat.le_succ_of_le h) hi

def devA : Dev := ⟨⟨7, 2, 0x044c2c52, 1, 11, some [65], 0, false, []⟩, 0x1234, 1⟩
/-- a device that was powered before: it still holds the address init is about to give to its neighbour -/
def devB : Dev := ⟨⟨9, 2, 0x07d43052, 1, 22, some [66], 2, true, [0, 1]⟩, 0x1000, 8⟩

/-- Needed: with ONE loop (`apwr(i)` immediately followed by `SubDevice::new(i)`) the stale device answers
    together with device 0 — two executors, working counter 2, init fails. -/
theorem one_phase_crosstalk_counterexample :
    fpExecutors (writeAt (apExecutors (apAddr 0) 2) (cfgAddr 0) [devA.station, devB.station]) (cfgAddr 0) = [0, 1] ∧
    (onePhaseLoop 2 [1, 1] [devA.info, devB.info] 2 0 [devA.station, devB.station] []).1 = .err .wkc := by
  decide +kernel

/-- The same ring through the real two-phase `init`: fine. -/
theorem two_phase_same_ring_ok :
    (init 2 [2] (fun _ => some 0) 1 [devA, devB]).result =
      .ok [[⟨0, 0x1000, devA.info⟩, ⟨1, 0x1001, devB.info⟩]] := by
  decide +kernel

/-- Everything a successful init returns: each record is built from the device at its own position and
    from no other; every device is in exactly one group, the one the filter chose; all are in PRE-OP. -/
theorem init_ok (maxSub : Nat) (caps : List Nat) (assign : Record → Option Nat) (iters : Nat)
    (ring : List Dev) (h0 : ring ≠ []) (h : ring.length ≤ 65535) (gs : List (List Record))
    (hok : (init maxSub caps assign iters ring).result = .ok gs) :
    ring.length ≤ maxSub ∧
    gs.flatten.Perm ((List.range ring.length).map (recordOf (ring.map (·.info)))) ∧
    gs.length = caps.length ∧
    (∀ k r, r ∈ gs.getD k [] → assign r = some k) ∧
    (∀ a ∈ (init maxSub caps assign iters ring).als, a = 2) ∧
    (init maxSub caps assign iters ring).als.length = ring.length := by
  rw [init_eq h0 h] at hok ⊢
  exact (afterAssign_spec h).2 gs hok

/-- Record `i` is a function of device `i` alone. -/
theorem record_from_own_device (maxSub : Nat) (caps : List Nat) (assign : Record → Option Nat) (iters : Nat)
    (ring : List Dev) (h0 : ring ≠ []) (h : ring.length ≤ 65535) (gs : List (List Record))
    (hok : (init maxSub caps assign iters ring).result = .ok gs) (r : Record) (hr : r ∈ gs.flatten) :
    r.index < ring.length ∧ r.cfg = cfgAddr r.index ∧ r.info = (ring.getD r.index default).info := by
  have hp := (init_ok maxSub caps assign iters ring h0 h gs hok).2.1
  have hm := hp.mem_iff.mp hr
  simp only [List.mem_map, List.mem_range] at hm
  obtain ⟨i, hi, rfl⟩ := hm
  refine ⟨hi, rfl, ?_⟩
  simp [recordOf, List.getD_eq_getElem?_getD, hi]

/-- Devices elsewhere in the ring do not influence record `i`. -/
theorem record_independent (infos infos' : List DevInfo) (i : Nat) (h : infos.getD i default = infos'.getD i default) :
    recordOf infos i = recordOf infos' i := by
  simp only [recordOf, h]

/-- Every device is found exactly once: each ring position occurs exactly once over all groups. -/
theorem each_device_one_group (maxSub : Nat) (caps : List Nat) (assign : Record → Option Nat) (iters : Nat)
    (ring : List Dev) (h0 : ring ≠ []) (h : ring.length ≤ 65535) (gs : List (List Record))
    (hok : (init maxSub caps assign iters ring).result = .ok gs) (i : Nat) (hi : i < ring.length) :
    (gs.flatten.map (·.index)).count i = 1 := by
  have hp := (init_ok maxSub caps assign iters ring h0 h gs hok).2.1
  have hp2 := hp.map (·.index)
  rw [hp2.count_eq]
  have : ((List.range ring.length).map (recordOf (ring.map (·.info)))).map (·.index) = List.range ring.length := by
    simp [recordOf, Function.comp_def]
  rw [this, List.count_range, if_pos hi]

/-- The group is the one the filter named. -/
theorem group_is_filters_choice (maxSub : Nat) (caps : List Nat) (assign : Record → Option Nat) (iters : Nat)
    (ring : List Dev) (h0 : ring ≠ []) (h : ring.length ≤ 65535) (gs : List (List Record))
    (hok : (init maxSub caps assign iters ring).result = .ok gs) (k : Nat) (r : Record) (hr : r ∈ gs.getD k []) :
    assign r = some k :=
  (init_ok maxSub caps assign iters ring h0 h gs hok).2.2.2.1 k r hr

/-- A successful init leaves every device in PRE-OP (AL status 2, no error indication). -/
theorem all_preop (maxSub : Nat) (caps : List Nat) (assign : Record → Option Nat) (iters : Nat)
    (ring : List Dev) (h0 : ring ≠ []) (h : ring.length ≤ 65535) (gs : List (List Record))
    (hok : (init maxSub caps assign iters ring).result = .ok gs) :
    (init maxSub caps assign iters ring).als = List.replicate ring.length 2 := by
  have hs := init_ok maxSub caps assign iters ring h0 h gs hok
  exact List.eq_replicate_iff.mpr ⟨hs.2.2.2.2.2, hs.2.2.2.2.1⟩

/-- More devices than `MAX_SUBDEVICES`: `Err(Capacity)`. Not a panic, not `Ok`, whatever the devices,
    the groups and the filter are. -/
theorem capacity_error (maxSub : Nat) (caps : List Nat) (assign : Record → Option Nat) (iters : Nat)
    (ring : List Dev) (h : ring.length ≤ 65535) (hcap : maxSub < ring.length) :
    (init maxSub caps assign iters ring).result = .err .capSub := by
  have h0 : ring ≠ [] := by intro e; subst e; simp at hcap
  rw [init_eq h0 h]
  exact (afterAssign_spec h).1 hcap

/-- Init never panics: on any ring of responsive devices, with any capacities and any filter (the model has
    no panic site on this path; the harness checks the implementation's `catch_unwind` outcome against
    this on every case). -/
theorem init_no_panic (maxSub : Nat) (caps : List Nat) (assign : Record → Option Nat) (iters : Nat)
    (ring : List Dev) (s : String) :
    (init maxSub caps assign iters ring).result ≠ .panic s :=
  Init.init_no_panic

/-- An empty network: `Ok`, every group empty, nothing on the wire but the count. -/
theorem empty_network (maxSub : Nat) (caps : List Nat) (assign : Record → Option Nat) (iters : Nat) :
    init maxSub caps assign iters [] =
      ⟨.ok (caps.map fun _ => []), [], [], [(Tok1.brd REG_Type, [])], []⟩ := by
  rfl

/-- Three devices that all hold the address init hands out first, two groups, a Deque of four. -/
example :
    let ring := [devB, devB, { devA with station := 0x1000 }]
    let run := init 4 [2, 2] (fun r => some (r.index % 2)) 2 ring
    run.result = .ok [[⟨0, 0x1000, devB.info⟩, ⟨2, 0x1002, devA.info⟩], [⟨1, 0x1001, devB.info⟩]] ∧
    run.stations = [0x1000, 0x1001, 0x1002] ∧ run.als = [2, 2, 2] := by
  decide +kernel

/-- Capacity: three devices, room for two. -/
example : (init 2 [4] (fun _ => some 0) 0 [devA, devB, devA]).result = .err .capSub := by decide +kernel

/-- A group that is too small: also `Capacity`. -/
example : (init 4 [1] (fun _ => some 0) 0 [devA, devB]).result = .err .capSub := by decide +kernel

/-- The filter may refuse a device. -/
example : (init 4 [4] (fun r => if r.index = 1 then none else some 0) 0 [devA, devB]).result = .err .unknown := by
  decide +kernel

end Ec.C09
