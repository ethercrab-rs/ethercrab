/-
  C01 (view clauses, sequential) — a `ReceivedPdu` held by a caller keeps denoting the same bytes.

  Since /repo commit 18ebc523 the `ReceivedPdu` returned by `first_pdu` owns its frame: in the model a
  `view` handle is an owner of its slot, which is `RxProcessing` (invariant `J`). The theorems below
  are over every reachable world and every API operation that does not act on the view's own
  register: allocations into any slot, pushes, `mark_sendable`, TX claim / send, `receive_frame` of
  ANY bytes, polls, drops of other handles, other views, clock advances, and `reset` (disabled while
  a handle is alive).
-/
import EcModel.Lemmas.SlotsInv

namespace Ec.C01View

theorem view_frame {n data : Nat} {w : World} (hn : 0 < n) (hr : Reach n data w) {r k off len wkc : Nat}
    (hv : getH w.2 r = some ⟨r, k, .view off len wkc⟩) (op : Op) (hop : op.reg ≠ some r) :
    (step w op).1.1.slot k = w.1.slot k ∧ (w.1.slot k).st = .rxProcessing ∧
    getH (step w op).1.2 r = some ⟨r, k, .view off len wkc⟩ := by
  have hJ := J_reach hn hr
  have hm := (getH_some hv).1
  have hst : (w.1.slot k).st = .rxProcessing := hJ.rxProcessing hm rfl
  obtain ⟨h1, h2⟩ := step_frame_owner hJ hm (by decide : 3 ≠ 4) (hst ▸ ⟨nofun, nofun, nofun⟩) op hop
  exact ⟨h1, hst, h2⟩

/-- **view_stable**: while a caller holds a `ReceivedPdu`, no operation of any other handle or task
    changes the bytes of the slot the view points into (nor anything else of that slot), nor the
    view handle itself. -/
theorem view_stable {n data : Nat} {w : World} (hn : 0 < n) (hr : Reach n data w) (r k off len wkc : Nat)
    (hv : getH w.2 r = some ⟨r, k, .view off len wkc⟩) (op : Op) (hop : op.reg ≠ some r) :
    ((step w op).1.1.slot k).buf = (w.1.slot k).buf ∧
    getH (step w op).1.2 r = some ⟨r, k, .view off len wkc⟩ :=
  ⟨congrArg Slot.buf (view_frame hn hr hv op hop).1, (view_frame hn hr hv op hop).2.2⟩

/-- The whole slot (state `RxProcessing`, marker, length, bytes) is untouched, not only its buffer. -/
theorem view_slot_stable {n data : Nat} {w : World} (hn : 0 < n) (hr : Reach n data w) (r k off len wkc : Nat)
    (hv : getH w.2 r = some ⟨r, k, .view off len wkc⟩) (op : Op) (hop : op.reg ≠ some r) :
    (step w op).1.1.slot k = w.1.slot k ∧ (w.1.slot k).st = .rxProcessing :=
  ⟨(view_frame hn hr hv op hop).1, (view_frame hn hr hv op hop).2.1⟩

/-- **view_stable_run**: along any history none of whose operations acts on the view's register, the
    bytes the view denotes never change and the view handle stays. -/
theorem view_stable_run {n data : Nat} {w : World} (hn : 0 < n) (hr : Reach n data w) (r k off len wkc : Nat)
    (hv : getH w.2 r = some ⟨r, k, .view off len wkc⟩) (ops : List Op) (hops : ∀ op ∈ ops, op.reg ≠ some r) :
    viewBytes (run w ops).1 k off len = viewBytes w.1 k off len ∧
    getH (run w ops).2 r = some ⟨r, k, .view off len wkc⟩ := by
  induction ops generalizing w with
  | nil => exact ⟨rfl, hv⟩
  | cons op ops ih =>
    obtain ⟨h1, h2⟩ := view_stable hn hr r k off len wkc hv op (hops op (by simp))
    obtain ⟨i1, i2⟩ := ih (hr.step op) h2 (fun o ho => hops o (by simp [ho]))
    refine ⟨?_, i2⟩
    rw [run_cons, i1]
    simp only [viewBytes, h1]

/-- **view_in_data_area**: the view `first_pdu` hands out denotes exactly the data area of the first
    datagram of the response: it starts at offset 16 + 10 of the frame buffer, has the datagram's
    declared length, carries the datagram's working counter, the datagram is the one the caller's
    handle names (command code and index), and data area plus working counter lie inside the buffer. -/
theorem view_in_data_area {n data : Nat} {w : World} (hn : 0 < n) (hr : Reach n data w) (r k code idx : Nat)
    (hh : getH w.2 r = some ⟨r, k, .received⟩) (off len wkc : Nat)
    (hok : getH (step w (.first r code idx)).1.2 r = some ⟨r, k, .view off len wkc⟩) :
    (∃ more, parsePduAt ((w.1.slot k).buf.drop 16) 0 = .ok (off - 16) len wkc code idx more) ∧
    off = 26 ∧ off + len + 2 ≤ (w.1.slot k).buf.length ∧
    (step w (.first r code idx)).1.1 = w.1 ∧
    viewBytes (step w (.first r code idx)).1.1 k off len = ((w.1.slot k).buf.drop 26).take len := by
  have hJ := J_reach hn hr
  simp only [step] at hok ⊢
  rcases opFirst_cases hh code idx with ⟨off', len', wkc', more, hp, e⟩ | ⟨_, _, e⟩ <;> rw [e] at hok ⊢
  · rw [getH_putH_self _ ⟨r, k, .view (16 + off') len' wkc'⟩] at hok
    simp only [Option.some.injEq, Hd.mk.injEq, HK.view.injEq, true_and] at hok
    obtain ⟨rfl, rfl, rfl⟩ := hok
    obtain ⟨rfl, hl⟩ := parsePduAt_ok hp
    simp only [List.length_drop] at hl
    exact ⟨⟨more, hp⟩, rfl, by omega, rfl, rfl⟩
  · -- the frame was dropped: register `r` is empty
    rw [getH_delH_self] at hok; cases hok

/-- After `trim_front` the view denotes a suffix of what it denoted before (and nothing of the slot
    changes): it never leaves the datagram's data area. -/
theorem view_trim_stays_inside (w : World) (r k off len wkc ct : Nat)
    (hv : getH w.2 r = some ⟨r, k, .view off len wkc⟩) :
    (step w (.viewTrim r ct)).1.1 = w.1 ∧
    viewBytes w.1 k (off + min ct len) (len - min ct len) = (viewBytes w.1 k off len).drop (min ct len) := by
  refine ⟨by simp [step, opViewTrim, hv], ?_⟩
  simp only [viewBytes]
  rw [List.drop_take, List.drop_drop]

/-! Non-vacuity: a one-slot round trip up to the view, then a second task's failed allocation and a
    stray frame; the view's bytes are what the response carried. -/
def demoResp : List Nat :=
  [255, 255, 255, 255, 255, 255, 18, 16, 16, 16, 16, 16, 0x88, 0xa4, 14, 0x10,
   4, 0, 1, 16, 0x30, 1, 2, 0, 0, 0, 0xaa, 0xbb, 1, 0]

def demoW : World :=
  run (World.init 1 40 0 0)
    [.alloc 0, .push 0 (.fprd 4097 304) [0, 0] none, .mark 0 0 100, .txNext 1, .txSend 1 0, .rx demoResp,
     .poll 0, .first 0 4 0]

example : getH demoW.2 0 = some ⟨0, 0, .view 26 2 1⟩ := by decide +kernel
example : viewBytes demoW.1 0 26 2 = [0xaa, 0xbb] := by decide +kernel
example : viewBytes (run demoW [.alloc 5, .rx demoResp, .txNext 6, .advance 1000]).1 0 26 2 = [0xaa, 0xbb] := by decide +kernel

end Ec.C01View
