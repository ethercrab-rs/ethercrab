/-
  C02 on the micro-step model — a frame buffer never has two parties inside it at once, proved
  DIRECTLY on `Micro.lean` (one step per yield site of the real code, any number of threads, every
  schedule), not on the abstract token automaton of `Props/C02.lean`.

  Definitions (Lemmas/MicroInv.lean):
    `Holds t k ρ`  thread `t` holds a claim of role `ρ` on slot `k`, by its program counter
                   (`alloc_frame` after the successful claim; `receive_frame` between `claim_receiving`
                   and `mark_received`) or by a handle in one of its registers;
    `Inside t k`   creator ∨ tx ∨ rx ∨ reader (the `ReceiveFrameFut` waits, it is not inside);
    `Owner t k`    creator ∨ fut ∨ reader;
    `MInv w`       for every slot and role, the number of claims of all threads is bounded by what the
                   slot's status admits (`cap`), registers are unique per thread, an operation in
                   progress finds the handle kind it needs in its register;
    `AbandonInsideStep w tid`  the step about to be taken is `dfStore` / `poRelease` on a slot that is
                   `Sending`, or `RxBusy` while an RX thread is inside — the window C06 owns.
  Proofs: Lemmas/MicroEffect.lean (what each program counter's step does to statuses and claims),
  MicroInvMain.lean (both invariants are kept by any step with such an effect), MicroBufFrame.lean
  (what a step does to the storage).

  Hypotheses, and why:
    * `0 < n` (a storage without slots cannot run `alloc_frame`: `% 0`);
    * `¬ AbandonInsideStep` per step (`SafeSched` per schedule): without it the statement is FALSE of
      the code — `abandon_inside_tx_counterexample`, `abandon_inside_rx_counterexample`;
    * nothing about programs: wrong-kind operations are `bad-op` no-ops (proved: `PcOk`), and `al r` /
      `tn r` into an OCCUPIED register (where `putH` replaces, i.e. forgets, the old handle) is
      HANDLED — the invariant bounds claims from above, and forgetting a claim only lowers counts.
      Exclusion needs no hypothesis on registers. Only the converse direction ("every non-free
      slot has an owner", hence EXACTLY one: `micro_exactly_one_owner`) needs it, as the per-step
      hypothesis `¬ ClobberStep` (`FreshSafeSched`); `clobber_loses_owner_counterexample` shows why.
  Concrete witnesses cannot be run from a program's first operation by `decide` (`Micro.begin` parses
  strings, which the kernel cannot evaluate): they start from literal mid-execution worlds that are
  proved to satisfy `MInv` and are checked (`#guard`, Lemmas/MicroInvExamples.lean) to be what the
  executable model reaches from the fresh world with the stated programs and schedule.
-/
import EcModel.Lemmas.MicroInvMain
import EcModel.Lemmas.MicroInvExamples
import EcModel.Lemmas.MicroBufFrame

namespace Ec.C02Micro
open Ec Ec.Micro

/-- The creator claim carried by a program counter: `alloc_frame` after its successful
    `None → Created` compare-exchange (sites 3, 4, 5). -/
theorem creator_pc_iff (pc : Pc) (k : Nat) :
    pc.claim = some (k, .creator) ↔ ∃ r, pc = .alWaker r k ∨ pc = .alFirst r k ∨ pc = .alBuf r k := by
  constructor
  · intro h
    cases pc <;> cases h <;> first
      | exact ⟨_, .inl rfl⟩
      | exact ⟨_, .inr (.inl rfl)⟩
      | exact ⟨_, .inr (.inr rfl)⟩
  · rintro ⟨r, rfl | rfl | rfl⟩ <;> rfl

/-- The RX claim: `receive_frame` from `claim_receiving` until `mark_received`, the hand-back
    (`RxBusy → Sent` after the marker re-check failed) or an error return. -/
theorem rx_pc_iff (pc : Pc) (k : Nat) :
    pc.claim = some (k, .rx) ↔
      (∃ p idx, pc = .rxVerify k p idx) ∨ pc = .rxUnclaim k ∨ (∃ p, pc = .rxCopy k p) ∨ pc = .rxMark k := by
  constructor
  · intro h
    cases pc <;> cases h <;> first
      | exact .inl ⟨_, _, rfl⟩
      | exact .inr (.inl rfl)
      | exact .inr (.inr (.inl ⟨_, rfl⟩))
      | exact .inr (.inr (.inr rfl))
  · rintro (⟨p, idx, rfl⟩ | rfl | ⟨p, rfl⟩ | rfl) <;> rfl

/-- Who is inside slot `k`, in terms of program counters and handle kinds. -/
theorem inside_iff (t : Thread) (k : Nat) :
    Inside t k ↔
      ((∃ r, t.pc = .alWaker r k ∨ t.pc = .alFirst r k ∨ t.pc = .alBuf r k) ∨
        ∃ h ∈ t.regs, h.slot = k ∧ ∃ c l, h.kind = .created c l) ∨
      (∃ h ∈ t.regs, h.slot = k ∧ h.kind = .sendable) ∨
      ((∃ p idx, t.pc = .rxVerify k p idx) ∨ t.pc = .rxUnclaim k ∨ (∃ p, t.pc = .rxCopy k p) ∨
        t.pc = .rxMark k) ∨
      (∃ h ∈ t.regs, h.slot = k ∧ (h.kind = .received ∨ ∃ o l w, h.kind = .view o l w)) := by
  have hc : ∀ K : HK, roleOf K = .creator ↔ ∃ c l, K = .created c l := by intro K; cases K <;> simp [roleOf]
  have ht : ∀ K : HK, roleOf K = .tx ↔ K = .sendable := by intro K; cases K <;> simp [roleOf]
  have hx : ∀ K : HK, ¬ roleOf K = .rx := by intro K; cases K <;> simp [roleOf]
  have hr : ∀ K : HK, roleOf K = .reader ↔ (K = .received ∨ ∃ o l w, K = .view o l w) := by
    intro K; cases K <;> simp [roleOf]
  have ht' : ∀ pc : Pc, ¬ pc.claim = some (k, .tx) := by intro pc h; cases pc <;> cases h
  have hr' : ∀ pc : Pc, ¬ pc.claim = some (k, .reader) := by intro pc h; cases pc <;> cases h
  simp only [Inside, Holds, creator_pc_iff, rx_pc_iff, hc, ht, hx, hr, ht', hr', false_or, and_false,
    exists_false, or_false]

/-- **MInv holds initially**: fresh storage with `n > 0` slots, any counters, any number of threads
    with arbitrary programs, all idle with empty registers. -/
theorem micro_inv_init (n data fi pi : Nat) (progs : List (List String)) (hn : 0 < n) :
    MInv (initWorld n data fi pi progs) := MInv_init n data fi pi progs hn

/-- **MInv is preserved by every granted step** of every thread at every program counter (36 program
    counters, each with all its branches), unless the step abandons a request inside the window. -/
theorem micro_inv_step (w w' : MWorld) (tid : Nat) (hI : MInv w) (hna : ¬ AbandonInsideStep w tid)
    (hs : Micro.step w tid = some w') : MInv w' := hI.step hna hs

/-- Retry needs no exclusion: the `poRetry` step (compare-exchange from `Sent`) is never in the
    excluded window, whatever the slot's status. -/
theorem retry_never_excluded (w : MWorld) (tid : Nat) (t : Thread) (r : Nat) (was : St) (dl : Nat)
    (ht : w.threads[tid]? = some t) (hpc : t.pc = .poRetry r was dl) : ¬ AbandonInsideStep w tid := by
  rintro ⟨t', r', e, h, _⟩
  rw [ht] at e; cases e
  rw [hpc] at h
  rcases h with h | h <;> cases h

/-- **MInv holds after every schedule** (thread grants and clock advances in any order; grants that
    are refused leave the world unchanged) that stays outside the window. -/
theorem micro_inv_run (w : MWorld) (sched : List Tick) (hI : MInv w) (hs : SafeSched w sched) :
    MInv (runSched w sched) := hI.run sched hs

theorem micro_inv_reachable (n data : Nat) (w : MWorld) (hn : 0 < n) (h : Reachable n data w) : MInv w :=
  MInv_reachable hn h

/-- In every reachable world, every slot has at most one thread inside. -/
theorem micro_mutual_exclusion (n data : Nat) (w : MWorld) (hn : 0 < n) (h : Reachable n data w)
    (k i j : Nat) (a b : Thread) (ha : w.threads[i]? = some a) (hb : w.threads[j]? = some b)
    (hia : Inside a k) (hib : Inside b k) : i = j :=
  (MInv_reachable hn h).mutual_exclusion ha hb hia hib

/-- Stronger, counting claims: all threads together hold at most ONE inside-claim on a slot (so a
    single thread does not hold two handles into the same buffer either). -/
theorem micro_at_most_one_inside_claim (n data : Nat) (w : MWorld) (hn : 0 < n) (h : Reachable n data w)
    (k : Nat) : (w.threads.map (fun t => insideCount t k)).sum ≤ 1 :=
  (MInv_reachable hn h).inside_total k

/-- **Unique owner**: at most one thread is creator, awaiting future or reader of a slot. -/
theorem micro_unique_owner (n data : Nat) (w : MWorld) (hn : 0 < n) (h : Reachable n data w)
    (k i j : Nat) (a b : Thread) (ha : w.threads[i]? = some a) (hb : w.threads[j]? = some b)
    (hoa : Owner a k) (hob : Owner b k) : i = j :=
  (MInv_reachable hn h).unique_owner ha hb hoa hob

/-- **Status ↔ holder**: whoever holds a claim finds the slot in the state its handle type promises
    (creator: `Created`; future: one of the five in-flight states; TX: `Sending`; RX: `RxBusy`; reader:
    `RxProcessing`), and the slot index is in range. -/
theorem micro_status_of_holder (n data : Nat) (w : MWorld) (hn : 0 < n) (h : Reachable n data w)
    (t : Thread) (hm : t ∈ w.threads) (k : Nat) (ρ : Role) (hh : Holds t k ρ) :
    k < w.sys.n ∧
    match ρ with
    | .creator => (w.sys.slot k).st = .created
    | .fut => (w.sys.slot k).st = .sendable ∨ (w.sys.slot k).st = .sending ∨ (w.sys.slot k).st = .sent ∨
        (w.sys.slot k).st = .rxBusy ∨ (w.sys.slot k).st = .rxDone
    | .tx => (w.sys.slot k).st = .sending
    | .rx => (w.sys.slot k).st = .rxBusy
    | .reader => (w.sys.slot k).st = .rxProcessing := by
  obtain ⟨h1, h2⟩ := (MInv_reachable hn h).holder hm hh
  refine ⟨h2, ?_⟩
  cases ρ <;> exact cap_pos h1

/-- **No re-allocation while held**: `claim_created` succeeds only on a `None` slot, and on a `None`
    slot no thread holds a claim of any role. -/
theorem micro_no_realloc_while_held (n data : Nat) (w : MWorld) (hn : 0 < n) (h : Reachable n data w)
    (k : Nat) (hst : (w.sys.slot k).st = .none) (t : Thread) (hm : t ∈ w.threads) (ρ : Role) :
    ¬ Holds t k ρ := by
  intro hh
  have := ((MInv_reachable hn h).holder hm hh).1
  rw [hst, cap_none] at this
  omega

/-- Every step that reads or writes a slot's buffer (`alBuf`,
    `puWrite`, `puPatch`, `mkHdr`, `tsRead`, `rxCopy`, `fpRead`, `itNext`, `itRead`, `vrRead`: `bufAccess`)
    is taken by a thread that is inside that slot. -/
theorem micro_buffer_access_by_insider (n data : Nat) (w : MWorld) (hn : 0 < n) (h : Reachable n data w)
    (tid : Nat) (t : Thread) (ht : w.threads[tid]? = some t) (k : Nat) (hb : bufAccess t = some k) :
    Inside t k :=
  (MInv_reachable hn h).buffer_access_by_insider ht hb

/-- **A slot's buffer changes only by a step of a thread that is inside the slot**: `bufAccess` is
    complete for writes (`buf_unchanged_unless_access`, one case per program counter), and whoever
    `bufAccess` names is inside. -/
theorem micro_buffer_changes_only_by_insider (n data : Nat) (w w' : MWorld) (hn : 0 < n)
    (h : Reachable n data w) (tid : Nat) (hs : Micro.step w tid = some w') (k : Nat)
    (hne : (w'.sys.slot k).buf ≠ (w.sys.slot k).buf) :
    ∃ t, w.threads[tid]? = some t ∧ Inside t k := by
  obtain ⟨t, ht, rfl⟩ := step_some hs
  refine ⟨t, ht, ?_⟩
  by_cases hb : bufAccess t = some k
  · exact (MInv_reachable hn h).buffer_access_by_insider ht hb
  · exact absurd (buf_unchanged_unless_access w.sys t k hb) hne

/-- Together: while a thread is about to access a slot's buffer, no OTHER thread is inside it. -/
theorem micro_access_is_exclusive (n data : Nat) (w : MWorld) (hn : 0 < n) (h : Reachable n data w)
    (i j : Nat) (a b : Thread) (ha : w.threads[i]? = some a) (hb : w.threads[j]? = some b) (k : Nat)
    (hacc : bufAccess a = some k) (hin : Inside b k) : i = j :=
  (MInv_reachable hn h).mutual_exclusion ha hb ((MInv_reachable hn h).buffer_access_by_insider ha hacc) hin

/-- Reachable by a schedule that, in addition to staying outside the window, stores every new handle
    (`al r`, `tn r`) into a FREE register. The real harness' register map drops the handle it
    replaces (`harness/src/seq.rs`, `regs.insert`); in the model `putH` would silently forget it. -/
def FreshReachable (n data : Nat) (w : MWorld) : Prop :=
  ∃ fi pi progs sched, FreshSafeSched (initWorld n data fi pi progs) sched ∧
    w = runSched (initWorld n data fi pi progs) sched

/-- In every such world, every non-free slot has exactly one owner
    thread (creator, awaiting future, or reader): some thread owns it, and any owner is that thread. -/
theorem micro_exactly_one_owner (n data : Nat) (w : MWorld) (hn : 0 < n) (h : FreshReachable n data w)
    (k : Nat) (hne : (w.sys.slot k).st ≠ .none) :
    ∃ (i : Nat) (t : Thread), w.threads[i]? = some t ∧ Owner t k ∧
      ∀ (j : Nat) (t' : Thread), w.threads[j]? = some t' → Owner t' k → j = i := by
  obtain ⟨fi, pi, progs, sched, hs, rfl⟩ := h
  obtain ⟨hI, hO⟩ := MOwned.run (MInv_init n data fi pi progs hn) (MOwned_init n data fi pi progs) sched hs
  obtain ⟨t, hm, hpos⟩ := (sum_pos_iff fun t => ownerCount t k).mp (sum_ownerCount _ k ▸ hO.owned k hne)
  obtain ⟨i, hi⟩ := List.getElem?_of_mem hm
  exact ⟨i, t, hi, (owner_iff_count_pos t k).mpr hpos, fun j t' hj ho =>
    hI.unique_owner hj hi ho ((owner_iff_count_pos t k).mpr hpos)⟩

/-- Why the extra hypothesis: a second `al,0` overwrites the `CreatedFrame` in register 0; slot 0 stays
    `Created` with no owner left (a modelling artefact: the real harness drops the old handle, which
    releases the slot). Mutual exclusion is unaffected. -/
theorem clobber_loses_owner_counterexample :
    ClobberStep wClobber 0 ∧
    (wClobber.threads.map (fun t => ownerCount t 0)).sum = 1 ∧
    (runSched wClobber [.run 0]).sys.slots.map (·.st) = [.created, .created] ∧
    ((runSched wClobber [.run 0]).threads.map (fun t => ownerCount t 0)).sum = 0 ∧
    ((runSched wClobber [.run 0]).threads.map (fun t => insideCount t 0)).sum = 0 := by
  refine ⟨⟨_, 0, rfl, Or.inl ⟨1, rfl⟩, by decide⟩, by decide, by decide, by decide, by decide⟩

/-- A concrete 2-thread schedule (thread 0 in `alloc_frame`, thread 1 in `next_sendable_frame`,
    interleaved): it is outside the window, ends with exactly thread 0 inside slot 0, and the
    invariant holds there. (`wStart` is the fresh 1-slot world after both threads began their first
    operation — checked against the executable model in Lemmas/MicroInvExamples.lean.) -/
example :
    let sched : List Tick := [.run 0, .run 1, .run 0, .run 0, .run 1, .run 0, .run 0]
    SafeSched wStart sched ∧ MInv (runSched wStart sched) ∧
      (runSched wStart sched).threads.map (fun t => insideCount t 0) = [1, 0] := by
  intro sched
  have hs : SafeSched wStart sched := by decide
  exact ⟨hs, wStart_inv.run sched hs, by decide⟩

/-- An abandonment the theorem COVERS (the hypothesis does not exclude every abandon): the future is
    dropped while the frame is `Sendable` and nobody is inside; the slot becomes free, the invariant
    holds, and a second thread's allocation then makes that thread the only one inside. -/
example :
    ¬ AbandonInsideStep wSafe 0 ∧
    (runSched wSafe [.run 0]).sys.slots.map (·.st) = [.none] ∧
    MInv (runSched wSafe [.run 0, .run 2, .run 2, .run 1]) ∧
    (runSched wSafe [.run 0, .run 2, .run 2, .run 1]).threads.map (fun t => insideCount t 0) = [0, 0, 1] := by
  have hs : SafeSched wSafe [.run 0, .run 2, .run 2, .run 1] := by decide
  exact ⟨by decide, by decide, wSafe_inv.run _ hs, by decide⟩

/-- Known finding `c06m/two-parties@store-over-inside`. `wTx` satisfies the invariant; thread 0's
    next step drops the future while TX (thread 1) holds the frame — the excluded step. After it,
    thread 2's `alloc_frame` claims the slot: threads 1 (TX, reading) and 2 (creator, writing) are
    inside slot 0 together, and the invariant is gone.
    Program and schedule from the fresh world: `progsTx`, `preTx ++ [0, 2, 2]`. -/
theorem abandon_inside_tx_counterexample :
    MInv wTx ∧ AbandonInsideStep wTx 0 ∧
    (runSched wTx [.run 0, .run 2, .run 2]).threads.map (fun t => insideCount t 0) = [0, 1, 1] ∧
    ¬ MInv (runSched wTx [.run 0, .run 2, .run 2]) := by
  refine ⟨wTx_inv, by decide, by decide, ?_⟩
  intro hI
  exact absurd (hI.inside_total 0) (by decide)

/-- The same with the RX side: thread 2 is between
    `claim_receiving` and the copy into the buffer (`RxBusy`) when thread 0 drops the future; thread 3's
    `alloc_frame` claims the slot, and RX (about to WRITE the response) and the new creator are inside
    together. Program and schedule from the fresh world: `progsRx`, `preRx ++ [0, 3, 3]`. -/
theorem abandon_inside_rx_counterexample :
    MInv wRx ∧ AbandonInsideStep wRx 0 ∧
    (runSched wRx [.run 0, .run 3, .run 3]).threads.map (fun t => insideCount t 0) = [0, 0, 1, 1] ∧
    ¬ MInv (runSched wRx [.run 0, .run 3, .run 3]) := by
  refine ⟨wRx_inv, by decide, by decide, ?_⟩
  intro hI
  exact absurd (hI.inside_total 0) (by decide)

/-- The two threads of the TX counterexample really are `Inside` (not just counted). -/
theorem abandon_inside_tx_two_inside :
    ∃ a b, (runSched wTx [.run 0, .run 2, .run 2]).threads[1]? = some a ∧
      (runSched wTx [.run 0, .run 2, .run 2]).threads[2]? = some b ∧ Inside a 0 ∧ Inside b 0 := by
  refine ⟨_, _, rfl, rfl, ?_, ?_⟩
  · exact (inside_iff_count_pos _ _).mpr (by decide)
  · exact (inside_iff_count_pos _ _).mpr (by decide)

end Ec.C02Micro
