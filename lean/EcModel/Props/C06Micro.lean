/-
  C06 (concurrency clauses) — expiry or abandonment of a request AT ANY MOMENT, including while the
  transmit or receive side is inside its buffer. Stated on the slot status protocol
  (`Lifecycle.lean`, events = the status-access sites regenerated from /repo).

  What holds for the current code is proved; what does not hold is exhibited by a counterexample
  (closed by `decide`), carried as a known finding and replayed on the real code by the baton
  scheduler (harness binary `c06m`).
-/
import EcModel.Props.C02

namespace Ec.C06Micro
open Ec Ec.Lifecycle Ec.C02

/-- Abandoning (drop or final timeout) while nobody is inside the buffer —
    the slot is Sendable, Sent, RxDone, or RxBusy after the RX side gave up — keeps the ownership
    invariant and frees the slot. -/
theorem abandon_safe_partial (x x' : LSlot) (h : SlotInv x) (hout : ¬ AbandonInside x .abandon)
    (hs : step x .abandon = some x') : SlotInv x' ∧ x'.st = .none ∧ x'.tok = ⟨0, 0, 0, 0, 0⟩ :=
  ⟨inv_step x x' .abandon h hout hs,
   step_table (P := fun x e x' => e = .abandon → ¬ AbandonInside x e →
     x'.st = .none ∧ x'.tok = ⟨0, 0, 0, 0, 0⟩) (by decide) h hs rfl hout⟩

/-- A deadline that expires with retries left never disturbs a party that is inside
    the buffer and never discards a response: the re-queue is a compare-exchange from `Sent`
    (commit b5bf0e20), so in every other state it changes nothing. -/
theorem retry_is_safe (x x' : LSlot) (h : SlotInv x) (hs : step x .retry = some x') :
    SlotInv x' ∧ (x.st ≠ .sent → x' = x) ∧ (x.st = .sent → x'.st = .sendable ∧ x'.tok = x.tok) :=
  ⟨inv_step x x' .retry h (fun c => nomatch c.1) hs,
   step_table (P := fun x e x' => e = .retry →
     (x.st ≠ .sent → x' = x) ∧ (x.st = .sent → x'.st = .sendable ∧ x'.tok = x.tok)) (by decide) h hs rfl⟩

/-- After the request was abandoned while the TX side held the frame,
    the TX side's completion (`mark_sent` / `release_sending_claim`, compare-exchanges from `Sending`
    since commit 362a9e12) leaves a free slot free: the slot is not lost. -/
theorem stale_tx_cannot_resurrect :
    (run init [.claimCreated, .markSendable, .txClaim, .abandon, .txSent]).st = .none ∧
    (run init [.claimCreated, .markSendable, .txClaim, .abandon, .txRelease]).st = .none ∧
    SlotInv (run init [.claimCreated, .markSendable, .txClaim, .abandon, .txSent]) := by decide

/-- In general: whatever the stale TX/RX party does after an abandonment inside the window, once it
    has finished the status word again determines the handles (the slot "heals"), provided nobody
    re-claimed the slot meanwhile. -/
theorem heals_after_stale_party_finishes (e : Ev) (he : e = .txSent ∨ e = .txRelease) :
    SlotInv (run init [.claimCreated, .markSendable, .txClaim, .abandon, e]) ∧
    SlotInv (run init [.claimCreated, .markSendable, .txClaim, .txSent, .rxClaim, .abandon, .rxDone]) := by
  rcases he with rfl | rfl <;> decide

/-- **Known finding `c06m/two-parties@store-over-inside`.** The full safety clause is FALSE of the
    current code: final timeout / drop stores `None` while TX (or RX) is inside; the slot can be
    claimed and rebuilt by another request while the first party still reads (or writes) the buffer. -/
theorem abandon_inside_tx_counterexample :
    inside (run init [.claimCreated, .markSendable, .txClaim, .abandon, .claimCreated]).tok = 2 :=
  abandon_inside_counterexample.2

theorem abandon_inside_rx_counterexample :
    inside (run init [.claimCreated, .markSendable, .txClaim, .txSent, .rxClaim, .abandon, .claimCreated]).tok = 2 := by
  decide

/-- Before commit b5bf0e20 the retry was a plain store: modelled here as a store event to document
    what the fix removed — a response that had just completed (`RxDone`) was overwritten. -/
def retryStore (x : LSlot) : LSlot := { x with st := .sendable }

theorem old_retry_discarded_response :
    let x := run init [.claimCreated, .markSendable, .txClaim, .txSent, .rxClaim, .rxDone]
    x.st = .rxDone ∧ (retryStore x).st = .sendable ∧ ¬ SlotInv (retryStore (run init [.claimCreated, .markSendable, .txClaim, .txSent, .rxClaim])) := by
  decide

end Ec.C06Micro
