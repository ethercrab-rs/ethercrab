/-
  C10 — a group's typestate never claims a state its SubDevices are not in.
  Property theorems only; helper lemmas live in EcModel/Lemmas/{GroupLemmas, WkcLemmas}.lean.

  Reading guide. A transition runs against an arbitrary event trace (one event per datagram, in the
  order the datagrams are sent): any responses, any number of polls, lost frames, the deadline of
  the transition timeout. `Reports d p` = the status datagram `p` came back with working counter 1
  and decodes to state nibble `d` without error indication.
  Every function also returns the frames it sent. Hypothesis `m = .checked ∨ CHECK_SIZE ≤ pduLen`:
  a debug build, or frames with room for one 14-byte status check (any real frame: ≥ 28+14 bytes).
-/
import EcModel.Lemmas.GroupLemmas
import EcModel.Generated.Tables

namespace Ec.C10
open Ec Ec.Wkc Ec.Group

/-- Success of `wait_for_state` means: the call ended on a complete status round — one poll per
    member, in member order — in which EVERY member reported the requested state. -/
theorem wait_ok_implies_all_reported (m : Mode) (pduLen desired : Nat) (members : List Nat) (tr rest : List Ev)
    (sent : List (List Dg)) (hm : m = .checked ∨ CHECK_SIZE ≤ pduLen)
    (h : waitForState m pduLen desired members tr = (.ok (), rest, sent)) :
    ∃ (pre : List Ev) (ps : List Pdu), tr = pre ++ ps.map Ev.resp ++ rest ∧ ps.length = members.length ∧
      ∀ p ∈ ps, Reports desired p := by
  obtain ⟨q, hq, _, hok⟩ := waitLoop_spec h
  obtain ⟨pre, ps, rfl, hl, hr⟩ := hok rfl hm
  exact ⟨pre, ps, hq, hl, hr⟩

/-- A member whose AL control read-back carries the error bit makes the request — and with it the
    whole transition — fail: `Err(StateTransition)` if the status code could be read, the read's
    own error otherwise; never `Ok`. -/
theorem refusal_is_error (addr desired : Nat) (p : Pdu) (c : AlControl) (t : List Ev)
    (hw : p.wkc = 1) (hu : unpackAlControl p.data = .ok c) (he : c.error = true) :
    (∀ q t2 code, t = .resp q :: t2 → q.wkc = 1 → unpackCode q.data = .ok code →
        (requestNowaitL addr desired (.resp p :: t)).1 = .error .stateTransition) ∧
    (requestNowaitL addr desired (.resp p :: t)).1 ≠ .ok () := by
  have hsr : WrappedWrite.new.sendReceive (exch none (.resp p)) unpackAlControl = .ok c :=
    (sendReceive_resp hw).trans hu
  constructor
  · intro q t2 code ht hqw hqc
    subst ht
    simp only [requestNowaitL, hsr, he, if_true, receive_resp hqw, hqc]
  · simp only [requestNowaitL, hsr, he, if_true]
    cases t with
    | nil => nofun
    | cons e2 t2 =>
      dsimp only
      split <;> nofun

/-- The request phase succeeded: every member's AL control write was acknowledged by exactly one
    device and came back without error bit; the frames sent are one FPWR of AL control per member,
    in member order, carrying the requested state. -/
theorem requests_acknowledged (desired : Nat) (members : List Nat) (tr rest : List Ev) (sent : List (List Dg))
    (h : requestAll desired members tr = (.ok (), rest, sent)) :
    ∃ ps : List Pdu, tr = ps.map Ev.resp ++ rest ∧ ps.length = members.length ∧
      (∀ p ∈ ps, p.wkc = 1 ∧ ∃ c, unpackAlControl p.data = .ok c ∧ c.error = false) ∧
      sent = members.map (fun a => [Dg.fpwr a Gen.Wkc.REG_AL_CONTROL (alControlByte desired)]) := by
  obtain ⟨q, hq, _, hok⟩ := requestAll_spec h
  obtain ⟨ps, rfl, hl, hall, hs⟩ := hok rfl
  exact ⟨ps, hq, hl, hall, hs⟩

/-- Success of `transition_to` (every into_* wrapper): its `wait_for_state` succeeded. -/
theorem ok_implies_all_reported (m : Mode) (pduLen desired : Nat) (members : List Nat) (tr rest : List Ev)
    (sent : List (List Dg)) (hm : m = .checked ∨ CHECK_SIZE ≤ pduLen)
    (h : transitionTo m pduLen desired members tr = (.ok (), rest, sent)) :
    ∃ (pre : List Ev) (ps : List Pdu), tr = pre ++ ps.map Ev.resp ++ rest ∧ ps.length = members.length ∧
      ∀ p ∈ ps, Reports desired p := by
  obtain ⟨t, s1, s2, hreq, hwait, _⟩ := transitionTo_ok h
  obtain ⟨qs, rfl, _⟩ := requests_acknowledged desired members tr t s1 hreq
  obtain ⟨pre, ps, rfl, hl, hr⟩ := wait_ok_implies_all_reported m pduLen desired members t rest s2 hm hwait
  exact ⟨qs.map Ev.resp ++ pre, ps, by simp only [List.append_assoc], hl, hr⟩

/-- The state request goes to every member of the group and to no device outside it: whatever
    happens, every datagram of a transition is addressed to a member; after the request phase the
    AL control writes are exactly the members, once each, in order. -/
theorem requests_exactly_members (m : Mode) (pduLen desired : Nat) (members : List Nat) (tr : List Ev) :
    (∀ f ∈ (transitionTo m pduLen desired members tr).2.2, ∀ g ∈ f, g.addr ∈ members) ∧
    (∀ rest sent, transitionTo m pduLen desired members tr = (.ok (), rest, sent) →
        sent.flatten.filter Dg.isFpwr =
          members.map (fun a => Dg.fpwr a Gen.Wkc.REG_AL_CONTROL (alControlByte desired))) := by
  constructor
  · fun_cases transitionTo m pduLen desired members tr
    case case1 heq =>
      obtain ⟨_, _, hreq, _⟩ := requestAll_spec heq
      exact hreq
    case case2 t _ heq _ =>
      obtain ⟨_, _, hreq, _⟩ := requestAll_spec heq
      obtain ⟨_, _, hwait, _⟩ := waitLoop_spec (rfl : waitLoop m pduLen desired members (t.length + 1) t = _)
      intro f hf g hg
      rcases List.mem_append.1 hf with hf | hf
      · exact hreq f hf g hg
      · obtain ⟨a, ha, rfl⟩ := hwait f hf g hg
        exact ha
  · intro rest sent h
    obtain ⟨t, s1, s2, hreq, hwait, rfl⟩ := transitionTo_ok h
    obtain ⟨_, _, _, _, rfl⟩ := requests_acknowledged desired members tr t s1 hreq
    obtain ⟨_, _, hfprd, _⟩ := waitLoop_spec hwait
    have h2 : s2.flatten.filter Dg.isFpwr = [] := by
      rw [List.filter_eq_nil_iff]
      intro g hg
      obtain ⟨f, hf, hgf⟩ := List.mem_flatten.1 hg
      obtain ⟨a, _, rfl⟩ := hfprd f hf g hgf
      exact Bool.false_ne_true
    rw [List.flatten_append, List.filter_append, h2, List.append_nil, filter_fpwr_requests]

/-- The 1..n status frames of a round together check every member exactly once, in member order;
    every frame is non-empty, fits the datagram area and holds at most 129 checks. -/
theorem chunking_covers_all (pduLen : Nat) (members : List Nat) (h : CHECK_SIZE ≤ pduLen) :
    (round pduLen members).1.flatten = members ∧ (round pduLen members).2 = [] ∧
    ∀ f ∈ (round pduLen members).1, f ≠ [] ∧ f.length * CHECK_SIZE ≤ pduLen ∧
      f.length ≤ Gen.Wkc.STATE_CHECKS_BREAK_AFTER + 1 :=
  ⟨(round_complete h).2, (round_complete h).1, chunks_frames pduLen _ members⟩

/-- ... and a round that `is_state` reports as true sent exactly those frames and got one
    state-matching response per member. -/
theorem is_state_true_checks_everybody (m : Mode) (pduLen desired : Nat) (members : List Nat) (tr rest : List Ev)
    (sent : List (List Dg)) (hm : m = .checked ∨ CHECK_SIZE ≤ pduLen)
    (h : isState m pduLen desired members tr = (.ok true, rest, sent)) :
    ∃ ps : List Pdu, tr = ps.map Ev.resp ++ rest ∧ ps.length = members.length ∧ (∀ p ∈ ps, Reports desired p) ∧
      sent.flatten = members.map (fun a => Dg.fprd a Gen.Wkc.REG_AL_STATUS) := by
  obtain ⟨q, hq, _, htrue, _⟩ := isState_spec h
  obtain ⟨ps, rfl, h2, h3, h4⟩ := htrue rfl hm
  exact ⟨ps, hq, h2, h3, h4⟩

/-- A trace on which the group never gets there: rounds that each end in "not yet", then the
    deadline (before a frame is sent, or while one is unanswered). -/
inductive Stalls (m : Mode) (pduLen desired : Nat) (members : List Nat) : List Ev → Prop where
  | deadline (t : List Ev) : Stalls m pduLen desired members (.deadline :: t)
  | lostDeadline (t : List Ev) : Stalls m pduLen desired members (.lostDeadline :: t)
  | round (tr t : List Ev) (s : List (List Dg)) :
      isState m pduLen desired members tr = (.ok false, t, s) → Stalls m pduLen desired members t →
      Stalls m pduLen desired members tr

/-- If some member keeps the group from reaching the state in every round until the transition
    timer fires, the call returns `Err(Timeout(StateTransition))` at that very event — no later than
    the first poll after the deadline. -/
theorem stall_is_timeout_error (m : Mode) (pduLen desired a : Nat) (members : List Nat) (tr : List Ev)
    (hL : CHECK_SIZE ≤ pduLen) (hs : Stalls m pduLen desired (a :: members) tr) :
    (waitForState m pduLen desired (a :: members) tr).1 = .error (.timeout .stateTransition) := by
  induction hs with
  | deadline t => simp only [waitForState, waitLoop, isState_deadline hL]
  | lostDeadline t =>
    obtain ⟨s, hs⟩ := isState_lostDeadline m desired a members t hL
    simp only [waitForState, waitLoop, hs]
  | round tr t s his _ ih =>
    -- the rounds left after a failed one still outnumber the events left
    simp only [waitForState, waitLoop, his]
    rw [waitLoop_fuel (isState_false_consumes his) (Nat.lt_succ_self _)]
    exact ih

/-- The fuel of `waitForState` (trace length + 1 rounds) is never what ends the loop: any larger
    bound gives the same result, because every round that says "not yet" consumed an event. -/
theorem wait_fuel_sufficient (m : Mode) (pduLen desired : Nat) (members : List Nat) (tr : List Ev) (fuel : Nat)
    (h : tr.length < fuel) :
    waitLoop m pduLen desired members fuel tr = waitForState m pduLen desired members tr :=
  waitLoop_fuel h (Nat.lt_succ_self _)

/-- A status datagram (answered by one device) with the error-indication bit ends `is_state` —
    and with it the transition — in `Err(StateTransition)`, whatever state nibble it carries; this is
    what `MainDevice::wait_for_state` does too. -/
theorem error_indication_is_error (desired : Nat) (p : Pdu) (c : AlControl) (ps : List Pdu)
    (hw : p.wkc = 1) (hu : unpackAlControl p.data = .ok c) (he : c.error = true) :
    checkStates desired (p :: ps) = .error .stateTransition := by
  simp [checkStates, Pdu.checkWkc, hw, hu, he]

/-- The former witness of the gap (members in SAFE-OP, the last one with the error indication set,
    0x14): `into_safe_op` used to return Ok, now it is `Err(StateTransition)`. -/
theorem error_indication_former_witness :
    transitionTo .checked 100 4 [0x1000, 0x1001]
      [.resp ⟨[4, 0], 1⟩, .resp ⟨[4, 0], 1⟩, .resp ⟨[0x04, 0], 1⟩, .resp ⟨[0x14, 0], 1⟩]
    = (.error .stateTransition, [],
        [[.fpwr 0x1000 0x120 4], [.fpwr 0x1001 0x120 4], [.fprd 0x1000 0x130, .fprd 0x1001 0x130]]) := by
  decide +kernel

/-- Success of the broadcast variant: the last read was answered by all `num` SubDevices, the
    OR of their status bytes is the requested state and carries no error bit. -/
theorem md_wait_ok_implies_reported (num desired : Nat) (tr rest : List Ev)
    (h : mdWaitForState num desired tr = (.ok (), rest)) :
    ∃ (pre : List Ev) (p : Pdu), tr = pre ++ .resp p :: rest ∧ p.wkc = num ∧
      unpackAlControl p.data = .ok ⟨desired, false⟩ := by
  revert h
  fun_induction mdWaitForState num desired tr <;> intro h
  case case1 | case2 => cases h
  case case3 => exact absurd h (codeSweep_ne_ok _ _ _)
  case case4 h1 herr hst =>
    obtain ⟨p, hex, hw, hu⟩ := receive_ok rfl h1
    cases exch_ok.1 hex
    cases h
    exact ⟨[], p, rfl, hw, by rw [hu, ← hst, ← Bool.eq_false_iff.2 herr]⟩
  case case5 ih =>
    obtain ⟨pre, p, rfl, hp⟩ := ih h
    exact ⟨_ :: pre, p, rfl, hp⟩

/-- The state list of `tx_rx*` is, entry by entry, the state nibble of the status datagrams that
    came back (decoded to `SubDeviceState` and back is the identity). -/
theorem states_as_reported (pdus : List Pdu) (l : List Nat) (h : statesOf pdus = .ok l) :
    l = pdus.map (fun p => p.data.getD 0 0 % 16) := by
  revert h
  fun_induction statesOf pdus generalizing l <;> intro h <;> cases h
  · rfl
  · rename_i hc _ hl ih
    rw [unpackAlControl] at hc
    split at hc <;> cases hc
    rw [List.map_cons, SdState.toNat_ofNat, ih _ hl]

/-- `group_state` is the OR of what was reported: bit `i` is set iff some SubDevice reported a
    state with bit `i` set. -/
theorem group_state_is_or (l : List Nat) (h : ∀ s ∈ l, s < 16) (i : Nat) :
    (groupState l).testBit i = l.any (fun s => s.testBit i) := by
  rw [groupState_eq_orAll l h, testBit_orAll]

/-- `group_in_single_state` returns `Some(d)` iff the group is non-empty and EVERY SubDevice
    reported `d` (as decoded from its 4-bit status field). -/
theorem single_state_iff (l : List Nat) (d : SdState) :
    groupInSingleState l = some d ↔ l ≠ [] ∧ ∀ s ∈ l, SdState.ofNat s = d := by
  unfold groupInSingleState
  rw [singleState_some]
  simp

theorem is_in_state_iff (l : List Nat) (d : SdState) :
    isInState l d = true ↔ l ≠ [] ∧ ∀ s ∈ l, SdState.ofNat s = d := by
  unfold isInState
  rw [beq_iff_eq, single_state_iff]

theorem all_op_iff (l : List Nat) : allOp l = true ↔ l ≠ [] ∧ ∀ s ∈ l, s = 8 := by
  have key : (∀ s ∈ l, SdState.ofNat s = .op) ↔ ∀ s ∈ l, s = 8 := by
    constructor
    · intro h s hs
      exact SdState.ofNat_inj s 8 (by rw [h s hs]; rfl)
    · intro h s hs
      rw [h s hs]; rfl
  rw [← key, ← single_state_iff]
  unfold allOp
  cases groupInSingleState l with
  | none => simp
  | some d => simp

/-- The inputs on which the OR-fold used to go wrong (`[Op, None]`: a device that reported
    nothing next to one in OP; `[Init, PreOp]` against `Other(3)`) now get the right answers. -/
theorem former_or_fold_witnesses :
    allOp [8, 0] = false ∧ isInState [8, 0] .op = false ∧ groupInSingleState [8, 0] = none ∧
    isInState [1, 2] (.other 3) = false ∧ isInState [3, 3] .bootstrap = true ∧
    groupInSingleState [] = none := by
  decide +kernel

/-- The discriminants the model's `SdState.toNat`/`ofNat` use are the ones in subdevice_state.rs. -/
theorem state_discriminants :
    Gen.subDeviceStates = [("None", 0), ("Init", 1), ("PreOp", 2), ("Bootstrap", 3), ("SafeOp", 4), ("Op", 8)] ∧
    SdState.none.toNat = 0 ∧ SdState.init.toNat = 1 ∧ SdState.preOp.toNat = 2 ∧ SdState.bootstrap.toNat = 3 ∧
    SdState.safeOp.toNat = 4 ∧ SdState.op.toNat = 8 :=
  ⟨rfl, rfl, rfl, rfl, rfl, rfl, rfl⟩

/-- Registers, AlControl length and the per-frame cap the model uses are the ones in the sources. -/
theorem group_constants :
    Gen.Wkc.REG_AL_CONTROL = 0x0120 ∧ Gen.Wkc.REG_AL_STATUS = 0x0130 ∧ Gen.Wkc.REG_AL_STATUS_CODE = 0x0134 ∧
    Gen.Wkc.AL_CONTROL_LEN = 2 ∧ Gen.Wkc.STATE_CHECKS_BREAK_AFTER = 128 ∧ CHECK_SIZE = 14 :=
  ⟨rfl, rfl, rfl, rfl, rfl, rfl⟩

/-- Three members, two checks per frame (datagram area 30 bytes), the second member one round late. -/
example : transitionTo .checked 30 8 [0x1000, 0x1001, 0x1002]
    [.resp ⟨[8, 0], 1⟩, .resp ⟨[8, 0], 1⟩, .resp ⟨[8, 0], 1⟩,
     .resp ⟨[8, 0], 1⟩, .resp ⟨[4, 0], 1⟩,
     .resp ⟨[8, 0], 1⟩, .resp ⟨[8, 0], 1⟩, .resp ⟨[8, 0], 1⟩]
    = (.ok (), [], [[.fpwr 0x1000 0x120 8], [.fpwr 0x1001 0x120 8], [.fpwr 0x1002 0x120 8],
        [.fprd 0x1000 0x130, .fprd 0x1001 0x130],
        [.fprd 0x1000 0x130, .fprd 0x1001 0x130], [.fprd 0x1002 0x130]]) := by decide +kernel

/-- A stalling member: one failed round, then the deadline. -/
example : Stalls .checked 100 8 [0x1000] [.resp ⟨[4, 0], 1⟩, .deadline] :=
  .round _ [.deadline] [[.fprd 0x1000 0x130]] (by decide) (.deadline [])

example : (waitForState .checked 100 8 [0x1000] [.resp ⟨[4, 0], 1⟩, .deadline]).1 = .error (.timeout .stateTransition) := by
  decide +kernel

/-- 16 members in 3 frames of 6, 6, 4 (datagram area 84..97 bytes). -/
example : ((round 90 (List.range 16)).1.map List.length) = [6, 6, 4] := by decide +kernel

example : allOp [8, 8, 8] = true ∧ allOp [8, 4] = false ∧ groupInSingleState [4, 4] = some .safeOp ∧
    groupInSingleState [8, 4] = none ∧ isInState [2, 2] .preOp = true ∧ groupInSingleState [5, 5] = some (.other 5) := by
  decide +kernel

end Ec.C10
