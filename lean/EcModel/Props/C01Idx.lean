/-
  C01 (index clauses, sequential) — distinct outstanding requests carry distinct first-datagram
  indices, from the property's own assumption "fewer than 256 datagram indices are allocated while a
  request is outstanding"; hence `receive_frame`'s lookup finds exactly the owner (`deliver_exact`
  without its uniqueness hypothesis).

  The assumption is stated on the ghost state `G` of `Lemmas/SlotsIdx.lean`, which numbers the draws from
  the shared `pdu_idx` counter and remembers which draw gave each slot's occupant its first index.
-/
import EcModel.Lemmas.SlotsIdx
import EcModel.Props.C01

namespace Ec.C01Idx
open Ec.C05 Ec.C01

/-- An outstanding or not yet fully read request: `Sendable`, `Sending`, `Sent`, `RxBusy`, `RxDone`
    or `RxProcessing`. -/
def InFlight (st : St) : Prop := st ≠ .none ∧ st ≠ .created

/-- The assumption at one point of a history: for every in-flight request that has pushed a
    datagram, fewer than 256 indices have been drawn since (not counting its own first one). -/
def WindowAt (s : Sys) (g : G) : Prop :=
  ∀ k f, InFlight (s.slot k).st → g.fd k = some f → g.ctr - (f + 1) < 256

def Window (w : World) (g : G) : List Op → Prop
  | [] => WindowAt w.1 g
  | op :: ops => WindowAt w.1 g ∧ Window (step w op).1 (gstep w g op) ops

theorem Window.last {w : World} {g : G} {ops : List Op} (h : Window w g ops) :
    WindowAt (run w ops).1 (gRun w g ops) := by
  induction ops generalizing w g with
  | nil => exact h
  | cons op ops ih => exact ih h.2

/-- **Bookkeeping is exact** after any history from a fresh storage (counter preset to a byte):
    the shared counter is `ctr mod 256`; a held slot whose occupant pushed a datagram carries the
    index of its first draw; one whose occupant pushed none carries `FIRST_PDU_EMPTY`; first draws of
    different held slots differ (as absolute numbers). -/
theorem markers_exact {n data fi pi : Nat} (hn : 0 < n) (hpi : pi < 256) (ops : List Op) :
    let w := run (World.init n data fi pi) ops
    let g := gRun (World.init n data fi pi) (G.init pi) ops
    w.1.pduIdx = g.ctr % 256 ∧
    (∀ k f, (w.1.slot k).st ≠ .none → g.fd k = some f → (w.1.slot k).first = f % 256 ∧ f < g.ctr) ∧
    (∀ k, (w.1.slot k).st ≠ .none → g.fd k = none → (w.1.slot k).first = Gen.FIRST_PDU_EMPTY) ∧
    (∀ j k a b, j ≠ k → (w.1.slot j).st ≠ .none → (w.1.slot k).st ≠ .none →
      g.fd j = some a → g.fd k = some b → a ≠ b) := by
  intro w g
  have h := IdxInv_run (J_init n data fi pi hn) (IdxInv_init n data fi pi hpi) ops
  exact ⟨h.ctr, h.hsome, h.hnone, h.inj⟩

theorem gstep_ctr_ge (w : World) (g : G) (op : Op) (h : op ≠ .reset) : g.ctr ≤ (gstep w g op).ctr := by
  cases op with
  | reset => exact absurd rfl h
  | alloc => simp only [gstep]; repeat' split
             all_goals exact Nat.le_refl _
  | push | rest =>
    -- an index is drawn, or nothing happens
    simp only [gstep]; repeat' split
    all_goals first | exact Nat.le_succ _ | exact Nat.le_refl _
  | _ => exact Nat.le_refl _

/-- Without `reset`, the counter is `pi0 + draws` where `draws` counts the indices drawn. -/
theorem counter_is_draws {n data fi pi : Nat} (hn : 0 < n) (hpi : pi < 256) (ops : List Op)
    (hnr : ∀ op ∈ ops, op ≠ .reset) :
    (run (World.init n data fi pi) ops).1.pduIdx = (pi + draws n data fi pi ops) % 256 := by
  have key : ∀ (ops : List Op) (w : World) (g : G), (∀ op ∈ ops, op ≠ .reset) → g.ctr ≤ (gRun w g ops).ctr := by
    intro ops
    induction ops with
    | nil => intro w g _; exact Nat.le_refl _
    | cons op ops ih =>
      intro w g h
      exact Nat.le_trans (gstep_ctr_ge w g op (h op (by simp))) (ih _ _ (fun o ho => h o (by simp [ho])))
  have := key ops (World.init n data fi pi) (G.init pi) hnr
  simp only [G.init] at this
  rw [(markers_exact hn hpi ops).1]
  unfold draws
  congr 1
  simp only [G.init]
  omega

/-- **live_idx_unique**: under the window assumption, two different slots that both hold an in-flight
    request with at least one datagram carry different first-index markers. -/
theorem live_idx_unique {n data fi pi : Nat} (hn : 0 < n) (hpi : pi < 256) (ops : List Op)
    (hw : Window (World.init n data fi pi) (G.init pi) ops) (j k : Nat) (hjk : j ≠ k) :
    let w := run (World.init n data fi pi) ops
    InFlight (w.1.slot j).st → InFlight (w.1.slot k).st →
    (w.1.slot j).first ≠ Gen.FIRST_PDU_EMPTY → (w.1.slot k).first ≠ Gen.FIRST_PDU_EMPTY →
    (w.1.slot j).first ≠ (w.1.slot k).first := by
  intro w hj hk hej hek
  have hI := IdxInv_run (J_init n data fi pi hn) (IdxInv_init n data fi pi hpi) ops
  have hwin := hw.last
  cases haj : (gRun (World.init n data fi pi) (G.init pi) ops).fd j with
  | none => exact absurd (hI.hnone j hj.1 haj) hej
  | some a =>
    cases hbk : (gRun (World.init n data fi pi) (G.init pi) ops).fd k with
    | none => exact absurd (hI.hnone k hk.1 hbk) hek
    | some b =>
      obtain ⟨e1, l1⟩ := hI.hsome j a hj.1 haj
      obtain ⟨e2, l2⟩ := hI.hsome k b hk.1 hbk
      have hne := hI.inj j k a b hjk hj.1 hk.1 haj hbk
      have w1 := hwin j a hj haj
      have w2 := hwin k b hk hbk
      show (w.1.slot j).first ≠ (w.1.slot k).first
      rw [e1, e2]
      -- two different draws, both among the last 256, differ mod 256
      omega

/-- **owner_is_first_match**: if slot `k` is `Sent` with a genuine (byte) marker `i`, no other slot
    awaits `i` — in particular none before it, which is `deliver_exact`'s `huniq`. -/
theorem owner_is_first_match {n data fi pi : Nat} (hn : 0 < n) (hpi : pi < 256) (ops : List Op)
    (hw : Window (World.init n data fi pi) (G.init pi) ops) (k i : Nat)
    (haw : Awaits ((run (World.init n data fi pi) ops).1.slot k) i) (hi : i ≠ Gen.FIRST_PDU_EMPTY) :
    ∀ j, j ≠ k → ¬ Awaits ((run (World.init n data fi pi) ops).1.slot j) i := by
  intro j hjk hj
  have := live_idx_unique hn hpi ops hw j k hjk
  simp only at this
  refine this ?_ ?_ ?_ ?_ (hj.1.trans haw.1.symm)
  · rw [hj.2]; exact ⟨by simp, by simp⟩
  · rw [haw.2]; exact ⟨by simp, by simp⟩
  · rw [hj.1]; exact hi
  · rw [haw.1]; exact hi

/-- **deliver_exact_reachable**: `Ec.C01.deliver_exact` with its uniqueness hypothesis discharged: in
    every world reached by a history that satisfies the window assumption, a response to the first
    datagram of the request in register `r` (slot `k`, `Sent`, marker `i`) reaches exactly that
    request — however many other requests are in flight. -/
theorem deliver_exact_reachable {n data fi pi : Nat} (hn : 0 < n) (hpi : pi < 256) (ops : List Op)
    (hwin : Window (World.init n data fi pi) (G.init pi) ops)
    (r k i : Nat) (retries deadline timeout : Nat) (armed : Bool)
    (hh : getH (run (World.init n data fi pi) ops).2 r = some ⟨r, k, .fut retries deadline timeout armed⟩)
    (haw : Awaits ((run (World.init n data fi pi) ops).1.slot k) i) (hi : i ≠ Gen.FIRST_PDU_EMPTY)
    (hbuf : ((run (World.init n data fi pi) ops).1.slot k).buf.length = (run (World.init n data fi pi) ops).1.data)
    (bytes : List Nat) (c : Nat) (raw dat rest : List Nat) (wkc : Nat) (more : Bool)
    (hraw : raw.length = 4) (hL : dat.length < 2048) (hwk : wkc < 65536)
    (hparse : rxParse (run (World.init n data fi pi) ops).1.exit bytes = .ok (respDgram c i raw dat wkc more ++ rest, i))
    (hfit : (respDgram c i raw dat wkc more ++ rest).length ≤ (run (World.init n data fi pi) ops).1.data - 16)
    (hdata : 16 ≤ (run (World.init n data fi pi) ops).1.data) :
    let w := run (World.init n data fi pi) ops
    let w1 := opRx w bytes
    let w2 := opPoll w1.1 r
    let w3 := opFirst w2.1 r c i
    w1.2 = "processed" ∧ w2.2 = "ready.ok" ∧
    getH w3.1.2 r = some ⟨r, k, .view 26 dat.length wkc⟩ ∧
    viewBytes w3.1.1 k 26 dat.length = dat ∧
    (∀ j, j ≠ k → w3.1.1.slot j = w.1.slot j) := by
  intro w
  have hJ : J w.1 w.2 := J_run (J_init n data fi pi hn) ops
  have hk : k < w.1.n := hJ.owner_lt (getH_some hh).1 (by decide : 2 ≠ 4)
  have huniq : ∀ j, j < k → ¬ Awaits (w.1.slot j) i :=
    fun j hj => owner_is_first_match hn hpi ops hwin k i haw hi j (by omega)
  exact deliver_exact w.1 w.2 r k i retries deadline timeout armed hh hk haw huniq hbuf bytes c raw dat rest wkc
    more hraw hL hwk hparse hfit hdata

/-! ### the window is needed (known finding c20/index-reuse-in-flight, seen from C01) -/

/-- Request A (slot 0) is sent and stays `Sent`; request B (slot 1) then draws 256 further indices
    (255 pushes that fail with `TooLong` — each draws an index — and one that succeeds) and is sent. -/
def cexOps : List Op :=
  [.alloc 0, .push 0 .nop [] none, .mark 0 0 1000, .txNext 5, .txSend 5 0, .alloc 1] ++
  List.replicate 255 (.push 1 .nop [0] none) ++
  [.push 1 .nop [] none, .mark 1 0 1000, .txNext 6, .txSend 6 0]

theorem cex_facts :
    (((runBoth (World.init 2 28 0 0) (G.init 0) cexOps).1.1.slot 0).first = 0 ∧
      ((runBoth (World.init 2 28 0 0) (G.init 0) cexOps).1.1.slot 0).st = .sent) ∧
    (((runBoth (World.init 2 28 0 0) (G.init 0) cexOps).1.1.slot 1).first = 0 ∧
      ((runBoth (World.init 2 28 0 0) (G.init 0) cexOps).1.1.slot 1).st = .sent) ∧
    (runBoth (World.init 2 28 0 0) (G.init 0) cexOps).2.ctr = 257 ∧
    (runBoth (World.init 2 28 0 0) (G.init 0) cexOps).2.fd 0 = some 0 ∧
    (runBoth (World.init 2 28 0 0) (G.init 0) cexOps).2.fd 1 = some 256 := by
  decide +kernel

/-- **window_needed_counterexample**: without the window assumption two `Sent` slots carry the same
    marker: after 257 draws while the first request is outstanding, both slots await index 0, the
    window fails at the end of the history, and `receive_frame`'s scan would hand B's response to A. -/
theorem window_needed_counterexample :
    let w := run (World.init 2 28 0 0) cexOps
    Awaits (w.1.slot 0) 0 ∧ Awaits (w.1.slot 1) 0 ∧
    (gRun (World.init 2 28 0 0) (G.init 0) cexOps).ctr = 257 ∧
    (gRun (World.init 2 28 0 0) (G.init 0) cexOps).fd 0 = some 0 ∧
    (gRun (World.init 2 28 0 0) (G.init 0) cexOps).fd 1 = some 256 ∧
    ¬ WindowAt w.1 (gRun (World.init 2 28 0 0) (G.init 0) cexOps) := by
  have h := cex_facts
  rw [(runBoth_eq _ _ _).1, (runBoth_eq _ _ _).2] at h
  obtain ⟨a0, a1, h2, h3, h4⟩ := h
  refine ⟨a0, a1, h2, h3, h4, fun hw => ?_⟩
  have := hw 0 0 (by rw [a0.2]; exact ⟨nofun, nofun⟩) h3
  rw [h2] at this
  exact absurd this (by decide)

end Ec.C01Idx
