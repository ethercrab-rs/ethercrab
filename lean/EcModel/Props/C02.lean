/-
  C02 — a frame buffer never has two parties inside it at once; every status change follows the
  documented lifecycle. Theorems over ALL event sequences (any number of parties, any interleaving)
  of the slot status protocol (`Lifecycle.lean`), plus the obligations tying the protocol's events to
  the transition sites regenerated from /repo and to the micro-step model's status accesses.
-/
import EcModel.Lifecycle
import EcModel.Lemmas.MicroBufFrame

namespace Ec.C02
open Ec Ec.Lifecycle

/-- **T1 obligation.** The protocol's events are exactly the status-access sites found in
    `src/pdu_loop/**` now (function, compare-exchange vs plain store, from/to state), `reset` aside.
    Weakening a compare-exchange to a store, adding or removing a site, or changing its states
    changes `Gen.transitionSitesN` and this no longer checks. -/
theorem events_match_sites :
    (∀ s ∈ Ev.all.filterMap Ev.site, s ∈ Gen.transitionSitesN) ∧
    (∀ s ∈ Gen.transitionSitesN, s = (12, 1, 255, 0) ∨ s ∈ Ev.all.filterMap Ev.site) ∧
    Gen.transitionSitesN.length = (Ev.all.filterMap Ev.site).length + 1 := by
  decide

/-- The state discriminants the models use are the ones in the source. -/
theorem states_match_source :
    Gen.frameStates.map (·.2) = St.all.map St.toNat ∧ Gen.frameStates.length = 8 := by decide

/-- The slots the invariant admits: the status word determines the handles, except that in `RxBusy`
    the RX party may have given up. -/
def invStates : List LSlot :=
  [⟨.none, ⟨0, 0, 0, 0, 0⟩⟩, ⟨.created, ⟨1, 0, 0, 0, 0⟩⟩, ⟨.sendable, ⟨0, 1, 0, 0, 0⟩⟩,
   ⟨.sending, ⟨0, 1, 1, 0, 0⟩⟩, ⟨.sent, ⟨0, 1, 0, 0, 0⟩⟩, ⟨.rxBusy, ⟨0, 1, 0, 1, 0⟩⟩,
   ⟨.rxBusy, ⟨0, 1, 0, 0, 0⟩⟩, ⟨.rxDone, ⟨0, 1, 0, 0, 0⟩⟩, ⟨.rxProcessing, ⟨0, 0, 0, 0, 1⟩⟩]

theorem mem_invStates {x : LSlot} (h : SlotInv x) : x ∈ invStates := by
  obtain ⟨st, tok⟩ := x
  cases st <;> simp only [SlotInv] at h <;> (first | subst h | (rcases h with h | h <;> subst h)) <;> decide

instance (x : LSlot) (e : Ev) : Decidable (AbandonInside x e) := by unfold AbandonInside; infer_instance

/-- The protocol restricted to the slots of the invariant is a finite table (9 slots, 14 events):
    a property of its steps that can be decided holds if it holds of every entry. -/
theorem step_table {P : LSlot → Ev → LSlot → Prop} [∀ x e x', Decidable (P x e x')]
    (hP : ∀ x ∈ invStates, ∀ e ∈ Ev.all, ∀ x' ∈ step x e, P x e x') {x x' : LSlot} {e : Ev} (h : SlotInv x)
    (hs : step x e = some x') : P x e x' :=
  hP x (mem_invStates h) e (by cases e <;> decide) x' hs

theorem step_ok {x x' : LSlot} {e : Ev} (h : SlotInv x) (hne : ¬ AbandonInside x e)
    (hs : step x e = some x') : SlotInv x' ∧ (x'.st = x.st ∨ edge x.st x'.st = true) :=
  step_table (P := fun x e x' => ¬ AbandonInside x e → SlotInv x' ∧ (x'.st = x.st ∨ edge x.st x'.st = true))
    (by decide) h hs hne

/-- **Ownership invariant**: preserved by every enabled event of every party, except abandonment
    while the TX or RX side is inside the buffer (quantified separately in C06). -/
theorem inv_step (x x' : LSlot) (e : Ev) (h : SlotInv x) (hne : ¬ AbandonInside x e)
    (hs : step x e = some x') : SlotInv x' := (step_ok h hne hs).1

/-- No event of the sequence abandons the request while TX or RX is inside the buffer. -/
def Safe : LSlot → List Ev → Prop
  | _, [] => True
  | x, e :: rest => ¬ AbandonInside x e ∧ Safe ((step x e).getD x) rest

/-- The invariant holds in every state reachable by any sequence of events (any number of parties, any
    interleaving) that never abandons inside the window. -/
theorem inv_reach (evs : List Ev) (x : LSlot) (h : SlotInv x) (hsafe : Safe x evs) :
    SlotInv (run x evs) := by
  induction evs generalizing x with
  | nil => simpa [run]
  | cons e rest ih =>
    obtain ⟨hne, hrest⟩ := hsafe
    have hx' : SlotInv ((step x e).getD x) := by
      cases hs : step x e with
      | none => simpa using h
      | some x' => simpa using inv_step _ _ _ h hne hs
    simpa [run] using ih _ hx' hrest

/-- **Mutual exclusion**: under the invariant at most one party has the right to touch the buffer. -/
theorem mutual_exclusion (x : LSlot) (h : SlotInv x) : inside x.tok ≤ 1 :=
  (by decide : ∀ x ∈ invStates, inside x.tok ≤ 1) x (mem_invStates h)

/-- A buffer is given to a new request only when nobody holds it: the claim succeeds only from
    `None`, where no handle of any kind exists. -/
theorem no_realloc_while_held (x x' : LSlot) (h : SlotInv x) (hs : step x .claimCreated = some x')
    (hc : x'.tok.creator = x.tok.creator + 1) : x.st = .none ∧ x.tok = ⟨0, 0, 0, 0, 0⟩ :=
  step_table (P := fun x e x' => e = .claimCreated → x'.tok.creator = x.tok.creator + 1 →
    x.st = .none ∧ x.tok = ⟨0, 0, 0, 0, 0⟩) (by decide) h hs rfl hc

/-- **Lifecycle order**: every status change of every enabled event is an edge of the documented
    lifecycle (free, being built, ready to send, sending, sent, receiving, received, being read, free;
    plus the failure edges Sending→Sendable, Sent→Sendable, Created→None and the owner's release). -/
theorem lifecycle_order (x x' : LSlot) (e : Ev) (h : SlotInv x) (hne : ¬ AbandonInside x e)
    (hs : step x e = some x') : x'.st = x.st ∨ edge x.st x'.st = true := (step_ok h hne hs).2

/-- Abandoning inside the window DOES break the invariant (this is what C06 quantifies): the future
    is dropped while TX holds the frame; the slot is free although TX is still inside, and the next
    claim puts a second party into the buffer. -/
theorem abandon_inside_counterexample :
    let x := run init [.claimCreated, .markSendable, .txClaim, .abandon, .claimCreated]
    ¬ SlotInv x ∧ inside x.tok = 2 := by decide

/-- Status changes a micro-step may perform, as (from, to) pairs: compare-exchange sites contribute
    their single edge, plain stores an edge from every state. -/
def siteEdge (a b : St) : Bool :=
  Gen.transitionSitesN.any (fun s => (s.2.2.1 = 255 ∨ s.2.2.1 = a.toNat) ∧ s.2.2.2 = b.toNat)

theorem siteEdge_of_stEdge {a b : St} (h : Micro.StEdge a b) : siteEdge a b = true := by
  cases h with
  | storeSendable a => cases a <;> decide
  | storeNone a => cases a <;> decide
  | _ => decide

/-- **Every micro-step changes the status of at most the slots it names, and only along a site's
    edge**: the micro-step model performs no status access that is not a transition site of the
    code. (One case per program counter; the threads' locals are arbitrary.) -/
theorem micro_status_steps_are_sites (s : Sys) (t : Micro.Thread) (k : Nat) :
    ((Micro.stepThread s t).1.slot k).st = (s.slot k).st ∨
      siteEdge (s.slot k).st ((Micro.stepThread s t).1.slot k).st = true :=
  ((Micro.stepThread_sys s t).st k).imp_right siteEdge_of_stEdge

end Ec.C02
