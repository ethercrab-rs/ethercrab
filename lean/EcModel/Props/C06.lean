/-
  C06 — deadlines and retries: bounded, exact, safe to hit at any moment (SEQUENTIAL clauses).

  Subject: the API-level model of the PDU loop's frame storage (`EcModel/Slots.lean`), stepped by
  `Ec.step`; one request is observed along ARBITRARY histories of all API operations (other requests
  competing for slots, TX and RX activity, clock advances) by the ghost functions `sends` (complete
  transmissions of its slot), `expiries` (polls that found its deadline expired) and `pollOuts`.
  The timer is embassy-time's (`armed`: expiry is reported from the second poll of a timer on), the
  configuration the checks build.

  These clauses are about whole API calls executed without interleaving. What happens when the
  deadline or a drop falls INSIDE `send_blocking` / `receive_frame` (buffer reuse while TX reads it,
  retry while RX copies) is not claimed here but in `Props/C06Micro.lean`.

  The last section is of another kind: the hand-over of a `Sendable` frame to the sleeping transmit task, over all
  interleavings of the finite model `TxWake.lean`.
-/
import EcModel.Lemmas.SlotsRetry
import EcModel.Lemmas.SlotsCapacity
import EcModel.Generated.Retry
import EcModel.TxWake
import EcModel.Lemmas.SlotsSites

namespace Ec.C06

/-- Same obligation as in C03: the extracted transition sites are the model's (in particular
    `mark_sent` / `release_sending_claim` are compare-exchanges from `Sending`, the retry path re-queues
    by compare-exchange from `Sent`, `release` is a plain store, and `poll` tests `RxDone` by
    compare-exchange before it looks at the timer). -/
theorem transition_sites_are_the_models : Gen.transitionSites = modelTransitionSites := rfl

/-- **retry_count_table**: `RetryBehaviour::retry_count` (regenerated from the source on every run):
    `None → 0`, `Count(n) → n`, `Forever → usize::MAX`. -/
theorem retry_count_table :
    Gen.RetryBehaviour.None.retryCount = 0 ∧
    (∀ n, (Gen.RetryBehaviour.Count n).retryCount = n) ∧
    Gen.RetryBehaviour.Forever.retryCount = Gen.USIZE_MAX ∧ Gen.USIZE_MAX = 2 ^ 64 - 1 :=
  ⟨rfl, fun _ => rfl, rfl, by decide⟩

/-- Every place outside the configuration module that reads `config.retry_behaviour` turns it into a
    budget with `retry_count()` (extracted use sites). -/
theorem retry_budget_sites :
    Gen.retrySites ≠ [] ∧ Gen.retrySites.all (fun s => s.2 == "retry_count") = true := by decide +kernel

/-- **response_beats_deadline**: if the response has been received (`RxDone`) when the future is
    polled, the poll returns `Ready(Ok)` whatever the clock, the deadline, the timer state and the
    retry counter say; the slot becomes `RxProcessing`, owned by the returned `ReceivedFrame`. -/
theorem response_beats_deadline (w : World) (r k ρ D T : Nat) (a : Bool)
    (hf : getH w.2 r = some ⟨r, k, .fut ρ D T a⟩) (hst : (w.1.slot k).st = .rxDone) :
    step w (.poll r) =
      ((w.1.setSlot k { w.1.slot k with st := .rxProcessing }, putH w.2 ⟨r, k, .received⟩), "ready.ok") := by
  simp [step, opPoll, hf, hst]

/-- Conversely a poll answers `ready.ok` only when the slot is `RxDone`. -/
theorem ok_only_if_rxDone {n data : Nat} {w : World} (hn : 0 < n) (hr : Reach n data w) (r k ρ D T : Nat) (a : Bool)
    (hf : getH w.2 r = some ⟨r, k, .fut ρ D T a⟩) (hok : (step w (.poll r)).2 = "ready.ok") :
    (w.1.slot k).st = .rxDone := by
  rcases poll_cases (J_reach hn hr) hf with ⟨h, _⟩ | ⟨_, _, h⟩ | ⟨_, _, _, h⟩ | ⟨_, _, _, h⟩
  · exact h
  all_goals (rw [h] at hok; simp at hok)

/-- **never_success_without_response**: if, after ANY history from a fresh storage, a poll returns
    `Ready(Ok)`, then somewhere in that history a `receive_frame` call accepted a frame (`processed`)
    into that very slot while it was `Sent` — i.e. awaiting the response to its latest transmission —
    and from that delivery up to the poll the slot stayed `RxDone` (it was not re-sent, released or
    re-allocated in between). -/
theorem never_success_without_response {n data fi pi : Nat} (hn : 0 < n) (ops : List Op) (r k ρ D T : Nat) (a : Bool)
    (hf : getH (run (World.init n data fi pi) ops).2 r = some ⟨r, k, .fut ρ D T a⟩)
    (hok : (step (run (World.init n data fi pi) ops) (.poll r)).2 = "ready.ok") :
    ∃ pre bytes post, ops = pre ++ Op.rx bytes :: post ∧
      ((run (World.init n data fi pi) pre).1.slot k).st = .sent ∧
      (step (run (World.init n data fi pi) pre) (.rx bytes)).2 = "processed" ∧
      ∀ j, j ≤ post.length →
        ((run (step (run (World.init n data fi pi) pre) (.rx bytes)).1 (post.take j)).1.slot k).st = .rxDone := by
  let w0 := World.init n data fi pi
  have hr : Reach n data (run w0 ops) := ⟨fi, pi, ops, rfl⟩
  have hdone := ok_only_if_rxDone hn hr r k ρ D T a hf hok
  have h0 : ¬ ((w0.1.slot k).st = .rxDone) := by rw [init_slot]; simp
  obtain ⟨pre, op, post, e, a1, a2, a3⟩ :=
    last_change (fun w => (w.1.slot k).st = .rxDone) w0 ops h0 hdone
  have hop : ∃ b, op = .rx b := by
    apply Classical.byContradiction
    intro hne
    exact a1 (rxDone_only_by_rx (J_run (J_init n data fi pi hn) pre) op k (fun b e' => hne ⟨b, e'⟩) a2)
  obtain ⟨b, rfl⟩ := hop
  obtain ⟨htok, hsent⟩ := rxDone_by_rx _ b k a2 a1
  exact ⟨pre, b, post, e, hsent, htok, a3⟩

/-- **timeout_progress**: along any history in which the future is not dropped, no response for it
    arrives and the TX side has serviced the frame whenever a poll finds the deadline expired
    (`Sched`), and which contains at most `R` expired deadlines: every poll of the request answers
    `pending` (never success, never an error), all complete transmissions of its slot carry the
    bytes of the first one, and their number is exactly the number of expired deadlines, plus one
    once the current (re)transmission is out. -/
theorem timeout_progress {n data : Nat} {w : World} (hn : 0 < n) (hr : Reach n data w) (r k R : Nat)
    (hfresh : Fresh w r k R) (ops : List Op) (hs : Sched r k w ops) (hexp : expiries r w ops ≤ R) :
    (∀ o ∈ pollOuts r w ops, o = "pending") ∧
    (∀ x ∈ sends k w ops, x = frameBytes w k) ∧
    (sends k w ops).length = expiries r w ops + (if ((run w ops).1.slot k).st = .sent then 1 else 0) ∧
    (∃ D T a, getH (run w ops).2 r = some ⟨r, k, .fut (R - expiries r w ops) D T a⟩) := by
  obtain ⟨q, c, s, p⟩ := Q_run (J_reach hn hr) hfresh.toQ ops hs hexp
  refine ⟨p, s, ?_, Nat.zero_add (expiries r w ops) ▸ q.fut⟩
  rw [sentB, if_neg (hfresh.st ▸ nofun), Nat.zero_add] at c
  exact c

/-- **timeout_exact**: no response ever arrives, the TX side services every `Sendable` frame before
    the next deadline, `R` retries configured. When the `(R+1)`-th deadline expires the poll returns
    `Err(Timeout(Pdu))`; up to then every poll answered `pending`, and the frame has been
    transmitted completely exactly `1 + R` times, byte-identically; the slot is released. -/
theorem timeout_exact {n data : Nat} {w : World} (hn : 0 < n) (hr : Reach n data w) (r k R : Nat)
    (hfresh : Fresh w r k R) (ops : List Op) (hs : Sched r k w ops)
    (hexp : expiries r w ops = R) (hlast : StepOk r k (run w ops) (.poll r))
    (hx : expiredB (run w ops) r = true) :
    (step (run w ops) (.poll r)).2 = "ready.err.timeout" ∧
    (∀ o ∈ pollOuts r w ops, o = "pending") ∧
    (sends k w ops).length = 1 + R ∧ (∀ x ∈ sends k w ops, x = frameBytes w k) ∧
    ((step (run w ops) (.poll r)).1.1.slot k).st = .none ∧
    getH (step (run w ops) (.poll r)).1.2 r = none := by
  have hJ := J_reach hn hr
  obtain ⟨p, s, c, D, T, a, hf⟩ := timeout_progress hn hr r k R hfresh ops hs (Nat.le_of_eq hexp)
  have hJ' := J_run hJ ops
  have hsent : ((run w ops).1.slot k).st = .sent := hlast rfl hx
  have hxa := (expiredB_iff hf).mp hx
  have hk : k < (run w ops).1.n := hJ'.owner_lt (getH_some hf).1 (by decide : 2 ≠ 4)
  rw [hexp, Nat.sub_self] at hf
  rcases poll_cases hJ' hf with ⟨h, _⟩ | ⟨_, h, _⟩ | ⟨_, _, _, h⟩ | ⟨_, _, h, _⟩
  · rw [hsent] at h; cases h
  · exact absurd hxa h
  · refine ⟨by rw [h], p, by rw [c, hexp, hsent]; exact Nat.add_comm R 1, s, ?_, ?_⟩
    · rw [h]; simp only; rw [slot_setSlot_eq _ _ _ hk]
    · rw [h]; exact getH_delH_self _ _
  · exact absurd rfl h

/-- **Forever** (`usize::MAX` retries): in every history shorter than `usize::MAX` steps (same side
    conditions) the request never completes — every poll answers `pending` — and there has been
    exactly one complete transmission per expired deadline, plus the one currently out. -/
theorem forever_never_completes {n data : Nat} {w : World} (hn : 0 < n) (hr : Reach n data w) (r k : Nat)
    (hfresh : Fresh w r k Gen.RetryBehaviour.Forever.retryCount) (ops : List Op) (hs : Sched r k w ops)
    (hlen : ops.length < Gen.USIZE_MAX) :
    (∀ o ∈ pollOuts r w ops, o = "pending") ∧
    (∀ x ∈ sends k w ops, x = frameBytes w k) ∧
    (sends k w ops).length = expiries r w ops + (if ((run w ops).1.slot k).st = .sent then 1 else 0) := by
  have h := timeout_progress hn hr r k _ hfresh ops hs
    (Nat.le_of_lt (Nat.lt_of_le_of_lt (expiries_le_length r w ops) hlen))
  exact ⟨h.1, h.2.1, h.2.2.1⟩

/-- How a request is abandoned: the awaiting future is dropped, or its last deadline expires. -/
inductive Abandon (w : World) (r k : Nat) : Op → Prop
  | drop (ρ D T : Nat) (a : Bool) : getH w.2 r = some ⟨r, k, .fut ρ D T a⟩ → Abandon w r k (.dropFut r)
  | timeout (D T : Nat) : getH w.2 r = some ⟨r, k, .fut 0 D T true⟩ → D ≤ w.1.now →
      (w.1.slot k).st ≠ .rxDone → Abandon w r k (.poll r)

theorem abandon_effect {n data : Nat} {w : World} (hn : 0 < n) (hr : Reach n data w) (r k : Nat) (op : Op)
    (hab : Abandon w r k op) :
    k < w.1.n ∧ (step w op).1 = (w.1.setSlot k { w.1.slot k with st := .none }, delH w.2 r) := by
  have hJ := J_reach hn hr
  cases hab with
  | drop ρ D T a hf =>
    exact ⟨hJ.owner_lt (getH_some hf).1 (by decide : 2 ≠ 4), by simp [step, opDropFut, hf]⟩
  | timeout D T hf hD hnd =>
    refine ⟨hJ.owner_lt (getH_some hf).1 (by decide : 2 ≠ 4), ?_⟩
    rcases poll_cases hJ hf with ⟨h, _⟩ | ⟨_, h, _⟩ | ⟨_, _, _, h⟩ | ⟨_, _, h, _⟩
    · exact absurd h hnd
    · exact absurd ⟨rfl, hD⟩ h
    · rw [h]
    · exact absurd rfl h

theorem abandon_world {n data : Nat} {w : World} (hn : 0 < n) (hr : Reach n data w) {r k : Nat} {op : Op}
    (hab : Abandon w r k op) :
    ((step w op).1.1.slot k).st = .none ∧ (∀ j, j ≠ k → (step w op).1.1.slot j = w.1.slot j) ∧
    (step w op).1.2 = delH w.2 r ∧ k < n ∧ ∃ ρ D T a, (⟨r, k, .fut ρ D T a⟩ : Hd) ∈ w.2 := by
  obtain ⟨hk, he⟩ := abandon_effect hn hr r k op hab
  refine ⟨?_, fun j hj => ?_, by rw [he], hr.n_eq hn ▸ hk, ?_⟩
  · rw [he]; exact congrArg Slot.st (slot_setSlot_eq _ _ _ hk)
  · rw [he]; exact slot_setSlot_ne _ _ _ _ hj
  · cases hab with
    | drop ρ D T a hf => exact ⟨ρ, D, T, a, (getH_some hf).1⟩
    | timeout D T hf _ _ => exact ⟨0, D, T, true, (getH_some hf).1⟩

/-- **abandon_safe_partial**: the future is dropped, or its last deadline expires, between API calls
    while no `SendableFrame` for the slot is outstanding (so the slot is `Sendable`, `Sent`, `RxBusy`
    or — drop only — `RxDone`; a `Created` frame is C03's `created_drop_releases`). Then the slot is
    released (`None`), no other slot changes, the ownership invariant keeps holding, no handle at all
    refers to the slot any more, and the slot is allocatable again: the next allocation into a free
    register succeeds, and if every other slot is held it returns exactly this slot. -/
theorem abandon_safe_partial {n data : Nat} {w : World} (hr : Reach n data w) (hd : n ∣ 256) (r k : Nat) (op : Op)
    (hab : Abandon w r k op) (hnotx : ∀ h ∈ w.2, h.kind = .sendable → h.slot ≠ k)
    (r' : Nat) (hfree : ∀ h ∈ w.2, h.reg ≠ r') :
    let w' := (step w op).1
    (w'.1.slot k).st = .none ∧ (∀ j, j ≠ k → w'.1.slot j = w.1.slot j) ∧
    J w'.1 w'.2 ∧ (∀ h ∈ w'.2, h.slot ≠ k) ∧
    (∃ i, (step w' (.alloc r')).2 = s!"ok.{i}" ∧
      ((∀ j, j < n → j ≠ k → (w.1.slot j).st ≠ .none) → i = k)) := by
  intro w'
  have hn : 0 < n := Nat.pos_of_dvd_of_pos hd (by decide)
  obtain ⟨hs1, hs2, hs3, hk, ρ, D, T, a, hm⟩ := abandon_world hn hr hab
  have hJ := J_reach hn hr
  refine ⟨hs1, hs2, J_step hJ op, fun h hm' hsk => ?_, ?_⟩
  · -- a TX-side handle on `k` is excluded by assumption, another owner by `J`
    obtain ⟨hm'', hreg⟩ := mem_delH.mp (hs3 ▸ hm')
    by_cases ho : h.kind.cls = 4
    · exact hnotx h hm'' (by revert ho; cases h.kind <;> simp [HK.cls]) hsk
    · exact hreg (congrArg Hd.reg (hJ.distinct h hm'' ⟨r, k, .fut ρ D T a⟩ hm ho (by decide : 2 ≠ 4) hsk))
  · obtain ⟨i, hout, _, hik⟩ := alloc_free_slot (hr.step op) hd hk hs1 r'
      (fun h hm' => hfree h (mem_delH.mp (hs3 ▸ hm')).1)
    exact ⟨i, hout, fun hfull => hik fun j hj hjk => hs2 j hjk ▸ hfull j hj hjk⟩

/-- **abandon_while_sending_keeps_capacity** (what fix 362a9e12 bought): the request is abandoned
    (drop or last timeout) while a `SendableFrame` for its slot is outstanding. The slot is `None`
    at once; when the send later completes — with any outcome, and even if the slot has meanwhile
    been claimed again and is being built (`Created`) — its compare-exchange from `Sending` fails
    and no slot changes: the stale send can neither strand the slot in `Sent` nor disturb the new
    owner's state. The ownership invariant holds throughout (it holds in every reachable world). -/
theorem abandon_while_sending_keeps_capacity {n data : Nat} {w : World} (hn : 0 < n) (hr : Reach n data w)
    (r t k o : Nat) (op : Op) (hab : Abandon w r k op) (hsending : (w.1.slot k).st = .sending)
    (ht : getH w.2 t = some ⟨t, k, .sendable⟩) :
    let w1 := (step w op).1
    (w1.1.slot k).st = .none ∧
    -- the send completes right away
    (step w1 (.txSend t o)).1.1 = w1.1 ∧
    -- or after the slot has been claimed again
    (∀ r', (∀ h ∈ w1.2, h.reg ≠ r') → (∀ j, j < n → j ≠ k → (w.1.slot j).st ≠ .none) → n ∣ 256 →
      let w2 := (step w1 (.alloc r')).1
      (w2.1.slot k).st = .created ∧ (step w2 (.txSend t o)).1.1 = w2.1) := by
  intro w1
  have hJ := J_reach hn hr
  obtain ⟨hs1, hs2, hs3, hk, ρ, D, T, a, hm⟩ := abandon_world hn hr hab
  have hr1 : Reach n data w1 := hr.step op
  have ht1 : getH w1.2 t = some ⟨t, k, .sendable⟩ := by
    rw [hs3, getH_delH_other _ (fun e => ?_)]; exact ht
    have := regs_inj hJ.regs (getH_some ht).1 hm e
    cases this
  -- a send on a handle whose slot is not `Sending` changes no slot
  have stale : ∀ v : World, getH v.2 t = some ⟨t, k, .sendable⟩ → (v.1.slot k).st ≠ .sending →
      (step v (.txSend t o)).1.1 = v.1 := by
    intro v hv hne
    simp [step, opTxSend, hv, hne]
  refine ⟨hs1, stale w1 ht1 (hs1 ▸ nofun), ?_⟩
  intro r' hfree hfull hd w2
  obtain ⟨i, _, hhs, hik⟩ := alloc_free_slot hr1 hd hk hs1 r' hfree
  obtain rfl := hik fun j hj hjk => hs2 j hjk ▸ hfull j hj hjk
  have hcr : (w2.1.slot i).st = .created :=
    (J_reach hn (hr1.step (.alloc r'))).created (h := ⟨r', i, .created 0 none⟩) (hhs ▸ mem_putH.mpr (.inl rfl)) rfl
  refine ⟨hcr, stale w2 ?_ (hcr ▸ nofun)⟩
  show getH (step w1 (.alloc r')).1.2 t = _
  rw [hhs, getH_putH_other _ _ (fun e => hfree _ (getH_some ht1).1 e)]
  exact ht1

/-- **retry_while_sending** (current code, fix b5bf0e20): the deadline expires with retries left while
    the slot is not waiting for its response — the TX side still holds the frame (`Sending`), or it
    is still queued (`Sendable`), or a response is being copied (`RxBusy`). The poll consumes one
    retry, re-arms the timer and stays pending, but its `Sent → Sendable` compare-exchange fails:
    NO slot changes. In particular a frame in `Sending` keeps its one `SendableFrame`, whose send then
    completes normally (`Sent` on a complete send, `Sendable` otherwise): no second claim of the
    same slot can arise from a retry. -/
theorem retry_while_sending {n data : Nat} {w : World} (hn : 0 < n) (hr : Reach n data w)
    (r k ρ D T : Nat) (hf : getH w.2 r = some ⟨r, k, .fut (ρ + 1) D T true⟩) (hD : D ≤ w.1.now)
    (hst : (w.1.slot k).st = .sendable ∨ (w.1.slot k).st = .sending ∨ (w.1.slot k).st = .rxBusy) :
    let w1 := (step w (.poll r)).1
    (step w (.poll r)).2 = "pending" ∧ w1.1 = w.1 ∧
    getH w1.2 r = some ⟨r, k, .fut ρ (w.1.now + T) T true⟩ ∧
    (∀ t o, (w.1.slot k).st = .sending → getH w.2 t = some ⟨t, k, .sendable⟩ →
      ((step w1 (.txSend t o)).1.1.slot k).st = (if o = 0 then St.sent else St.sendable)) := by
  intro w1
  have hJ := J_reach hn hr
  have hns : (w.1.slot k).st ≠ .sent := by rcases hst with h | h | h <;> rw [h] <;> nofun
  rcases poll_cases hJ hf with ⟨h, _⟩ | ⟨_, h, _⟩ | ⟨_, _, h, _⟩ | ⟨_, _, _, h⟩
  · rcases hst with h' | h' | h' <;> rw [h'] at h <;> cases h
  · exact absurd ⟨rfl, hD⟩ h
  · cases h
  · rw [if_neg hns] at h
    have hs1 : w1.1 = w.1 := by show (step w (.poll r)).1.1 = _; rw [h]
    refine ⟨by rw [h], hs1, ?_, fun t o hsending ht => ?_⟩
    · show getH (step w (.poll r)).1.2 r = _
      rw [h]; exact getH_putH_self _ _
    · have ht1 : getH w1.2 t = some ⟨t, k, .sendable⟩ :=
        (getH_step_other hJ (.poll r) (fun e => by rw [← Option.some.inj e, hf] at ht; cases ht)).trans ht
      simp only [step, opTxSend, ht1, hs1 ▸ hsending, if_true]
      exact congrArg Slot.st (slot_setSlot_eq _ _ _ (hs1 ▸ hJ.owner_lt (getH_some hf).1 (by decide : 2 ≠ 4)))

/-- In any world whatsoever (abandoned requests, stale handles, …), as long as the loop has not been
    told to exit, `next_sendable_frame` hands out the first `Sendable` slot if there is one: no state
    an abandonment can leave behind blocks the TX side from serving the other requests. -/
theorem tx_serves_every_sendable (w : World) (τ i : Nat) (hex : w.1.exit = false) (hfree : getH w.2 τ = none)
    (hi : i < w.1.n) (hs : (w.1.slot i).st = .sendable) :
    ∃ j, j ≤ i ∧ (w.1.slot j).st = .sendable ∧
      (step w (.txNext τ)).1 = (w.1.setSlot j { w.1.slot j with st := .sending }, putH w.2 ⟨τ, j, .sendable⟩) := by
  simp only [step, hfree, Option.isNone_none, if_true, opTxNext, hex, Bool.false_eq_true, if_false]
  cases hf : findIdx (fun x => x.st == St.sendable) w.1.slots 0 with
  | none =>
    have := findIdx_none _ _ _ hf i hi
    rw [show w.1.slots.getD i dummySlot = w.1.slot i from rfl, hs] at this
    cases this
  | some j =>
    obtain ⟨_, hp, hprev⟩ := findIdx_some_slot hf
    refine ⟨j, Nat.le_of_not_lt fun hlt => ?_, by simpa using hp, rfl⟩
    have := hprev i hlt
    rw [hs] at this
    cases this

/-! ### non-vacuity: a two-slot storage, one request with 2 retries, nothing ever answers -/

def demoW : World :=
  run (World.init 2 40 0 0) [.alloc 0, .push 0 (.fprd 4096 304) [0xaa, 0xbb] none, .mark 0 2 10]

/-- first transmission, a poll that arms the timer, then per deadline: advance, poll (expired →
    `Sendable` again), retransmission; the last `advance` lets the third deadline pass. -/
def demoOps : List Op :=
  [.txNext 1, .txSend 1 0, .poll 0, .advance 10, .poll 0,
   .txNext 1, .txSend 1 0, .advance 10, .poll 0,
   .txNext 1, .txSend 1 0, .alloc 5, .advance 10]

example : Fresh demoW 0 0 2 := ⟨⟨10, 10, false, by decide +kernel⟩, by decide +kernel, by decide +kernel⟩
example : Sched 0 0 demoW demoOps := by
  simp only [demoOps, Sched, StepOk]
  decide +kernel
example : expiries 0 demoW demoOps = 2 := by decide +kernel
example : expiredB (run demoW demoOps) 0 = true := by decide +kernel
example : StepOk 0 0 (run demoW demoOps) (.poll 0) := by simp only [StepOk]; decide +kernel
example : (sends 0 demoW demoOps).length = 3 := by decide +kernel
example : ((step (run demoW demoOps) (.poll 0)).1.1.slots.map (·.st)) = [.none, .created] := by decide +kernel
example : Reach 2 40 demoW := ⟨0, 0, _, rfl⟩

/-! The side condition of the transmission-count clause is needed: if the TX side has NOT sent the
    frame when a deadline expires, that retry is consumed without a retransmission (the `Sent →
    Sendable` compare-exchange fails; see `retry_while_sending`), so the request times out after
    fewer than `1 + R` transmissions. Here `R = 2`: the first deadline passes while the frame is still
    `Sending`; two transmissions in all. -/
def cexOps : List Op :=
  [.poll 0, .txNext 1, .advance 10, .poll 0, .txSend 1 0, .advance 10, .poll 0,
   .txNext 1, .txSend 1 0, .advance 10]

theorem count_needs_tx_discipline_counterexample :
    (outs demoW cexOps).take 4 = ["pending", "some.0", "ok", "pending"] ∧
    -- the history violates the side condition at its second poll (expired while `Sending`) ...
    ¬ StepOk 0 0 (run demoW (cexOps.take 3)) (.poll 0) ∧
    -- ... and then the third expiry is the last: timeout after 2 < 1 + 2 transmissions
    (step (run demoW cexOps) (.poll 0)).2 = "ready.err.timeout" ∧
    (sends 0 demoW cexOps).length = 2 ∧ (∀ x ∈ sends 0 demoW cexOps, x = frameBytes demoW 0) := by
  simp only [StepOk]
  decide +kernel

/-- ... and the abandonment window: dropped while the TX side holds the frame. -/
def demoSending : World := run demoW [.txNext 1]
example : Abandon demoSending 0 0 (.dropFut 0) := .drop 2 10 10 false (by decide +kernel)
example : (demoSending.1.slot 0).st = .sending := by decide +kernel
example : getH demoSending.2 1 = some ⟨1, 0, .sendable⟩ := by decide +kernel

/-! ### Handing a (re-)queued frame to the transmit task: publish first, wake afterwards -/

open Ec.TxWake in
/-- With the status published BEFORE `wake_sender()`, no run of the publishing side against a transmit task that
    sleeps on its waker (consuming its woken bit and re-registering on every poll) ever ends with the frame
    stranded; in every terminal state of every interleaving the frame has been claimed for transmission. -/
theorem publish_then_wake_never_strands :
    (∀ s ∈ allStates .publishThenWake, stranded s = false) ∧
    (∀ s ∈ allStates .publishThenWake, terminal .publishThenWake s = true → s.tx = .claimed ∧ s.sendable = false) := by
  decide +kernel

open Ec.TxWake in
/-- The state space explored is closed under every step (so `allStates` is ALL reachable states, not a prefix). -/
theorem publish_wake_state_space_closed :
    (∀ s ∈ allStates .publishThenWake, ∀ t ∈ succs .publishThenWake s, t ∈ allStates .publishThenWake) ∧
    (∀ s ∈ allStates .wakeThenPublish, ∀ t ∈ succs .wakeThenPublish s, t ∈ allStates .wakeThenPublish) := by
  decide +kernel

open Ec.TxWake in
/-- The opposite order strands the frame: the transmit task is woken, scans, finds nothing and goes back to sleep
    before the status is published; nobody wakes it for the frame (seeded change C06c). -/
theorem wake_then_publish_strands_counterexample :
    ∃ s ∈ allStates .wakeThenPublish, stranded s = true ∧ terminal .wakeThenPublish s = true := by
  decide +kernel

/-- T1: every place of /repo that makes a frame Sendable (`mark_sendable` in `single_pdu` and the three process-data
    cycles, the retry re-queue in `ReceiveFrameFut::poll`) calls `wake_sender()` AFTER the status is published and
    before the frame is awaited (regenerated from the sources on every run). -/
theorem publish_wake_order_sites :
    Gen.allPublishThenWake = true ∧ Gen.publishWakeSites.length = 6 := by
  decide +kernel

end Ec.C06
