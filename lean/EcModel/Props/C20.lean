/-
  C20 — tasks sharing one MainDevice do not disturb each other.

  Model: EcModel/Tasks.lean (await-point granularity; any number of slots, tasks, any task programs,
  ANY segment `seg : σ → Rq → σ × Rs`, every schedule of issue / arrive / deliver / consume steps,
  i.e. every interleaving of the tasks and every assignment of per-frame latencies).

  Theorems
    routing_table            distinct in-flight requests hold distinct first indices (and one slot per task)
    transparent_transport    the response the segment produced for a request is stored in the requester's own
                             slot and nowhere else  — under the < 256 indices assumption (`Admissible`)
    transparent_transport_counterexample   without that assumption the real routing function hands a
                             response to another task (witness; KNOWN_FINDINGS c20/index-reuse-in-flight)
    alloc_never_spurious     in-flight < n  ⇒  `alloc_frame` succeeds
    alloc_fails_iff_full     `alloc_frame` fails with SwapState  ⇔  all n slots are in flight
    issue_never_spurious     a task's request is not refused while fewer than n frames are in flight
    just_enough_storage      m tasks, n ≥ m slots: no request is ever refused (pigeonhole over the slot table)
    images_separate          a group's image changes only when a task picks up the segment's response to a
                             cycle request OF THAT GROUP, and becomes that response's inputs
    cycles_commute           cycles over disjoint logical windows commute on the segment (C07/C08 hypothesis)
    same_as_sequential       every task's results = its share of ONE sequential execution of all requests in
                             the order the segment processed them (linearisability of the transport)
    same_as_alone            if requests of different tasks commute on the segment, every task's results =
                             the results of running its program alone from the same initial segment state

  Facts taken from other properties, stated as hypotheses:
    C01  the returned frame carries the first index it was sent with, `receive_frame` copies exactly the
         returned bytes into the routed slot (here: `deliver` uses `e.idx` and stores `rs` unchanged);
    C03  slots are returned (here: `consume` frees the slot; no abandonment because PDU timeouts are large);
    C07/C08  `WindowsDisjoint` for the logical windows of different groups.
-/
import EcModel.Lemmas.TasksInv

namespace Ec.C20
open Ec.Tasks

variable {Rq Rs σ : Type}

/-- Every reachable state satisfies the routing-table / linearisation invariant. -/
theorem reach_inv {S : Sys Rq Rs σ} {n c tot : Nat} {s0 : σ} {img0 : Nat → List Nat} {st : St Rq Rs σ}
    (hr : Reach S n c tot s0 img0 st) : Inv S s0 st := by
  obtain ⟨sched, hadm, rfl⟩ := hr
  exact inv_run (inv_init S n c tot s0 img0) hadm

/-- Routing table: two different slots never hold requests of the same task, and two requests that
    both await a response never carry the same first index. -/
theorem routing_table (S : Sys Rq Rs σ) (n c tot : Nat) (s0 : σ) (img0 : Nat → List Nat) (st : St Rq Rs σ)
    (hr : Reach S n c tot s0 img0 st) (i j : Nat) (ei ej : Entry Rq Rs)
    (hi : slotAt st.slots i = some ei) (hj : slotAt st.slots j = some ej) (hne : i ≠ j) :
    ei.task ≠ ej.task ∧ (ei.stage.awaiting = true → ej.stage.awaiting = true → ei.idx ≠ ej.idx) := by
  have h := reach_inv hr
  exact ⟨fun e => hne (h.uniq i j ei ej hi hj e), fun a b e => hne (h.idx i j ei ej hi hj a b e)⟩

/-- Transparent transport.  When the response `rs` to frame `u` — sent from slot `j` for the request
    `e.req` of task `e.task` — reaches `receive_frame`: `rs` is the response the segment produced for
    exactly that request of that task (it is in the segment's log), the routing function finds slot
    `j` and no other, and the only effect is that slot `j` now holds `rs` for its task to pick up. -/
theorem transparent_transport (S : Sys Rq Rs σ) (n c tot : Nat) (s0 : σ) (img0 : Nat → List Nat) (st : St Rq Rs σ)
    (hr : Reach S n c tot s0 img0 st) (u j : Nat) (e : Entry Rq Rs) (rs : Rs)
    (hfind : findSlot (selBack u) st.slots = some (j, e, rs)) :
    (e.task, e.req, rs) ∈ st.log ∧ route st.slots e.idx = some (j, e, ()) ∧
    deliver st u = { st with slots := st.slots.set j (some { e with stage := .done rs }) } := by
  have h := reach_inv hr
  obtain ⟨hj, hsel⟩ := findSlot_some hfind
  have hes := selBack_some hsel
  exact ⟨(h.backs j e rs hj (by rw [hes]; rfl)).2, route_self h hj (by rw [hes]; rfl), deliver_eq h hfind⟩

/-- … and what a task picks up is what was stored for it: its result sequence grows by exactly the
    response in its own slot. -/
theorem consume_own (S : Sys Rq Rs σ) (st : St Rq Rs σ) (t j : Nat) (e : Entry Rq Rs) (rs : Rs)
    (hfind : findSlot (selDone t) st.slots = some (j, e, rs)) :
    (consume S st t).got t = st.got t ++ [rs] ∧ (∀ u, u ≠ t → (consume S st t).got u = st.got u) ∧
    slotAt (consume S st t).slots j = none := by
  obtain ⟨hj, _⟩ := findSlot_some hfind
  unfold consume
  rw [hfind]
  refine ⟨by simp [upd], fun u hu => by simp [upd, hu], ?_⟩
  simp [slotAt_set j (slotAt_lt hj)]

/-- Fewer frames in flight than the storage holds ⇒ `alloc_frame` finds a free slot. -/
theorem alloc_never_spurious {α : Type} (l : List (Option α)) (c : Nat) (hn : l.length ≤ 256)
    (hfree : inFlight l < l.length) :
    ∃ k c', alloc l c = (some k, c') ∧ k < l.length ∧ slotAt l k = none :=
  alloc_complete l c hfree hn

/-- `alloc_frame` fails (SwapState) iff all `n` slots are in flight. -/
theorem alloc_fails_iff_full {α : Type} (l : List (Option α)) (c : Nat) (hn : l.length ≤ 256) :
    (alloc l c).1 = none ↔ inFlight l = l.length := by
  constructor
  · intro h
    refine Nat.le_antisymm (inFlight_le l) (Nat.le_of_not_lt fun hlt => ?_)
    obtain ⟨k, c', hal, _⟩ := alloc_complete l c hlt hn
    rw [hal] at h; cases h
  · exact fun h => allocLoop_full l c _ ((inFlight_eq_length_iff l).1 h)

/-- No operation is refused merely because of the others: a poll in which a task wants to issue a
    request while fewer than `n` frames are in flight never ends in SwapState. -/
theorem issue_never_spurious (S : Sys Rq Rs σ) (st : St Rq Rs σ) (t : Nat) (hn : st.slots.length ≤ 256)
    (hfree : inFlight st.slots < st.slots.length) :
    (issue S st t).fails = st.fails :=
  issue_fails t hn hfree

/-- Just-enough storage: with one slot per task (`m` tasks, `n ≥ m` slots) no request of any task is
    ever refused, whatever the schedule and the latencies. -/
theorem just_enough_storage (S : Sys Rq Rs σ) (n c tot m : Nat) (s0 : σ) (img0 : Nat → List Nat) (sched : List Act)
    (hm : m ≤ n) (hn : n ≤ 256) (hadm : Admissible S (St.init n c tot s0 img0) sched)
    (hbelow : TasksBelow m sched) (t : Nat) :
    (run S (St.init n c tot s0 img0) sched).fails t = 0 := by
  have := run_fails (inv_init S n c tot s0 img0)
    (by intro i e hi; simp [St.init, slotAt_replicate] at hi) (by simp [St.init]; exact hm)
    (by simp [St.init]; exact hn) hadm hbelow
  rw [this]; rfl

/-- Group `g`'s image is written only by `g`'s own cycle: if a step changes it, the step is a task
    picking up the response to a request that is a cycle of `g`, and the new image is that response's
    inputs laid over the old image. -/
theorem images_separate (S : Sys Rq Rs σ) (st : St Rq Rs σ) (a : Act) (g : Nat)
    (hch : (step S st a).img g ≠ st.img g) :
    ∃ t j e rs, a = .consume t ∧ findSlot (selDone t) st.slots = some (j, e, rs) ∧ e.task = t ∧
      S.grp e.req = some g ∧ (step S st a).img g = S.inputs e.req rs (st.img g) := by
  cases a with
  | issue t => exact absurd (congrFun (issue_img S st t) g) hch
  | arrive t => exact absurd (congrFun (arrive_img S st t) g) hch
  | deliver t => exact absurd (congrFun (deliver_img st t) g) hch
  | consume t =>
    cases hfind : findSlot (selDone t) st.slots with
    | none => exact absurd (by simp only [step, consume, hfind]) hch
    | some r =>
      obtain ⟨j, e, rs⟩ := r
      have himg : (step S st (.consume t)).img = updOpt st.img (imgWrite S st.img e.req rs) := by
        simp only [step, consume, hfind]
      rw [himg] at hch ⊢
      cases hg : S.grp e.req with
      | none => rw [imgWrite, hg] at hch; exact absurd rfl hch
      | some g' =>
        simp only [imgWrite, hg, updOpt] at hch ⊢
        by_cases hgg : g = g'
        · subst hgg
          exact ⟨t, j, e, rs, rfl, hfind, (selDone_some (findSlot_some hfind).2).1, hg, if_pos rfl⟩
        · exact absurd (if_neg hgg) hch

/-- … and in a reachable state that response is the one the segment produced for that very cycle
    request of that task (no foreign data can enter an image). -/
theorem images_provenance (S : Sys Rq Rs σ) (n c tot : Nat) (s0 : σ) (img0 : Nat → List Nat) (st : St Rq Rs σ)
    (hr : Reach S n c tot s0 img0 st) (t j : Nat) (e : Entry Rq Rs) (rs : Rs)
    (hfind : findSlot (selDone t) st.slots = some (j, e, rs)) :
    (t, e.req, rs) ∈ st.log := by
  have h := reach_inv hr
  obtain ⟨hj, hsel⟩ := findSlot_some hfind
  obtain ⟨het, hes⟩ := selDone_some hsel
  have := (h.backs j e rs hj (by rw [hes]; rfl)).2
  rwa [het] at this

/-- Segment side: process-data cycles over disjoint logical windows commute. -/
theorem cycles_commute (isIn : Nat → Bool) (a b : Nat × List Nat) (hd : WindowsDisjoint a b) :
    Commute (lrw isIn) a b ∧ Commute (lrw isIn) b a :=
  ⟨lrw_commute isIn hd, lrw_commute isIn hd.symm⟩

/-- Linearisability of the transport.  For every schedule and latency assignment: the segment's log
    IS a sequential execution of all requests from the initial segment state (responses and final
    device state), every task's result sequence is its share of that execution (a prefix while a
    response is still under way, all of it when the task holds no slot), and every task issued its
    requests in its own program order. -/
theorem same_as_sequential (S : Sys Rq Rs σ) (n c tot : Nat) (s0 : σ) (img0 : Nat → List Nat) (sched : List Act)
    (hadm : Admissible S (St.init n c tot s0 img0) sched) :
    let st := run S (St.init n c tot s0 img0) sched
    seqRun S.seg s0 (st.log.map (fun x => x.2.1)) = (st.log.map (fun x => x.2.2), st.seg) ∧
    ∀ t, st.got t <+: respsOf t st.log ∧
         (findSlot (selTask t) st.slots = none → st.got t = respsOf t st.log) ∧
         Follows (S.tasks t) (reqsOf t st.log) (respsOf t st.log) := by
  intro st
  have h : Inv S s0 st := reach_inv ⟨sched, hadm, rfl⟩
  refine ⟨?_, fun t => ⟨(got_prefix h t).1, (got_prefix h t).2, h.prog t⟩⟩
  rw [valid_seqRun h.valid, h.ends]

/-- Same as alone.  If the requests of different tasks that the segment processed commute (they
    touch disjoint device state), then for every schedule and latency assignment each task's result
    sequence is exactly what its program gets when it runs ALONE from the same initial segment state. -/
theorem same_as_alone (S : Sys Rq Rs σ) (n c tot : Nat) (s0 : σ) (img0 : Nat → List Nat) (sched : List Act)
    (hadm : Admissible S (St.init n c tot s0 img0) sched)
    (hc : ∀ x ∈ (run S (St.init n c tot s0 img0) sched).log, ∀ y ∈ (run S (St.init n c tot s0 img0) sched).log,
      x.1 ≠ y.1 → Commute S.seg x.2.1 y.2.1) (t : Nat) :
    let st := run S (St.init n c tot s0 img0) sched
    st.got t = alone S.seg (S.tasks t) (st.got t).length s0 [] := by
  intro st
  have h : Inv S s0 st := reach_inv ⟨sched, hadm, rfl⟩
  have ha := alone_of_log t h.valid (h.prog t) hc
  obtain ⟨x, hx⟩ := (got_prefix h t).1
  have hlen : (respsOf t st.log).length = (st.got t).length + x.length := by rw [← hx]; simp
  rw [alone_take S.seg (S.tasks t) (st.got t).length x.length s0 [], ← hlen, ha, ← hx]
  simp

/-- The same with the hypothesis on the PROGRAMS: whatever two different tasks may ever ask commutes. -/
theorem same_as_alone_programs (S : Sys Rq Rs σ) (n c tot : Nat) (s0 : σ) (img0 : Nat → List Nat) (sched : List Act)
    (hadm : Admissible S (St.init n c tot s0 img0) sched)
    (hc : ∀ t u h1 h2 a b, t ≠ u → S.tasks t h1 = some a → S.tasks u h2 = some b → Commute S.seg a b) (t : Nat) :
    let st := run S (St.init n c tot s0 img0) sched
    st.got t = alone S.seg (S.tasks t) (st.got t).length s0 [] := by
  intro st
  have h : Inv S s0 st := reach_inv ⟨sched, hadm, rfl⟩
  refine same_as_alone S n c tot s0 img0 sched hadm (fun x hx y hy hne => ?_) t
  have asked : ∀ z ∈ st.log, ∃ hist, S.tasks z.1 hist = some z.2.1 := fun z hz =>
    follows_asked (h.prog z.1) (List.mem_map.2 ⟨z, List.mem_filter.2 ⟨hz, beq_self_eq_true _⟩, rfl⟩)
  obtain ⟨h1, e1⟩ := asked x hx
  obtain ⟨h2, e2⟩ := asked y hy
  exact hc x.1 y.1 h1 h2 _ _ hne e1 e2

/-! ### non-vacuity and the witness of the index-reuse gap -/

section Examples

/-- Toy segment: one counter per "device"; request `(d, v)` adds `v` to device `d` and returns the
    old value.  Requests on different devices commute. -/
def toySeg (s : Nat → Nat) (rq : Nat × Nat) : (Nat → Nat) × Nat :=
  (fun d => if d = rq.1 then s d + rq.2 else s d, s rq.1)

/-- Task 0 works on device 0 (three requests), task 1 on device 1 (two requests). -/
def toy : Sys (Nat × Nat) Nat (Nat → Nat) :=
  { seg := toySeg,
    tasks := fun t h => if t = 0 then [(0, 5), (0, 7), (0, 1)][h.length]? else if t = 1 then [(1, 2), (1, 3)][h.length]? else none,
    extra := fun _ => 0, grp := fun rq => if rq.1 = 0 then some 0 else none,
    inputs := fun _ rs _ => [rs] }

/-- Interleaved, responses delivered out of order, two slots (one per task). -/
def toySched : List Act :=
  [.issue 0, .issue 1, .arrive 1, .arrive 0, .deliver 0, .consume 0, .issue 0, .arrive 2, .deliver 1,
   .deliver 2, .consume 0, .consume 1, .issue 1, .issue 0, .arrive 4, .arrive 3, .deliver 3, .deliver 4,
   .consume 1, .consume 0]

example : admissibleB toy (St.init 2 254 250 (fun _ => 0) (fun _ => [])) toySched = true := by decide +kernel

example : Admissible toy (St.init 2 254 250 (fun _ => 0) (fun _ => [])) toySched :=
  admissibleB_sound _ _ _ (by decide +kernel)

example : TasksBelow 2 toySched := by simp [TasksBelow, toySched]

/-- The hypotheses of `same_as_alone` hold in a non-trivial run and its conclusion is what one expects. -/
example : (run toy (St.init 2 254 250 (fun _ => 0) (fun _ => [])) toySched).got 0 = [0, 5, 12] ∧
    (run toy (St.init 2 254 250 (fun _ => 0) (fun _ => [])) toySched).got 1 = [0, 2] ∧
    (run toy (St.init 2 254 250 (fun _ => 0) (fun _ => [])) toySched).fails 0 = 0 ∧
    (run toy (St.init 2 254 250 (fun _ => 0) (fun _ => [])) toySched).img 0 = [12] ∧
    (run toy (St.init 2 254 250 (fun _ => 0) (fun _ => [])) toySched).log.map (fun x => x.1) = [1, 0, 0, 0, 1] := by
  decide +kernel

example : alone toySeg (toy.tasks 0) 3 (fun _ => 0) [] = [0, 5, 12] := by decide +kernel

example (a b : Nat × Nat) (h : a.1 ≠ b.1) : Commute toySeg a b := by
  intro s
  constructor
  · simp [toySeg, Ne.symm h]
  · funext d
    simp only [toySeg]
    by_cases h1 : d = a.1 <;> by_cases h2 : d = b.1 <;> simp_all

/-- One slot for two tasks: the second request is refused exactly because the storage is full. -/
example : (run toy (St.init 1 0 0 (fun _ => 0) (fun _ => [])) [.issue 0, .issue 1]).fails 1 = 1 := by decide +kernel

/-- Frames with 85 datagrams each: three of them use up 255 indices. -/
def wrapSys : Sys Nat Nat Unit :=
  { seg := fun s rq => (s, rq + 100),
    tasks := fun t h => if t = 0 then [0][h.length]? else if t = 1 then [1, 2, 3, 4][h.length]? else none,
    extra := fun rq => if rq = 0 ∨ rq = 4 then 0 else 84, grp := fun _ => none, inputs := fun _ _ i => i }

def wrapSched : List Act :=
  [.issue 0, .arrive 0,
   .issue 1, .arrive 1, .deliver 1, .consume 1,
   .issue 1, .arrive 2, .deliver 2, .consume 1,
   .issue 1, .arrive 3, .deliver 3, .consume 1,
   .issue 1, .arrive 4, .deliver 4, .consume 0, .deliver 0, .consume 1]

end Examples

/-- The gap `transparent_transport` leaves open, as the code has it: task 0's request (first index 0,
    slot 0) is still under way when task 1 has used up 256 indices; task 1's next request gets first
    index 0 again, and `frame_index_by_first_pdu_index` hands ITS response (104) to task 0, whose own
    response (100) then goes to task 1: the two tasks receive each other's data.  The schedule violates
    `Admissible` only in its last `issue`.  (Replayed on the real code by the harness' witness case.) -/
theorem transparent_transport_counterexample :
    (run wrapSys (St.init 2 0 0 () (fun _ => [])) wrapSched).got 0 = [104] ∧
    alone wrapSys.seg (wrapSys.tasks 0) 1 () [] = [100] ∧
    (run wrapSys (St.init 2 0 0 () (fun _ => [])) wrapSched).got 1 = [101, 102, 103, 100] ∧
    alone wrapSys.seg (wrapSys.tasks 1) 4 () [] = [101, 102, 103, 104] ∧
    admissibleB wrapSys (St.init 2 0 0 () (fun _ => [])) (wrapSched.take 14) = true ∧
    admissibleB wrapSys (St.init 2 0 0 () (fun _ => [])) (wrapSched.take 15) = false := by
  decide +kernel

end Ec.C20
