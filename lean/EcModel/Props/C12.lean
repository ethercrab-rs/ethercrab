/-
  C12 — EEPROM reads return exactly the stored bytes and parse to what they encode.
  The property theorems, on whole images; the category walk and what the readers return on a window whose
  content is known are in EcModel/Lemmas/Eeprom{Walk,Parse}.
-/
import EcModel.Lemmas.EepromWalk
import EcModel.Lemmas.EepromParse

namespace Ec.C12
open Ec Ec.Eeprom Ec.EepromSpec

/-- Any sequence of `read` calls on one `EepromRange`, with buffer sizes `ns`; stops at the first failure. -/
def readSeq (m : Mode) (p : Prov) : Range → List Nat → M (List (List Nat) × Range)
  | r, [] => ret ([], r)
  | r, n :: ns =>
    bind (Range.read m p r n) fun res =>
    bind (readSeq m p res.2 ns) fun rest => ret (res.1 :: rest.1, rest.2)

/-- What the property demands of such a sequence: each call returns the stored bytes at the cursor, as many as
    requested but not beyond `endp`, and the cursor advances by that number. -/
def specSeq (rd : Nat → Nat) (endp : Nat) : Nat → List Nat → List (List Nat) × Nat
  | pos, [] => ([], pos)
  | pos, n :: ns =>
    let k := min n (endp - pos)
    let rest := specSeq rd endp (pos + k) ns
    (slice rd pos k :: rest.1, rest.2)

/-- **Range reads are exact.** For every memory, chunk size ≥ 2 (devices serve 4 or 8), build mode, window
    (any cursor, odd or even; any end inside the 2^17-byte SII address space) and any sequence of partial reads
    of any sizes: every call returns exactly the stored bytes `[pos, pos + k)` with
    `k = min(requested, end − pos)`, never a byte from `end` on, never an error, never a panic. -/
theorem range_read_exact (m : Mode) (p : Prov) (hcs : 2 ≤ p.cs) (endp : Nat) (he : endp ≤ 131072) :
    ∀ (ns : List Nat) (pos : Nat),
      (readSeq m p ⟨pos, endp⟩ ns).1
        = .ok ((specSeq p.rd endp pos ns).1, ⟨(specSeq p.rd endp pos ns).2, endp⟩) := by
  intro ns
  induction ns with
  | nil => intro pos; rfl
  | cons n ns ih =>
    intro pos
    unfold readSeq
    have hr := read_ok m p hcs ⟨pos, endp⟩ n he
    rw [bind_fst_ok _ hr.1, bind_fst_ok _ (ih _)]
    rfl

theorem min_add_min (n s e : Nat) : min n e + min s (e - min n e) = min (n + s) e := by
  rcases Nat.le_total n e with h | h
  · rw [Nat.min_eq_left h, ← Nat.add_min_add_left, Nat.add_sub_cancel' h]
  · rw [Nat.min_eq_right h, Nat.sub_self, Nat.min_zero, Nat.min_eq_right (Nat.le_trans h (Nat.le_add_right _ _))]
    rfl

/-- Taken together the calls return one contiguous piece of the window, starting at the cursor: never
    anything from beyond the end, and all of the window once enough bytes were requested. -/
theorem range_read_contiguous (rd : Nat → Nat) (endp : Nat) :
    ∀ (ns : List Nat) (pos : Nat),
      (specSeq rd endp pos ns).1.flatten = slice rd pos (min ns.sum (endp - pos)) ∧
      (specSeq rd endp pos ns).2 = pos + min ns.sum (endp - pos) := by
  intro ns
  induction ns with
  | nil => intro pos; exact ⟨rfl, rfl⟩
  | cons n ns ih =>
    intro pos
    have h := ih (pos + min n (endp - pos))
    rw [Nat.sub_add_eq] at h
    simp only [specSeq, List.flatten_cons, List.sum_cons, h, slice_append, Nat.add_assoc, min_add_min, and_self]

/-- **`EepromRange::new(start_word, len_words)`, any start word, any length**: the window is exactly the bytes
    of the words asked for, clipped to the end of the 2^16-word address space; with `range_read_exact` every
    window of every EEPROM the word addresses can reach (up to 1 Mbit) is read exactly. -/
theorem range_window (m : Mode) (w n : Nat) :
    Range.new m w n = ret ⟨2 * w, min (2 * w + 2 * n) 131072⟩ :=
  new_eq m w n

/-- Repaired in /repo (before: words from 0x8000 up panicked in checked builds and were read from the wrong
    place — word 0x8000 read word 0 — in wrapping builds). -/
theorem range_window_fixed :
    (Range.new .checked 0x8000 4).1 = .ok ⟨65536, 65544⟩ ∧
    (Range.new .wrapping 0x8000 4).1 = .ok ⟨65536, 65544⟩ ∧
    (Range.new .checked 0x7ffe 2).1 = .ok ⟨65532, 65536⟩ ∧
    (Range.new .checked 0xffff 9).1 = .ok ⟨131070, 131072⟩ := by
  decide +kernel

/-- **`SubDevice::eeprom_read_raw(start_word, buf)`** = `start_at(start_word, buf.len()).read(buf)`, any length,
    odd or even: exactly the `n` stored bytes from the start word are returned — `start_at` rounds the window
    up to whole words and `read` stops at the buffer's end. -/
theorem read_raw_exact (m : Mode) (p : Prov) (hcs : 2 ≤ p.cs) (w n : Nat)
    (h : 2 * w + 2 * ((n + 1) / 2) ≤ 131072) :
    (bind (startAt m w n) fun r => Range.read m p r n).1
      = .ok (slice p.rd (2 * w) n, ⟨2 * w + n, 2 * w + 2 * ((n + 1) / 2)⟩) := by
  rw [startAt_of_fits m w n h, bind_ret, (read_ok m p hcs _ n h).1,
    show min n (2 * w + 2 * ((n + 1) / 2) - 2 * w) = n by omega]

/-- **`SubDevice::eeprom_read::<T>(start_word)`** = `start_at(start_word, PACKED_LEN).read_exact(buf)`: every
    packed length, odd ones included, reads exactly its bytes. -/
theorem read_typed_exact (m : Mode) (p : Prov) (hcs : 2 ≤ p.cs) (w n : Nat)
    (h : 2 * w + 2 * ((n + 1) / 2) ≤ 131072) :
    (bind (startAt m w n) fun r => eofToOverrun (Range.readExact m p r n)).1
      = .ok (slice p.rd (2 * w) n, ⟨2 * w + n, 2 * w + 2 * ((n + 1) / 2)⟩) := by
  rw [startAt_of_fits m w n h, bind_ret]
  exact (eofToOverrun_ok (readExact_ok m p hcs _ n h (by simp only; omega)).1).1

/-- Repaired in /repo (before: `start_at` turned the byte length into `len_bytes / 2` words, so a
    3-byte read returned 2 bytes, a 1-byte read 0 bytes, and `eeprom_read::<u8>` failed with `SectionOverrun`). -/
theorem read_raw_odd_fixed :
    let p : Prov := ⟨fun a => a + 1, 4⟩
    (bind (startAt .checked 4 3) fun r => Range.read .checked p r 3).1 = .ok ([9, 10, 11], ⟨11, 12⟩) ∧
    (bind (startAt .checked 4 1) fun r => Range.read .checked p r 1).1 = .ok ([9], ⟨9, 10⟩) ∧
    (bind (startAt .wrapping 4 1) fun r => eofToOverrun (Range.readExact .wrapping p r 1)).1
      = .ok ([9], ⟨9, 10⟩) := by
  decide +kernel

/-- The memory `p.rd` holds the image from byte 0 (whatever lies behind it). -/
def HoldsImage (p : Prov) (img : List Nat) : Prop := Holds p.rd 0 img

theorem holdsImage_imgRd (img : List Nat) (fill cs : Nat) : HoldsImage ⟨imgRd img fill, cs⟩ img :=
  slice_eq_of_getD _ 0 img fill fun i _ => by rw [Nat.zero_add]; rfl

theorem holds_cats {p : Prov} {hdr : List Nat} {cats : List Cat} (h : HoldsImage p (encodeSii hdr cats))
    (hhdr : hdr.length = 128) : Holds p.rd 128 (encCats cats ++ [0xff, 0xff]) := by
  unfold HoldsImage encodeSii at h
  rw [List.append_assoc] at h
  have := h.append.2
  rw [hhdr] at this
  simpa using this

theorem holds_split {p : Prov} {hdr : List Nat} {pre post : List Cat} {c : Cat}
    (himg : HoldsImage p (encodeSii hdr (pre ++ c :: post))) (hhdr : hdr.length = 128) :
    Holds p.rd 128 (encCats pre ++ (encCat c ++ (encCats post ++ [0xff, 0xff]))) := by
  have hh := holds_cats himg hhdr
  rw [encCats_append] at hh
  simpa only [encCats, List.append_assoc] using hh

/-- **Every present category is found with its exact extent.** For any image
    `header ++ pre ++ [c] ++ post ++ End` in memory (any chunk size ≥ 4, any build mode), where no category
    in `pre` has the type searched for (unknown vendor types are fine: they all map to `Nop`), fewer than 32
    empty categories come first, and the category lies inside the 128 KiB the word addresses can reach: the
    search returns the byte window of `c`'s body, exactly. -/
theorem category_found (m : Mode) (p : Prov) (hcs : 4 ≤ p.cs) (hdr : List Nat) (pre : List Cat) (c : Cat)
    (post : List Cat) (himg : HoldsImage p (encodeSii hdr (pre ++ c :: post))) (hhdr : hdr.length = 128)
    (hpre : ∀ x ∈ pre, x.WF ∧ catOf x.type ≠ catOf c.type ∧ catOf x.type ≠ Gen.Eeprom.CAT_END)
    (hc : c.WF) (hne : empties pre + (if c.body.length / 2 = 0 then 1 else 0) < 32)
    (hsize : 128 + (encCats pre).length + 4 + c.body.length ≤ 131072)
    (hstart : 128 + (encCats pre).length + 4 < 131072) :
    (category m p (catOf c.type)).1
      = .ok (some ⟨128 + (encCats pre).length + 4, 128 + (encCats pre).length + 4 + c.body.length⟩) :=
  (category_found_at m p hcs pre c.type c.body _ _ (holds_split himg hhdr) hpre rfl hc.1 hc.2.1 hne hsize hstart).1

/-- **An absent category is reported absent**: no category of that type before the End marker ⇒ `None`. -/
theorem category_absent (m : Mode) (p : Prov) (hcs : 4 ≤ p.cs) (hdr : List Nat) (cats : List Cat) (cat : Nat)
    (himg : HoldsImage p (encodeSii hdr cats)) (hhdr : hdr.length = 128)
    (hall : ∀ x ∈ cats, x.WF ∧ catOf x.type ≠ cat ∧ catOf x.type ≠ Gen.Eeprom.CAT_END)
    (hcat : cat ≠ Gen.Eeprom.CAT_END) (hne : empties cats < 32)
    (hsize : 128 + (encCats cats).length + 4 < 131072) :
    (category m p cat).1 = .ok none := by
  obtain ⟨f, wa, hwa, hh2, hw⟩ := category_walk m p hcs cat cats _ (holds_cats himg hhdr) hall hne (by omega)
  rw [hw]
  exact catLoop_end m p hcs cat f _ _ _ hh2 hcat (by omega)

/-- The full statement (any well-formed image) is FALSE of the code: 32 empty categories in front make the
    search give up (the blank-EEPROM heuristic; a deliberate choice of the code, kept). Here: 32 empty vendor
    categories, then FMMU. -/
theorem category_found_counterexample :
    let cats := (List.replicate 32 (⟨0x2000, []⟩ : Cat)) ++ [⟨40, [1, 2]⟩]
    (category .checked ⟨imgRd (encodeSii (List.replicate 128 0) cats) 255, 4⟩ 40).1 = .ok none :=
  category_gives_up .checked _ (Nat.le_refl _) (List.replicate 31 ⟨0x2000, []⟩) ⟨0x2000, []⟩ _ 40
    (holds_split (post := [⟨40, [1, 2]⟩]) (holdsImage_imgRd _ _ _) List.length_replicate) (by decide) (by decide)
    (by decide) rfl (by decide +kernel)

/-- What the sync manager parser stores for a description (control re-packed from its parsed fields). -/
def smOf (d : SmDesc) : Sm := ⟨d.start, d.len, controlOf d.control, d.enable, d.usage⟩

theorem parseSm_enc (d : SmDesc) (hd : d.WF) : parseSm (encSm d) = ret (smOf d) := by
  obtain ⟨h1, h2, _, _, h5, h6⟩ := hd
  have he := (by decide : ∀ e, e ≤ 15 → fromBits Gen.Eeprom.SM_ENABLE_MASK e = some e) _ h5
  have hu := (by decide : ∀ u, u ≤ 4 →
    enumOf Gen.Eeprom.syncManagerTypeTable Gen.Eeprom.syncManagerTypeDefault u = some u) _ h6
  have r0 : rd16 (encSm d) = d.start := rd16_le16_append _ h1 _
  have r2 : rd16 ((encSm d).drop 2) = d.len := rd16_le16_append _ h2 _
  rw [parseSm, r0, r2, show (encSm d).getD 6 0 = d.enable from rfl, show (encSm d).getD 7 0 = d.usage from rfl,
    he, hu]
  rfl

/-- **Sync managers.** An image whose SyncManager category (type 41) holds the 8-byte encodings of up to 8
    well-formed sync managers parses to exactly those sync managers, in order. -/
theorem sync_managers_roundtrip (m : Mode) (p : Prov) (hcs : 4 ≤ p.cs) (hdr : List Nat) (pre post : List Cat)
    (sms : List SmDesc)
    (himg : HoldsImage p (encodeSii hdr (pre ++ ⟨41, sms.flatMap encSm⟩ :: post))) (hhdr : hdr.length = 128)
    (hpre : ∀ x ∈ pre, x.WF ∧ catOf x.type ≠ 41 ∧ catOf x.type ≠ Gen.Eeprom.CAT_END)
    (hsms : ∀ s ∈ sms, s.WF) (hn : sms.length ≤ 8)
    (hne : empties pre + (if sms.length = 0 then 1 else 0) < 32)
    (hsize : 128 + (encCats pre).length + 4 + 8 * sms.length < 131072) :
    (syncManagers m p).1 = .ok (sms.map smOf) := by
  have hlen : (sms.flatMap encSm).length = 8 * sms.length := flatMap_length_const encSm 8 sms fun _ _ => rfl
  obtain ⟨hcat, hbody⟩ := category_found_at m p hcs pre 41 (sms.flatMap encSm) _ Gen.Eeprom.CAT_SYNC_MANAGER
    (holds_split himg hhdr) hpre (by decide) (by decide) (by omega) (by split at hne <;> split <;> omega)
    (by omega) (by omega)
  rw [syncManagers, bind_fst_ok _ (items_some hcat)]
  exact collectLoop_items m p (by omega) 8 _ 0 parseSm encSm smOf 0 (by omega) sms _ [] _
    (fun s hs => ⟨rfl, parseSm_enc s (hsms s hs)⟩) hbody rfl (by simp only; omega)
    (by rw [List.length_nil, Nat.zero_add]; exact hn) (by show _ < 10; omega)

/-- **FMMU-to-sync-manager mapping** (FMMU_EX, type 42): 3-byte entries `(x, sync manager, y)`, up to 16 of
    them, followed by at most one pad byte to make the category even: parses to the sync manager indices. -/
theorem fmmu_mappings_roundtrip (m : Mode) (p : Prov) (hcs : 4 ≤ p.cs) (hdr : List Nat) (pre post : List Cat)
    (ex : List (Nat × Nat × Nat)) (pad : List Nat)
    (himg : HoldsImage p
      (encodeSii hdr (pre ++ ⟨42, (ex.flatMap fun e => [e.1, e.2.1, e.2.2]) ++ pad⟩ :: post)))
    (hhdr : hdr.length = 128)
    (hpre : ∀ x ∈ pre, x.WF ∧ catOf x.type ≠ 42 ∧ catOf x.type ≠ Gen.Eeprom.CAT_END)
    (hn : ex.length ≤ 16) (hpad : pad.length < 3) (heven : (3 * ex.length + pad.length) % 2 = 0)
    (hne : empties pre + (if (3 * ex.length + pad.length) / 2 = 0 then 1 else 0) < 32)
    (hsize : 128 + (encCats pre).length + 4 + 3 * ex.length + pad.length < 131072) :
    (fmmuMappings m p).1 = .ok (ex.map fun e => e.2.1) := by
  have hlen : (ex.flatMap fun e => [e.1, e.2.1, e.2.2]).length = 3 * ex.length :=
    flatMap_length_const _ 3 ex fun _ _ => rfl
  obtain ⟨hcat, hbody⟩ := category_found_at m p hcs pre 42 ((ex.flatMap fun e => [e.1, e.2.1, e.2.2]) ++ pad) _
    Gen.Eeprom.CAT_FMMU_EX (holds_split himg hhdr) hpre (by decide) (by decide)
    (by rw [List.length_append, hlen]; exact heven) (by rw [List.length_append, hlen]; exact hne)
    (by rw [List.length_append]; omega) (by omega)
  rw [fmmuMappings, bind_fst_ok _ (items_some hcat)]
  exact collectLoop_items m p (by omega) 3 _ 1 parseFmmuEx (fun e : Nat × Nat × Nat => [e.1, e.2.1, e.2.2])
    (fun e => e.2.1) pad.length hpad ex _ [] _ (fun _ _ => ⟨rfl, rfl⟩) hbody.append.1
    (by simp only [List.length_append]; omega) (by simp only [List.length_append]; omega)
    (by rw [List.length_nil, Nat.zero_add]; exact hn) (by show _ < 18; omega)

/-- Canonical FMMU usage: 0xFF is an alternative spelling of "unused". -/
def fmmuOf (u : Nat) : Nat := if u = 255 then 0 else u

theorem parseFmmus_valid : ∀ (us : List Nat), (∀ u ∈ us, u ≤ 3 ∨ u = 255) →
    parseFmmus us = ret (us.map fmmuOf) := by
  intro us
  induction us with
  | nil => intro _; rfl
  | cons u us ih =>
    intro h
    have hu : enumOf Gen.Eeprom.fmmuUsageTable Gen.Eeprom.fmmuUsageDefault u = some (fmmuOf u) := by
      rcases h u (by simp) with h3 | h255
      · have : ∀ v, v ≤ 3 → enumOf Gen.Eeprom.fmmuUsageTable Gen.Eeprom.fmmuUsageDefault v = some (fmmuOf v) := by
          decide
        exact this u h3
      · subst h255; decide
    unfold parseFmmus
    rw [hu, ih (fun v hv => h v (by simp [hv]))]
    simp

/-- **FMMU usage** (type 40): up to 16 usage bytes (an odd count is padded with a byte that itself reads as
    "unused") parse to their canonical values. -/
theorem fmmus_roundtrip (m : Mode) (p : Prov) (hcs : 4 ≤ p.cs) (hdr : List Nat) (pre post : List Cat)
    (us : List Nat) (himg : HoldsImage p (encodeSii hdr (pre ++ ⟨40, us⟩ :: post))) (hhdr : hdr.length = 128)
    (hpre : ∀ x ∈ pre, x.WF ∧ catOf x.type ≠ 40 ∧ catOf x.type ≠ Gen.Eeprom.CAT_END)
    (hus : ∀ u ∈ us, u ≤ 3 ∨ u = 255) (hn : us.length ≤ 16) (heven : us.length % 2 = 0)
    (hne : empties pre + (if us.length / 2 = 0 then 1 else 0) < 32)
    (hsize : 128 + (encCats pre).length + 4 + us.length < 131072) :
    (fmmus m p).1 = .ok (us.map fmmuOf) := by
  obtain ⟨hcat, hbody⟩ := category_found_at m p hcs pre 40 us _ Gen.Eeprom.CAT_FMMU (holds_split himg hhdr) hpre
    (by decide) (by decide) heven hne (by omega) (by omega)
  rw [fmmus, bind_fst_ok _ hcat]
  simp only
  rw [bind_fst_ok _ (read_ok m p (by omega) _ _ (by simp only; omega)).1]
  simp only
  rw [show min Gen.Eeprom.FMMU_READ_BUF (128 + (encCats pre).length + 4 + us.length - (128 + (encCats pre).length + 4))
      = us.length by simp only [Gen.Eeprom.FMMU_READ_BUF]; omega,
    show slice p.rd _ us.length = us from hbody, parseFmmus_valid us hus]
  rfl

/-- **Identity** (words 8..15): vendor, product, revision, serial as stored. -/
theorem identity_roundtrip (m : Mode) (p : Prov) (hcs : 2 ≤ p.cs) (v pc rev ser : Nat)
    (hv : v < 4294967296) (hp : pc < 4294967296) (hr : rev < 4294967296) (hs : ser < 4294967296)
    (hh : Holds p.rd 16 (le32 v ++ le32 pc ++ le32 rev ++ le32 ser)) :
    (identity m p).1 = .ok (v, pc, rev, ser) := by
  rw [identity, readAt_ok m p hcs _ 16 (by decide), show slice p.rd (2 * Gen.Eeprom.IDENTITY_WORD_ADDR) 16 = _ from hh]
  exact congrArg Outcome.ok (Prod.ext (rd32_le32_append v hv _) (Prod.ext (rd32_le32_append pc hp _)
    (Prod.ext (rd32_le32_append rev hr _) (rd32_le32_append ser hs []))))

/-- **EEPROM size**: the size in bytes is `(word + 1) * 128` for every value of the size word (1 Kbit up to the
    register maximum; the property's 4 Mbit is word 4095). -/
theorem size_roundtrip (m : Mode) (p : Prov) (hcs : 2 ≤ p.cs) (w : Nat) (hw : w < 65536)
    (hh : Holds p.rd 124 (le16 w)) :
    (size m p).1 = .ok ((w + 1) * 128) := by
  rw [size, readAt_ok m p hcs _ 2 (by decide), show slice p.rd (2 * Gen.Eeprom.SIZE_WORD_ADDR) 2 = _ from hh,
    rd16_le16 w hw]
  rfl

/-- 4 Mbit (size word 4095) is 524288 bytes in both build modes (was reported as 0 / panicked before the fix). -/
example : let p : Prov := ⟨imgRd (List.replicate 124 0 ++ le16 4095) 255, 8⟩
    (size .wrapping p).1 = .ok 524288 ∧ (size .checked p).1 = .ok 524288 := by decide +kernel

/-- **Mailbox settings** (words 0x18..0x1C): offsets, sizes and the supported-protocol bits as stored. -/
theorem mailbox_roundtrip (m : Mode) (p : Prov) (hcs : 2 ≤ p.cs) (ro rs so ss pr hi : Nat)
    (h1 : ro < 65536) (h2 : rs < 65536) (h3 : so < 65536) (h4 : ss < 65536) (h5 : pr ≤ 63)
    (hh : Holds p.rd 48 (le16 ro ++ le16 rs ++ le16 so ++ le16 ss ++ [pr, hi])) :
    (mailboxConfig m p).1 = .ok ⟨ro, rs, so, ss, pr⟩ := by
  have hb := (by decide : ∀ e, e ≤ 63 → fromBits Gen.Eeprom.MAILBOX_PROTOCOLS_MASK e = some e) _ h5
  rw [mailboxConfig, readAt_ok m p hcs _ 10 (by decide), show slice p.rd (2 * Gen.Eeprom.MAILBOX_WORD_ADDR) 10 = _ from hh,
    parseMailbox,
    show (le16 ro ++ le16 rs ++ le16 so ++ le16 ss ++ [pr, hi]).getD 8 0 = pr from rfl, hb]
  exact congrArg (fun x : Mailbox => Outcome.ok x) (Mailbox.mk.injEq .. ▸
    ⟨rd16_le16_append ro h1 _, rd16_le16_append rs h2 _, rd16_le16_append so h3 _, rd16_le16_append ss h4 _, rfl⟩)

/-- **Strings** (`find_string`, which `name()` / `description()` use): for a Strings category (type 10) holding
    `count, (len, bytes)*` and padding, index `i` (1-based, within the table) whose string fits `N` returns
    that string with NUL bytes removed and non-ASCII bytes replaced by `?`. -/
theorem find_string_roundtrip (m : Mode) (p : Prov) (hcs : 4 ≤ p.cs) (hdr : List Nat) (pre post : List Cat)
    (before : List (List Nat)) (t : List Nat) (after : List (List Nat)) (pad : List Nat) (N : Nat)
    (himg : HoldsImage p (encodeSii hdr (pre ++
      ⟨10, (before ++ t :: after).length :: ((before ++ t :: after).flatMap encStr) ++ pad⟩ :: post)))
    (hhdr : hdr.length = 128)
    (hpre : ∀ x ∈ pre, x.WF ∧ catOf x.type ≠ 10 ∧ catOf x.type ≠ Gen.Eeprom.CAT_END)
    (hwf : (⟨10, (before ++ t :: after).length :: ((before ++ t :: after).flatMap encStr) ++ pad⟩ : Cat).WF)
    (hne : empties pre < 32) (hN : t.length ≤ N)
    (hsize : 128 + (encCats pre).length + 4 +
      ((before ++ t :: after).length :: ((before ++ t :: after).flatMap encStr) ++ pad).length < 131072) :
    (findString m p N (before.length + 1)).1 = .ok (some (cleanString t)) := by
  generalize hbody : (before ++ t :: after).length :: ((before ++ t :: after).flatMap encStr) ++ pad = body
    at himg hwf hsize
  have hbl : 1 ≤ body.length := by rw [← hbody]; exact Nat.le_add_left _ _
  obtain ⟨hcat, hb⟩ := category_found_at m p hcs pre 10 body _ Gen.Eeprom.CAT_STRINGS (holds_split himg hhdr) hpre
    (by decide) (by decide) hwf.2.1 (by have := hwf.2.1; simp only at this; split <;> omega) (by omega) (by omega)
  generalize 128 + (encCats pre).length + 4 = s at hcat hb hsize
  have hlen : body.length = 1 + (before.flatMap encStr).length + (1 + t.length)
      + ((after.flatMap encStr).length + pad.length) := by
    simp only [← hbody, List.flatMap_append, List.flatMap_cons, encStr, List.length_append, List.length_cons]
    omega
  simp only [← hbody, List.flatMap_append, List.flatMap_cons, encStr, List.cons_append, List.append_assoc] at hb
  -- the count byte, the strings in front, the length byte, the string
  obtain ⟨hcount, hb⟩ := hb.cons
  obtain ⟨hlb, hb'⟩ := hb.append.2.cons
  rw [findString, if_neg (by omega), bind_fst_ok _ hcat]
  simp only
  rw [bind_fst_ok _ (readByte_ok m p (by omega) ⟨s, s + body.length⟩ (by simp only; omega) (by simp only; omega)).1,
    hcount, if_neg (by simp only [List.length_append, List.length_cons]; omega), Nat.add_sub_cancel,
    bind_fst_ok _ (skipStrings_enc m p (by omega) before ⟨s + 1, s + body.length⟩ _ hb (by simp)
      (by simp only [List.length_append, List.length_cons]; omega) (by simp only; omega)),
    bind_fst_ok _ (readByte_ok m p (by omega) _ (by simp only; omega) (by simp only; omega)).1, hlb,
    if_neg (by omega),
    bind_fst_ok _ (eofToOverrun_ok (readExact_ok m p (by omega) _ t.length (by simp only; omega)
      (by simp only; omega)).1).1]
  exact congrArg (fun x => Outcome.ok (some (cleanString x))) hb'.append.1

/-- Repaired in /repo (before: the code tested `search_index > num_strings` after making the index 0-based,
    so index = count + 1 decoded the pad byte as a length and returned `Some("")`): with the two strings "A",
    "B", index 3 and every larger index are absent. -/
theorem find_string_one_past_fixed :
    let cats : List Cat := [⟨10, [2, 1, 0x41, 1, 0x42, 0]⟩]
    let p : Prov := ⟨imgRd (encodeSii (List.replicate 128 0) cats) 255, 4⟩
    (findString .checked p 16 2).1 = .ok (some [0x42]) ∧
    (findString .checked p 16 3).1 = .ok none ∧
    (findString .wrapping p 16 3).1 = .ok none ∧
    (findString .checked p 16 4).1 = .ok none := by
  decide +kernel

/-- A TxPDO or RxPDO category holding the encodings of well-formed PDO descriptions, anywhere in the category
    list: the parser returns one `Pdo` per description up to the capacity of the `heapless::Vec`, and refuses
    more. -/
theorem pdos_image (m : Mode) (p : Prov) (hcs : 4 ≤ p.cs) (hdr : List Nat) (pre post : List Cat)
    (cat : Nat) (hdir : cat = 50 ∨ cat = 51) (ds : List PdoDesc)
    (himg : HoldsImage p (encodeSii hdr (pre ++ ⟨cat, ds.flatMap encPdo⟩ :: post))) (hhdr : hdr.length = 128)
    (hpre : ∀ x ∈ pre, x.WF ∧ catOf x.type ≠ cat ∧ catOf x.type ≠ Gen.Eeprom.CAT_END)
    (hds : ∀ d ∈ ds, d.WF) (hne : empties pre + (if ds.length = 0 then 1 else 0) < 32)
    (hsize : 128 + (encCats pre).length + 4 + (ds.flatMap encPdo).length < 131072) :
    (pdos m p cat).1 = if ds.length ≤ 64 then .ok (ds.map pdoOf) else .err (.capacity 2) := by
  have hl := encPdos_length ds
  obtain ⟨hcat, hbody⟩ := category_found_at m p hcs pre cat (ds.flatMap encPdo) _ cat (holds_split himg hhdr) hpre
    (by rcases hdir with rfl | rfl <;> decide) (by omega) (by omega) (by split at hne <;> split <;> omega)
    (by omega) (by omega)
  rw [pdos, bind_fst_ok _ (items_some hcat),
    pdoLoop_enc m p (by omega) ds _ [] _ hds hbody rfl (by simp only; omega) (Nat.zero_le _) (by decide)]
  simp only [List.length_nil, Nat.zero_add, List.nil_append]
  rfl

/-- **PDO lists** (`maindevice_read_pdos` = TxPDO, category 50; `maindevice_write_pdos` = RxPDO, category 51).
    For EVERY list of at most 64 well-formed PDO descriptions (each: index, sync manager, DC sync byte, name
    string index, flags and up to 255 entries of index, sub-index, name string index, data type, bit length,
    flags — 8 bytes per PDO header and 8 per entry, ETG2010 Table 14) stored as a TxPDO or RxPDO category
    anywhere in the category list (`pre` and `post` arbitrary, unknown vendor categories included), any chunk
    size ≥ 4 and both build modes: the parser returns exactly one `Pdo` per description, in order, carrying its
    index, its number of entries, its sync manager and the SUM of its entries' bit lengths (everything the real
    `Pdo` keeps); no error, no panic — the `u16` sum cannot overflow (≤ 255 · 255). -/
theorem pdos_roundtrip (m : Mode) (p : Prov) (hcs : 4 ≤ p.cs) (hdr : List Nat) (pre post : List Cat)
    (cat : Nat) (hdir : cat = 50 ∨ cat = 51) (ds : List PdoDesc)
    (himg : HoldsImage p (encodeSii hdr (pre ++ ⟨cat, ds.flatMap encPdo⟩ :: post))) (hhdr : hdr.length = 128)
    (hpre : ∀ x ∈ pre, x.WF ∧ catOf x.type ≠ cat ∧ catOf x.type ≠ Gen.Eeprom.CAT_END)
    (hds : ∀ d ∈ ds, d.WF) (hn : ds.length ≤ 64)
    (hne : empties pre + (if ds.length = 0 then 1 else 0) < 32)
    (hsize : 128 + (encCats pre).length + 4 + (ds.flatMap encPdo).length < 131072) :
    (pdos m p cat).1
      = .ok (ds.map fun d => ⟨d.index, d.entries.length, d.sm, (d.entries.map fun e => e.bitLen).sum⟩) :=
  (pdos_image m p hcs hdr pre post cat hdir ds himg hhdr hpre hds hne hsize).trans (if_pos hn)

/-- **Above the capacity**: a category with more than 64 (well-formed) PDOs is refused with `Capacity(Pdo)` —
    in both build modes, never a panic, never a truncated list. (The 65th PDO's entries are read first; the
    `push` that follows fails.) -/
theorem pdos_over_capacity (m : Mode) (p : Prov) (hcs : 4 ≤ p.cs) (hdr : List Nat) (pre post : List Cat)
    (cat : Nat) (hdir : cat = 50 ∨ cat = 51) (ds : List PdoDesc)
    (himg : HoldsImage p (encodeSii hdr (pre ++ ⟨cat, ds.flatMap encPdo⟩ :: post))) (hhdr : hdr.length = 128)
    (hpre : ∀ x ∈ pre, x.WF ∧ catOf x.type ≠ cat ∧ catOf x.type ≠ Gen.Eeprom.CAT_END)
    (hds : ∀ d ∈ ds, d.WF) (hn : 64 < ds.length) (hne : empties pre < 32)
    (hsize : 128 + (encCats pre).length + 4 + (ds.flatMap encPdo).length < 131072) :
    (pdos m p cat).1 = .err (.capacity 2) :=
  (pdos_image m p hcs hdr pre post cat hdir ds himg hhdr hpre hds (by rw [if_neg (by omega)]; exact hne) hsize).trans
    (if_neg (Nat.not_le.2 hn))

/-- **No PDO category of that direction**: the empty list (EK1100-style devices). -/
theorem pdos_absent (m : Mode) (p : Prov) (hcs : 4 ≤ p.cs) (hdr : List Nat) (cats : List Cat)
    (cat : Nat) (hdir : cat = 50 ∨ cat = 51)
    (himg : HoldsImage p (encodeSii hdr cats)) (hhdr : hdr.length = 128)
    (hall : ∀ x ∈ cats, x.WF ∧ catOf x.type ≠ cat ∧ catOf x.type ≠ Gen.Eeprom.CAT_END)
    (hne : empties cats < 32) (hsize : 128 + (encCats cats).length + 4 < 131072) :
    (pdos m p cat).1 = .ok [] := by
  have hcat := category_absent m p hcs hdr cats cat himg hhdr hall
    (by rcases hdir with rfl | rfl <;> decide) hne hsize
  rw [pdos, items, bind_fst_ok _ ((bind_fst_ok _ hcat).trans rfl)]
  exact pdoLoop_enc m p (by omega) [] ⟨0, 0⟩ [] _ (fun _ h => nomatch h) rfl rfl (by decide)
    (by decide) (by decide)

/-- **General category** (type 30). For every well-formed description stored anywhere in the category list, the
    parser recovers every field `SiiGeneral` has: the four string indices, the CoE detail bits, the FoE and EoE
    enables (any non-zero byte is "enabled"), the flags, the EBus current (as the `u16` pattern of the `i16`),
    the four port kinds (values 5..15 read as unused) and the physical memory address. The reserved bytes and
    the tail behind byte 18 are ignored. -/
theorem general_roundtrip (m : Mode) (p : Prov) (hcs : 4 ≤ p.cs) (hdr : List Nat) (pre post : List Cat)
    (g : GeneralDesc)
    (himg : HoldsImage p (encodeSii hdr (pre ++ ⟨30, encGeneral g⟩ :: post))) (hhdr : hdr.length = 128)
    (hpre : ∀ x ∈ pre, x.WF ∧ catOf x.type ≠ 30 ∧ catOf x.type ≠ Gen.Eeprom.CAT_END)
    (hg : g.WF) (hne : empties pre < 32)
    (hsize : 128 + (encCats pre).length + 4 + (encGeneral g).length < 131072) :
    (general m p).1
      = .ok { groupIdx := g.groupIdx, imageIdx := g.imageIdx, orderIdx := g.orderIdx, nameIdx := g.nameIdx,
              coeDetails := g.coeDetails, foe := decide (g.foe ≠ 0), eoe := decide (g.eoe ≠ 0), flags := g.flags,
              ebusCurrent := g.ebusCurrent,
              ports := [portKind g.port0, portKind g.port1, portKind g.port2, portKind g.port3],
              physAddr := g.physAddr } := by
  have hl := encGeneral_length g
  have := hg.2.2.2.2.2.2.2.2.2.2.2.2.2.2.2.2.2.2
  obtain ⟨hcat, hbody⟩ := category_found_at m p hcs pre 30 (encGeneral g) _ Gen.Eeprom.CAT_GENERAL
    (holds_split himg hhdr) hpre (by decide) (by decide) (by omega) (by split <;> omega) (by omega) (by omega)
  have h18 : slice p.rd (128 + (encCats pre).length + 4) 18 = (encGeneral g).take 18 := by
    have := congrArg (List.take 18) hbody
    rwa [slice_take, hl, show min 18 (18 + g.tail.length) = 18 by omega] at this
  rw [general, bind_fst_ok _ hcat]
  simp only
  rw [bind_fst_ok _ (eofToOverrun_ok (readExact_ok m p (by omega) _ 18 (by simp only; omega) (by simp only; omega)).1).1]
  simp only
  rw [h18, parseGeneral_enc g hg]
  rfl

/-- **No General category**: `general` answers `NoCategory`. -/
theorem general_absent (m : Mode) (p : Prov) (hcs : 4 ≤ p.cs) (hdr : List Nat) (cats : List Cat)
    (himg : HoldsImage p (encodeSii hdr cats)) (hhdr : hdr.length = 128)
    (hall : ∀ x ∈ cats, x.WF ∧ catOf x.type ≠ 30 ∧ catOf x.type ≠ Gen.Eeprom.CAT_END)
    (hne : empties cats < 32) (hsize : 128 + (encCats cats).length + 4 < 131072) :
    (general m p).1 = .err .noCategory := by
  have hcat := category_absent m p hcs hdr cats 30 himg hhdr hall (by decide) hne hsize
  unfold general
  simp only [Gen.Eeprom.CAT_GENERAL]
  rw [bind_fst_ok _ hcat]
  rfl

/-- **Name** (`SubDevice::name`, `device_name`): the cleaned string that the General category's ORDER index
    (ETG2010 Table 7 `OrderIdx`, which is what the code documents as the device name) designates in the Strings
    category. The two categories may come in either order, anywhere in the category list: the same list is split
    once around General (`pre`, `post`) and once around Strings (`preS`, `postS`). -/
theorem name_roundtrip (m : Mode) (p : Prov) (hcs : 4 ≤ p.cs) (hdr : List Nat) (cats : List Cat)
    (himg : HoldsImage p (encodeSii hdr cats)) (hhdr : hdr.length = 128)
    (pre post : List Cat) (g : GeneralDesc) (hG : cats = pre ++ ⟨30, encGeneral g⟩ :: post)
    (hpre : ∀ x ∈ pre, x.WF ∧ catOf x.type ≠ 30 ∧ catOf x.type ≠ Gen.Eeprom.CAT_END)
    (hg : g.WF) (hne : empties pre < 32)
    (hsize : 128 + (encCats pre).length + 4 + (encGeneral g).length < 131072)
    (preS postS : List Cat) (before : List (List Nat)) (t : List Nat) (after : List (List Nat)) (pad : List Nat)
    (N : Nat)
    (hS : cats = preS ++
      ⟨10, (before ++ t :: after).length :: ((before ++ t :: after).flatMap encStr) ++ pad⟩ :: postS)
    (hpreS : ∀ x ∈ preS, x.WF ∧ catOf x.type ≠ 10 ∧ catOf x.type ≠ Gen.Eeprom.CAT_END)
    (hwf : (⟨10, (before ++ t :: after).length :: ((before ++ t :: after).flatMap encStr) ++ pad⟩ : Cat).WF)
    (hneS : empties preS < 32) (hN : t.length ≤ N)
    (hsizeS : 128 + (encCats preS).length + 4 +
      ((before ++ t :: after).length :: ((before ++ t :: after).flatMap encStr) ++ pad).length < 131072)
    (hidx : g.orderIdx = before.length + 1) :
    (deviceName m p N).1 = .ok (some (cleanString t)) := by
  have hgen := general_roundtrip m p hcs hdr pre post g (hG ▸ himg) hhdr hpre hg hne hsize
  have hstr := find_string_roundtrip m p hcs hdr preS postS before t after pad N (hS ▸ himg) hhdr hpreS hwf hneS hN
    hsizeS
  refine deviceName_of_general m p N _ _ hgen ?_
  show (findString m p N g.orderIdx).1 = _
  rw [hidx]; exact hstr

/-- **Description** (`SubDevice::description`, `device_description`): the cleaned string that the General
    category's NAME index designates in the Strings category; categories in either order, as above. -/
theorem description_roundtrip (m : Mode) (p : Prov) (hcs : 4 ≤ p.cs) (hdr : List Nat) (cats : List Cat)
    (himg : HoldsImage p (encodeSii hdr cats)) (hhdr : hdr.length = 128)
    (pre post : List Cat) (g : GeneralDesc) (hG : cats = pre ++ ⟨30, encGeneral g⟩ :: post)
    (hpre : ∀ x ∈ pre, x.WF ∧ catOf x.type ≠ 30 ∧ catOf x.type ≠ Gen.Eeprom.CAT_END)
    (hg : g.WF) (hne : empties pre < 32)
    (hsize : 128 + (encCats pre).length + 4 + (encGeneral g).length < 131072)
    (preS postS : List Cat) (before : List (List Nat)) (t : List Nat) (after : List (List Nat)) (pad : List Nat)
    (N : Nat)
    (hS : cats = preS ++
      ⟨10, (before ++ t :: after).length :: ((before ++ t :: after).flatMap encStr) ++ pad⟩ :: postS)
    (hpreS : ∀ x ∈ preS, x.WF ∧ catOf x.type ≠ 10 ∧ catOf x.type ≠ Gen.Eeprom.CAT_END)
    (hwf : (⟨10, (before ++ t :: after).length :: ((before ++ t :: after).flatMap encStr) ++ pad⟩ : Cat).WF)
    (hneS : empties preS < 32) (hN : t.length ≤ N)
    (hsizeS : 128 + (encCats preS).length + 4 +
      ((before ++ t :: after).length :: ((before ++ t :: after).flatMap encStr) ++ pad).length < 131072)
    (hidx : g.nameIdx = before.length + 1) :
    (deviceDescription m p N).1 = .ok (some (cleanString t)) := by
  have hgen := general_roundtrip m p hcs hdr pre post g (hG ▸ himg) hhdr hpre hg hne hsize
  have hstr := find_string_roundtrip m p hcs hdr preS postS before t after pad N (hS ▸ himg) hhdr hpreS hwf hneS hN
    hsizeS
  refine deviceDescription_of_general m p N _ _ hgen ?_
  show (findString m p N g.nameIdx).1 = _
  rw [hidx]; exact hstr

/-- **Absent, index 0**: a General category whose order (resp. name) index is 0 — "no string" in EtherCAT —
    gives no name (resp. no description), whatever the Strings category holds. -/
theorem name_description_index_zero (m : Mode) (p : Prov) (hcs : 4 ≤ p.cs) (hdr : List Nat) (pre post : List Cat)
    (g : GeneralDesc) (N : Nat)
    (himg : HoldsImage p (encodeSii hdr (pre ++ ⟨30, encGeneral g⟩ :: post))) (hhdr : hdr.length = 128)
    (hpre : ∀ x ∈ pre, x.WF ∧ catOf x.type ≠ 30 ∧ catOf x.type ≠ Gen.Eeprom.CAT_END)
    (hg : g.WF) (hne : empties pre < 32)
    (hsize : 128 + (encCats pre).length + 4 + (encGeneral g).length < 131072) :
    (g.orderIdx = 0 → (deviceName m p N).1 = .ok none) ∧
    (g.nameIdx = 0 → (deviceDescription m p N).1 = .ok none) := by
  have hgen := general_roundtrip m p hcs hdr pre post g himg hhdr hpre hg hne hsize
  constructor
  · intro h0
    refine deviceName_of_general m p N _ _ hgen ?_
    show (findString m p N g.orderIdx).1 = _
    rw [h0, findString_zero]; rfl
  · intro h0
    refine deviceDescription_of_general m p N _ _ hgen ?_
    show (findString m p N g.nameIdx).1 = _
    rw [h0, findString_zero]; rfl

/-- **Absent, no General category**: the name is absent; the description is the ERROR `NoCategory` (the code
    uses `ignore_no_category` for the name only; `SubDevice::description` maps this error to an empty string
    one level up). -/
theorem name_description_no_general (m : Mode) (p : Prov) (hcs : 4 ≤ p.cs) (hdr : List Nat) (cats : List Cat)
    (N : Nat) (himg : HoldsImage p (encodeSii hdr cats)) (hhdr : hdr.length = 128)
    (hall : ∀ x ∈ cats, x.WF ∧ catOf x.type ≠ 30 ∧ catOf x.type ≠ Gen.Eeprom.CAT_END)
    (hne : empties cats < 32) (hsize : 128 + (encCats cats).length + 4 < 131072) :
    (deviceName m p N).1 = .ok none ∧ (deviceDescription m p N).1 = .err .noCategory := by
  have hgen := general_absent m p hcs hdr cats himg hhdr hall hne hsize
  constructor
  · unfold deviceName
    rw [bind_fst_ok _ (ignoreNoCategory_nocat hgen)]
    rfl
  · unfold deviceDescription
    rw [bind_eq_err _ hgen]

/-- **Absent, no Strings category**: with a General category but no Strings category anywhere, name and
    description are absent whatever the indices say. -/
theorem name_description_no_strings (m : Mode) (p : Prov) (hcs : 4 ≤ p.cs) (hdr : List Nat) (pre post : List Cat)
    (g : GeneralDesc) (N : Nat)
    (himg : HoldsImage p (encodeSii hdr (pre ++ ⟨30, encGeneral g⟩ :: post))) (hhdr : hdr.length = 128)
    (hpre : ∀ x ∈ pre, x.WF ∧ catOf x.type ≠ 30 ∧ catOf x.type ≠ Gen.Eeprom.CAT_END)
    (hg : g.WF) (hne : empties pre < 32)
    (hsize : 128 + (encCats pre).length + 4 + (encGeneral g).length < 131072)
    (hall : ∀ x ∈ pre ++ ⟨30, encGeneral g⟩ :: post,
      x.WF ∧ catOf x.type ≠ 10 ∧ catOf x.type ≠ Gen.Eeprom.CAT_END)
    (hneS : empties (pre ++ ⟨30, encGeneral g⟩ :: post) < 32)
    (hsizeS : 128 + (encCats (pre ++ ⟨30, encGeneral g⟩ :: post)).length + 4 < 131072) :
    (deviceName m p N).1 = .ok none ∧ (deviceDescription m p N).1 = .ok none := by
  have hgen := general_roundtrip m p hcs hdr pre post g himg hhdr hpre hg hne hsize
  have hcat := category_absent m p hcs hdr _ 10 himg hhdr hall (by decide) hneS hsizeS
  exact ⟨deviceName_of_general m p N _ _ hgen (findString_no_strings m p N _ hcat),
    deviceDescription_of_general m p N _ _ hgen (findString_no_strings m p N _ hcat)⟩

example : (readSeq .checked ⟨fun a => a, 4⟩ ⟨3, 10⟩ [2, 0, 4, 9, 1]).1
    = .ok ([[3, 4], [], [5, 6, 7, 8], [9], []], ⟨10, 10⟩) := by decide +kernel

example : (readSeq .wrapping ⟨fun a => 2 * a, 8⟩ ⟨65530, 65535⟩ [3, 3]).1
    = .ok ([[131060, 131062, 131064], [131066, 131068]], ⟨65535, 65535⟩) := by decide +kernel

/-! ## T1 obligations: the literal offsets / numbers used by the model and the statements above are the ones
   regenerated from /repo on this run (a changed layout or constant breaks these) -/

theorem t1_layouts :
    Gen.Eeprom.layout_SyncManager
      = (8, [("start_addr", 0, 2), ("length", 2, 2), ("control", 4, 1), ("enable", 6, 1), ("usage_type", 7, 1)]) ∧
    Gen.Eeprom.layout_Pdo = (8, [("index", 0, 2), ("num_entries", 2, 1), ("sync_manager", 3, 1)]) ∧
    Gen.Eeprom.layout_PdoEntry = (8, [("data_length_bits", 5, 1)]) ∧
    Gen.Eeprom.layout_FmmuEx = (3, [("sync_manager", 1, 1)]) ∧
    Gen.Eeprom.layout_DefaultMailbox
      = (10, [("subdevice_receive_offset", 0, 2), ("subdevice_receive_size", 2, 2), ("subdevice_send_offset", 4, 2),
              ("subdevice_send_size", 6, 2), ("supported_protocols", 8, 2)]) ∧
    Gen.Eeprom.layout_SiiGeneral
      = (18, [("group_string_idx", 0, 1), ("image_string_idx", 1, 1), ("order_string_idx", 2, 1),
              ("name_string_idx", 3, 1), ("coe_details", 5, 1), ("foe_enabled", 6, 1), ("eoe_enabled", 7, 1),
              ("flags", 11, 1), ("ebus_current", 12, 2), ("ports", 14, 2), ("physical_memory_addr", 16, 2)]) ∧
    Gen.Eeprom.layout_SubDeviceIdentity
      = (16, [("vendor_id", 0, 4), ("product_id", 4, 4), ("revision", 8, 4), ("serial", 12, 4)]) ∧
    Gen.Eeprom.bits_Control
      = [("operation_mode", 0, 2), ("direction", 2, 2), ("ecat_event_enable", 4, 1),
         ("dls_user_event_enable", 5, 1), ("watchdog_enable", 6, 1)] :=
  ⟨rfl, rfl, rfl, rfl, rfl, rfl, rfl, rfl⟩

theorem t1_constants :
    Gen.Eeprom.SII_FIRST_CATEGORY_START = 64 ∧ Gen.Eeprom.CAT_STRINGS = 10 ∧ Gen.Eeprom.CAT_GENERAL = 30 ∧
    Gen.Eeprom.CAT_FMMU = 40 ∧ Gen.Eeprom.CAT_SYNC_MANAGER = 41 ∧ Gen.Eeprom.CAT_FMMU_EX = 42 ∧
    Gen.Eeprom.CAT_TX_PDO = 50 ∧ Gen.Eeprom.CAT_RX_PDO = 51 ∧ Gen.Eeprom.CAT_END = 65535 ∧
    Gen.Eeprom.IDENTITY_WORD_ADDR = 8 ∧ Gen.Eeprom.MAILBOX_WORD_ADDR = 24 ∧ Gen.Eeprom.SIZE_WORD_ADDR = 62 ∧
    Gen.Eeprom.EMPTY_CATEGORY_LIMIT = 32 ∧ Gen.Eeprom.FMMU_READ_BUF = 16 ∧
    Gen.Eeprom.ADDRESS_SPACE_BYTES = Eeprom.ADDRESS_SPACE_BYTES := by
  decide +kernel

/-- A complete small image: Strings, a vendor category, SyncManager, FMMU, End; every hypothesis of the round
    trips is satisfied by it and the parsers return the described values. -/
def demoCats : List Cat :=
  [⟨10, [2, 2, 0x45, 0x4c, 1, 0xb5]⟩, ⟨0x1234, [9, 9]⟩,
   ⟨41, encSm ⟨0x1000, 128, 0x26, 0, 1, 1⟩ ++ encSm ⟨0x1080, 128, 0x22, 0, 1, 2⟩⟩, ⟨40, [1, 2, 3, 255]⟩]

def demoProv : Prov := ⟨imgRd (encodeSii (List.replicate 128 7) demoCats) 255, 8⟩

example : (category .checked demoProv 41).1 = .ok (some ⟨148, 164⟩) := by decide +kernel
example : (category .wrapping demoProv 50).1 = .ok none := by decide +kernel
example : (syncManagers .checked demoProv).1
    = .ok [⟨0x1000, 128, 0x26, 1, 1⟩, ⟨0x1080, 128, 0x22, 1, 2⟩] := by decide +kernel
example : (fmmus .checked demoProv).1 = .ok [1, 2, 3, 0] := by decide +kernel
example : (findString .checked demoProv 64 1).1 = .ok (some [0x45, 0x4c]) := by decide +kernel
example : (findString .checked demoProv 64 2).1 = .ok (some [63]) := by decide +kernel
example : (identity .checked demoProv).1 = .ok (117901063, 117901063, 117901063, 117901063) := by decide +kernel

/-- Two TxPDOs of 2 and 3 entries (bit lengths 1+7 and 16+32+255), with name indices, a DC sync byte, flags. -/
def demoTxPdos : List PdoDesc :=
  [⟨0x1a00, 3, 0, 5, 0x0011, [⟨0x6000, 1, 6, 1, 1, 0⟩, ⟨0x6000, 2, 7, 1, 7, 0⟩]⟩,
   ⟨0x1a01, 3, 1, 8, 0x8000, [⟨0x6010, 1, 0, 6, 16, 0⟩, ⟨0x6010, 2, 0, 7, 32, 0xffff⟩, ⟨0, 0, 0, 0, 255, 0⟩]⟩]

/-- One RxPDO without entries and one with a single 8-bit entry. -/
def demoRxPdos : List PdoDesc := [⟨0x1600, 2, 0, 0, 0, []⟩, ⟨0x1601, 2, 0, 0, 0, [⟨0x7000, 1, 0, 5, 8, 0⟩]⟩]

/-- Order index 1 ("EL"), name index 2 (one non-ASCII byte), EBus current -2000, ports EBUS / unused / MII / 9. -/
def demoGeneral : GeneralDesc :=
  { groupIdx := 2, imageIdx := 0, orderIdx := 1, nameIdx := 2, reserved4 := 0xaa, coeDetails := 0x23, foe := 0,
    eoe := 0xff, soeChannels := 1, ds402Channels := 2, sysmanClass := 3, flags := 0x11, ebusCurrent := 63536,
    port0 := 3, port1 := 0, port2 := 1, port3 := 9, physAddr := 0x1234, tail := List.replicate 14 0 }

/-- Strings first, TxPDO, a vendor category, General BEHIND the PDOs, RxPDO. -/
def demoCats2 : List Cat :=
  [⟨10, [2, 2, 0x45, 0x4c, 1, 0xb5]⟩, ⟨50, demoTxPdos.flatMap encPdo⟩, ⟨0x1234, [9, 9]⟩,
   ⟨30, encGeneral demoGeneral⟩, ⟨51, demoRxPdos.flatMap encPdo⟩]

def demoProv2 : Prov := ⟨imgRd (encodeSii (List.replicate 128 7) demoCats2) 255, 4⟩

example : (∀ d ∈ demoTxPdos, d.WF) ∧ (∀ d ∈ demoRxPdos, d.WF) ∧ demoGeneral.WF := by decide +kernel
example : (pdos .checked demoProv2 50).1 = .ok [⟨0x1a00, 2, 3, 8⟩, ⟨0x1a01, 3, 3, 303⟩] := by decide +kernel
example : (pdos .wrapping demoProv2 51).1 = .ok [⟨0x1600, 0, 2, 0⟩, ⟨0x1601, 1, 2, 8⟩] := by decide +kernel
example : (pdos .checked demoProv 50).1 = .ok [] := by decide +kernel
example : (general .checked demoProv2).1
    = .ok ⟨2, 0, 1, 2, 0x23, false, true, 0x11, 63536, [3, 0, 1, 0], 0x1234⟩ := by decide +kernel
example : (general .checked demoProv).1 = .err .noCategory := by decide +kernel
example : (deviceName .checked demoProv2 64).1 = .ok (some [0x45, 0x4c]) := by decide +kernel
example : (deviceDescription .wrapping demoProv2 64).1 = .ok (some [63]) := by decide +kernel
example : (deviceName .checked demoProv 64).1 = .ok none := by decide +kernel
example : (deviceDescription .checked demoProv 64).1 = .err .noCategory := by decide +kernel

/-- The hypotheses of `pdos_roundtrip` are satisfiable: the theorem itself, instantiated on the image above. -/
example : (pdos .checked demoProv2 50).1 = .ok [⟨0x1a00, 2, 3, 8⟩, ⟨0x1a01, 3, 3, 303⟩] :=
  pdos_roundtrip .checked demoProv2 (by decide) (List.replicate 128 7) (demoCats2.take 1) (demoCats2.drop 2) 50
    (Or.inl rfl) demoTxPdos (holdsImage_imgRd _ _ _) (by simp) (by decide) (by decide) (by decide) (by decide)
    (by decide)

/-- ... and those of `name_roundtrip` (General behind Strings; the same list split twice). -/
example : (deviceName .checked demoProv2 64).1 = .ok (some (cleanString [0x45, 0x4c])) :=
  name_roundtrip .checked demoProv2 (by decide) (List.replicate 128 7) demoCats2 (holdsImage_imgRd _ _ _) (by simp)
    (demoCats2.take 3) (demoCats2.drop 4) demoGeneral rfl (by decide) (by decide) (by decide) (by decide)
    [] (demoCats2.drop 1) [] [0x45, 0x4c] [[0xb5]] [] 64 rfl (by decide) (by decide) (by decide) (by decide)
    (by decide) rfl

-- 65 PDOs (without entries): one more than the `heapless::Vec` holds.
set_option maxRecDepth 100000 in
example : (pdos .checked
    ⟨imgRd (encodeSii (List.replicate 128 0) [⟨50, (List.replicate 65 (⟨0x1a00, 0, 0, 0, 0, []⟩ : PdoDesc)).flatMap encPdo⟩]) 255, 8⟩
    50).1 = .err (.capacity 2) := by decide +kernel

end Ec.C12
