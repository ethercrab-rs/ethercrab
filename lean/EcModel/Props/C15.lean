/-
  C15 — SDO transfers deliver exactly the object's bytes, whatever the transfer type.

  Subject: the client model `EcModel/Coe.lean` (hand translation of src/mailbox/coe, constants regenerated from /repo)
  run against the SPECIFICATION server `EcModel/CoeServer.lean` (ETG1000.6 §5.6.2, cross-checked with SOEM / IgH),
  which may choose freely between expedited / normal / segmented upload, how much of the data the initiate response
  carries, and every segment size.

  What holds of the current code, for ALL objects / indices / counters / mailbox sizes >= 16 / <= 10 stale messages:
    sdo_read_exact_partial   expedited and normal uploads deliver exactly the object's bytes to the destination's decoder
    sdo_write_delivers       values of 1..4 bytes: request carries index, sub-index, size field, data; the device stores them
    array_helpers_consistent sdo_write_array followed by sdo_read_array returns the values; count in sub-index 0
    abort_reported, emergency_reported (since fix-c16-emergency), wrong_object_reported, too_long_reported, counter_cycles
  What does NOT hold (each with a counterexample theorem; witnesses replayed on the real code by harness/src/bin/c15.rs):
    c15/segment-response-scs0            the standard's Upload Segment Response (command specifier 0) does not decode:
                                         `CoeCommand` has no variant 0 -> Error::Wire(InvalidValue). EVERY segmented upload fails.
    c15/segment-data-offset              even for a device answering with command 3, segment data is read from offset 12
                                         (`trim_front(HeadersRaw::PACKED_LEN)`) instead of 9: three bytes late.
    c15/segmented-initiate-data-ignored  the data carried by the initiate response of a segmented upload is dropped
                                         (`total_len` starts at 0).
    c15/word-array-buffer                `[u16; N]::buffer()` is N bytes for 2N bytes of data: a normal upload of the
                                         matching object is refused as TooLong (`bufLen < obj.length` in the theorems).
    c15/write-zero-length                a value of 0 bytes is sent as "4 bytes" (size field 0).
-/
import EcModel.Lemmas.CoeServe
import EcModel.Lemmas.CoeTotal
import EcModel.Lemmas.CoeInfo

namespace Ec.C15
open Ec.Coe Ec.Gen.Coe Ec.CoeSrv

/-! ### sdo_read_exact -/

/-- **sdo_read_exact (partial: expedited and normal mode).** For every dictionary, every object (the bytes the server
    holds for index / sub-index, incl. complete access) of any size that the server answers expedited (1..4 bytes) or
    normal (object + 16 ≤ mailbox), every mailbox size 16..65535, every value of both mailbox counters, up to ten stale
    messages of arbitrary content left in the OUT mailbox, both build profiles: the bytes `sdo_read` hands to the
    destination type's decoder are exactly the object's bytes (normal mode: for destinations whose buffer holds them). -/
theorem sdo_read_exact_partial (srv : Server) (cfg : Cfg) (fuel bufLen index ctr : Nat) (access : SubIndex)
    (stale : List (List Nat)) (obj : List Nat) (hm : cfg.hasMailbox = true) (hst : stale.length ≤ 10)
    (hrm : cfg.rmbx = srv.rmbx) (h16 : 16 ≤ cfg.rmbx) (hr : cfg.rmbx < 65536) (hw : 12 ≤ cfg.wmbx) (hi : index < 65536)
    (hs : access.subIndex < 256) (he : srv.emergencies = [])
    (hobj : srv.objectBytes index access.subIndex access.completeAccess = .ok obj)
    (hmode : (srv.mode = .auto ∧ 1 ≤ obj.length ∧ obj.length ≤ 4) ∨
      ((srv.mode = .normal ∨ (srv.mode = .auto ∧ (obj.length = 0 ∨ 4 < obj.length))) ∧ obj.length + 16 ≤ cfg.rmbx ∧
        obj.length ≤ bufLen ∧ bufLen < 4294967296)) :
    (sdoRead serverWorld cfg fuel bufLen index access (St.init ctr srv stale)).1 = .ok obj := by
  rcases hmode with ⟨hma, h1, h4⟩ | ⟨hmn, hfit, hbuf, hb32⟩
  · rw [sdoRead_expedited_reply serverWorld cfg (St.init ctr srv stale) hm hst h16 hi h1 h4
      (serve_upload hw hi hs he (upload_expedited hobj hma h1 h4))]
  · rw [sdoRead_normal_reply serverWorld cfg (St.init ctr srv stale) hm hst hfit hr hi (by omega)
      (serve_upload hw hi hs he (upload_normal (srv := srv) hobj hmn (by rw [← hrm]; exact hfit))),
      if_neg (by rw [Nat.mod_eq_of_lt hb32]; omega), if_pos (Nat.le_refl _)]

/-- A 10-byte object, 32-byte mailbox, segmented: `first` bytes in the initiate response, then segments of 4 and 6. -/
def srvSeg (scs first : Nat) : Server :=
  { dict := [((0x2000, 0), [1, 2, 3, 4, 5, 6, 7, 8, 9, 10])], aborts := [], mode := .segmented first [4, 6], seg := none,
    counter := 0, rmbx := 32, scs := scs, emergencies := [], strictLen := true }

/-- Segmented mode, standard server: the first Upload Segment Response (command specifier 0) is rejected with
    `Error::Wire(InvalidValue)` — `CoeCommand` has no variant for 0. No segmented upload can succeed. -/
theorem sdo_read_exact_counterexample_segment_scs0 :
    (sdoRead serverWorld cfg32 8 16 0x2000 (.index 0) (St.init 1 (srvSeg 0 0) [])).1 = .err .wireInvalid ∧
    (sdoRead serverWorld cfg32 8 16 0x2000 (.index 0) (St.init 1 (srvSeg 0 2) [])).1 = .err .wireInvalid := by
  decide +kernel

/-- A lenient server that answers segments with command 3: the client reads every segment three bytes late
    (offset 12 instead of 9) and returns `04 00 00 00 08 09 0a 00 00 00` for the object `01 .. 0a`. -/
theorem sdo_read_exact_counterexample_segment_offset :
    (sdoRead serverWorld cfg32 8 16 0x2000 (.index 0) (St.init 1 (srvSeg 3 0) [])).1 =
      .ok [4, 0, 0, 0, 8, 9, 10, 0, 0, 0] := by
  decide +kernel

/-- A device that compensates for both (command 3, three filler bytes before the segment data) shows the third defect
    in isolation: the byte carried by the initiate response is dropped, 7 of the object's 8 bytes arrive. -/
theorem sdo_read_exact_counterexample_initiate_data :
    (sdoRead scriptWorld cfg32 8 16 0x2000 (.index 0)
      (St.init 1 [[[0x0b, 0, 0, 0, 0, 0x13, 0, 0x30, 0x41, 0, 0x20, 0, 8, 0, 0, 0, 1]],
                  [[0x0a, 0, 0, 0, 0, 0x23, 0, 0x30, 0x61, 0xee, 0xee, 0xee, 2, 3, 4, 5, 6, 7, 8]]] [])).1 =
      .ok [2, 3, 4, 5, 6, 7, 8] := by
  decide +kernel

/-- `[u16; 2]`: `PACKED_LEN = 4` but `buffer()` has 2 bytes, so a normal upload of the matching 4-byte object is refused
    (`bufLen = 2 < 4`): the hypothesis `obj.length ≤ bufLen` of the partial theorem is not met by `[u16; N]`. -/
theorem sdo_read_exact_counterexample_word_array :
    (sdoRead serverWorld cfg32 8 2 0x2000 (.index 1)
      (St.init 1 { dict := [((0x2000, 1), [1, 2, 3, 4])], aborts := [], mode := .normal, seg := none, counter := 0,
                   rmbx := 32, scs := 0, emergencies := [], strictLen := true } [])).1 = .err (.tooLong 0x2000 1) := by
  decide +kernel

/-! ### sdo_write_delivers -/

/-- **sdo_write_delivers.** Writing a value of 1..4 bytes to an existing entry: the download request in the IN mailbox
    is byte for byte `0a 00 00 00 00 <3|ctr<<4> 00 20 <0x23|(4-n)<<2> <index lo> <index hi> <sub> <data, zero padded>`
    (index, sub-index, size field, data), the result is `Ok(())`, and the device's dictionary then holds exactly the
    value's bytes at (index, sub-index) and is otherwise unchanged. -/
theorem sdo_write_delivers (srv : Server) (cfg : Cfg) (index sub ctr : Nat) (value old : List Nat)
    (stale : List (List Nat)) (hm : cfg.hasMailbox = true) (hst : stale.length ≤ 10) (hr : 16 ≤ cfg.rmbx)
    (hw : 16 ≤ cfg.wmbx) (hi : index < 65536) (hs : sub < 256) (h1 : 1 ≤ value.length) (h4 : value.length ≤ 4)
    (he : srv.emergencies = []) (hab : (srv.aborts.find? fun e => e.1.1 == index && e.1.2 == sub) = none)
    (hold : srv.dict.get index sub = some old) (hlen : srv.strictLen = true → old.length = value.length) :
    (sdoWrite serverWorld cfg index (.index sub) value (St.init ctr srv stale)).1 = .ok () ∧
    (sdoWrite serverWorld cfg index (.index sub) value (St.init ctr srv stale)).2.reqs =
      [10 :: 0 :: 0 :: 0 :: 0 :: (3 + 16 * (ctr % 8)) :: 0 :: 32 :: (35 + 4 * ((4 - value.length) % 4)) ::
        (index % 256) :: (index / 256 % 256) :: sub :: (value ++ zeros (4 - value.length) ++ zeros (cfg.wmbx - 16))] ∧
    (sdoWrite serverWorld cfg index (.index sub) value (St.init ctr srv stale)).2.dev.dict = srv.dict.set index sub value ∧
    ((srv.dict.set index sub value).get index sub = some value) ∧
    (∀ i' s', ¬ (i' = index ∧ s' = sub) → (srv.dict.set index sub value).get i' s' = srv.dict.get i' s') := by
  rw [sdoWrite_server cfg (St.init ctr srv stale) hm hst hr hw hi hs h1 h4 he hab hold hlen]
  refine ⟨rfl, ?_, rfl, Dict.get_set_same, fun _ _ => Dict.get_set_other⟩
  show [] ++ [image cfg.wmbx (downloadRequest ctr index (.index sub) _ _)] = _
  rw [downloadRequest_image cfg.wmbx ctr index (.index sub) value hw h4, Nat.mod_eq_of_lt (show (SubIndex.index sub).subIndex < 256 from hs)]
  rw [show (SubIndex.index sub).completeAccess = false from rfl, (sdoByte_download value.length false h1 h4).2.2.2.2.2]
  rfl

/-- A value of zero bytes is announced as four (size field 0 = "4 bytes"): a strict device refuses it, a lenient one
    stores `00 00 00 00`. -/
theorem sdo_write_delivers_counterexample_zero_length :
    (sdoWrite serverWorld cfg32 0x2000 (.index 1) []
      (St.init 1 { dict := [((0x2000, 1), [])], aborts := [], mode := .auto, seg := none, counter := 0, rmbx := 32,
                   scs := 0, emergencies := [], strictLen := true } [])).1 = .err (.aborted 0x06070010 0x2000 1) ∧
    (sdoWrite serverWorld cfg32 0x2000 (.index 1) []
      (St.init 1 { dict := [((0x2000, 1), [])], aborts := [], mode := .auto, seg := none, counter := 0, rmbx := 32,
                   scs := 0, emergencies := [], strictLen := false } [])).2.dev.dict = [((0x2000, 1), [0, 0, 0, 0])] := by
  decide +kernel

/-! ### array_helpers_consistent -/

/-- **array_helpers_consistent.** On a device holding an array object (count in sub-index 0, elements in 1..),
    `sdo_write_array(index, values)` (elements of 1..4 bytes, at most 255 of them) leaves the count in sub-index 0 and
    the values' bytes in sub-indices 1..n, and a following `sdo_read_array` (any `MAX_ENTRIES ≥ n`) returns exactly these
    values, in order. -/
theorem array_helpers_consistent {α : Type} (cfg : Cfg) (fuel : Nat) (T : Dest α) (maxEntries index : Nat)
    (values : List (List Nat)) (x : Nat → α) (s : St Server) (hp : Plain s.dev) (hm : cfg.hasMailbox = true)
    (hq : s.outq = []) (hr : 16 ≤ cfg.rmbx) (hw : 16 ≤ cfg.wmbx) (hi : index < 65536) (hn : values.length ≤ 255)
    (hmax : values.length ≤ maxEntries)
    (h0 : ∃ old0, s.dev.dict.get index 0 = some old0 ∧ (s.dev.strictLen = true → old0.length = 1))
    (hall : ∀ k, k < values.length → ∃ old, s.dev.dict.get index (1 + k) = some old ∧
      (s.dev.strictLen = true → old.length = (values.getD k []).length) ∧ 1 ≤ (values.getD k []).length ∧
      (values.getD k []).length ≤ 4)
    (hdec : ∀ k, k < values.length → T.decode (values.getD k []) = some (x (1 + k))) :
    (sdoWriteArray serverWorld cfg index values s).1 = .ok () ∧
    (sdoWriteArray serverWorld cfg index values s).2.dev.dict.get index 0 = some [values.length] ∧
    (∀ k, k < values.length →
      (sdoWriteArray serverWorld cfg index values s).2.dev.dict.get index (1 + k) = some (values.getD k [])) ∧
    (sdoReadArray serverWorld cfg fuel T maxEntries index (sdoWriteArray serverWorld cfg index values s).2).1 =
      .ok ((List.range values.length).map fun k => x (1 + k)) := by
  obtain ⟨s', d', hw', hs', h0', hall'⟩ := sdoWriteArray_plain cfg hm hr hw hi values s ⟨hp, hq, rfl, rfl⟩ hn h0 hall
  rw [hw']
  have hd' : s'.dev.dict = d' := hs'.2.2.1
  refine ⟨rfl, hd' ▸ h0', hd' ▸ hall', ?_⟩
  rw [sdoReadArray_plain cfg hm hr hw hi fuel T maxEntries values.length (fun j => values.getD (j - 1) []) x s' hs'
    hn hmax h0' fun j h1 h2 => by
      obtain ⟨k, rfl⟩ : ∃ k, j = 1 + k := ⟨j - 1, by omega⟩
      obtain ⟨_, _, _, ha, hb⟩ := hall k (by omega)
      rw [show 1 + k - 1 = k from by omega]
      exact ⟨hall' k (by omega), ha, hb, hdec k (by omega)⟩,
    List.range'_eq_map_range, List.map_map]
  rfl

/-! ### abort_reported -/

/-- **abort_reported (read).** Whenever the device refuses the upload — a scripted abort code of any value, an unknown
    object or sub-index — `sdo_read` returns `Aborted { code, address, sub_index }` with the device's code. -/
theorem abort_reported (srv : Server) (cfg : Cfg) (fuel bufLen index ctr code : Nat) (access : SubIndex)
    (stale : List (List Nat)) (hm : cfg.hasMailbox = true) (hst : stale.length ≤ 10) (h16 : 16 ≤ cfg.rmbx)
    (hw : 12 ≤ cfg.wmbx) (hi : index < 65536) (hs : access.subIndex < 256) (he : srv.emergencies = [])
    (hc : code < 4294967296) (hobj : srv.objectBytes index access.subIndex access.completeAccess = .error code) :
    (sdoRead serverWorld cfg fuel bufLen index access (St.init ctr srv stale)).1 =
      .err (.aborted code index access.subIndex) := by
  rw [sdoRead_refused serverWorld cfg (St.init ctr srv stale) hm hst (serve_upload hw hi hs he (upload_abort hobj))
    (triageB_abort h16 hi hc)]

/-- **abort_reported (write).** -/
theorem abort_reported_write (srv : Server) (cfg : Cfg) (index sub ctr : Nat) (value : List Nat)
    (e : (Nat × Nat) × Nat) (stale : List (List Nat)) (hm : cfg.hasMailbox = true) (hst : stale.length ≤ 10)
    (h16 : 16 ≤ cfg.rmbx) (hw : 16 ≤ cfg.wmbx) (hi : index < 65536) (hs : sub < 256) (h1 : 1 ≤ value.length)
    (h4 : value.length ≤ 4) (he : srv.emergencies = []) (hc : e.2 < 4294967296)
    (hab : (srv.aborts.find? fun e => e.1.1 == index && e.1.2 == sub) = some e) :
    (sdoWrite serverWorld cfg index (.index sub) value (St.init ctr srv stale)).1 = .err (.aborted e.2 index sub) := by
  have hdown : srv.download (nextCtr srv.counter) index sub false value =
      ({ srv with counter := nextCtr srv.counter }, abortMessage (nextCtr srv.counter) index sub e.2) := by
    unfold Server.download
    rw [hab]
  exact sdoWrite_refused serverWorld cfg (St.init ctr srv stale) hm hst h4
    (serve_download (access := .index sub) hw hi hs h1 h4 he hdown) (triageB_abort h16 hi hc)

/-! ### emergency_reported -/

/-- **emergency_reported.** (True since fix-c16-emergency.) Whenever the device has an emergency message pending — any
    error code, any error register, any manufacturer data, followed by whatever else it queues — the next `sdo_read` /
    `sdo_write` returns `MailboxError::Emergency { error_code, error_register }` with exactly the device's values. -/
theorem emergency_reported (srv : Server) (cfg : Cfg) (fuel bufLen index ctr code reg : Nat) (access : SubIndex)
    (value data : List Nat) (es : List (Nat × Nat × List Nat)) (stale : List (List Nat)) (hm : cfg.hasMailbox = true)
    (hst : stale.length ≤ 10) (h16 : 16 ≤ cfg.rmbx) (hw : 16 ≤ cfg.wmbx) (h4 : value.length ≤ 4) (hc : code < 65536)
    (hreg : reg < 256) (he : srv.emergencies = (code, reg, data) :: es) :
    (sdoRead serverWorld cfg fuel bufLen index access (St.init ctr srv stale)).1 = .err (.emergency code reg) ∧
    (sdoWrite serverWorld cfg index access value (St.init ctr srv stale)).1 = .err (.emergency code reg) := by
  obtain ⟨d1, rest1, hs1⟩ := serve_emergency_head srv (uploadRequest_image cfg.wmbx ctr index access (by omega)) he
  obtain ⟨d2, rest2, hs2⟩ := serve_emergency_head srv (downloadRequest_image cfg.wmbx ctr index access value hw h4) he
  constructor
  · rw [sdoRead_refused serverWorld cfg (St.init ctr srv stale) hm hst hs1 (triageB_emergency h16 hc hreg)]
  · exact sdoWrite_refused serverWorld cfg (St.init ctr srv stale) hm hst h4 hs2 (triageB_emergency h16 hc hreg)

/-! ### wrong_object_reported -/

/-- **wrong_object_reported.** A well-formed (expedited upload) response that names another index or sub-index than
    the request, from any device: `SdoResponseInvalid { address, sub_index }` with the values the response carries. -/
theorem wrong_object_reported {σ : Type} (w : World σ) (cfg : Cfg) (fuel bufLen index : Nat) (access : SubIndex)
    (s : St σ) (d' : σ) (c rIndex rSub : Nat) (complete : Bool) (obj : List Nat) (hm : cfg.hasMailbox = true)
    (hq : s.outq.length ≤ 10) (hr : 16 ≤ cfg.rmbx) (hi : rIndex < 65536) (h1 : 1 ≤ obj.length) (h4 : obj.length ≤ 4)
    (hne : ¬ (rIndex = index ∧ rSub = access.subIndex))
    (hresp : w.respond s.dev (image cfg.wmbx (uploadRequest s.ctr index access)) =
      (d', [expeditedResponse c rIndex rSub complete obj])) :
    (sdoRead w cfg fuel bufLen index access s).1 = .err (.responseInvalid rIndex rSub) := by
  have hb5 := (bits_expedited obj.length complete h1 h4).1
  have hv : validateIdx index access.subIndex rIndex rSub = false := by
    unfold validateIdx
    by_cases h : rIndex = index
    · have : rSub ≠ access.subIndex := fun h' => hne ⟨h, h'⟩
      simp [h, this]
    · simp [h]
  rw [sdoRead_refused w cfg s hm hq hresp]
  rw [show expeditedResponse c rIndex rSub complete obj = frame c 3 (_ :: _ :: _ :: rSub :: (obj ++ zeros (4 - obj.length)))
      from rfl,
    image_frame (by simp only [List.length_cons, List.length_append, zeros_length]; omega),
    triageB_frame (.inr rfl) hi (by rw [hb5]; decide), if_neg (by rw [hb5]; decide), hv]
  rfl

/-! ### too_long_reported -/

/-- **too_long_reported.** An object larger than the destination's buffer, answered normal OR segmented (any amount
    of data in the initiate response, any segment sizes): `TooLong { address, sub_index }`, before any segment is
    requested. -/
theorem too_long_reported (srv : Server) (cfg : Cfg) (fuel bufLen index ctr : Nat) (access : SubIndex)
    (stale : List (List Nat)) (obj : List Nat) (hm : cfg.hasMailbox = true) (hst : stale.length ≤ 10)
    (hrm : cfg.rmbx = srv.rmbx) (h16 : 16 ≤ cfg.rmbx) (hr : cfg.rmbx < 65536) (hw : 12 ≤ cfg.wmbx) (hi : index < 65536)
    (hs : access.subIndex < 256) (he : srv.emergencies = [])
    (hobj : srv.objectBytes index access.subIndex access.completeAccess = .ok obj)
    (hne : ¬ (srv.mode = .auto ∧ 1 ≤ obj.length ∧ obj.length ≤ 4)) (hbig : bufLen < obj.length)
    (h32 : obj.length < 4294967296) :
    (sdoRead serverWorld cfg fuel bufLen index access (St.init ctr srv stale)).1 =
      .err (.tooLong index access.subIndex) := by
  obtain ⟨first, seg, hfirst, hup⟩ := upload_initiate (nextCtr srv.counter) hobj hne
  have hfit : (obj.take first).length + 16 ≤ cfg.rmbx := by
    have : (obj.take first).length ≤ first := by rw [List.length_take]; exact Nat.min_le_left _ _
    unfold Server.normalRoom at hfirst
    omega
  rw [sdoRead_normal_reply serverWorld cfg (St.init ctr srv stale) hm hst hfit hr hi h32 (serve_upload hw hi hs he hup),
    if_pos (by have := Nat.mod_le bufLen 4294967296; omega)]

/-! ### counter_cycles -/

/-- The counter update is the cycle 1,2,…,7,1,…. -/
theorem counter_cycles_step (c0 : Nat) (h1 : 1 ≤ c0) (h7 : c0 ≤ 7) (k : Nat) : ctrSeq c0 k = (c0 - 1 + k) % 7 + 1 := by
  induction k with
  | zero => show c0 = _; omega
  | succ k ih =>
    show (if ctrSeq c0 k ≥ 7 then 1 else ctrSeq c0 k + 1) = _
    rw [ih]
    split <;> omega

/-- **counter_cycles.** For any device: starting from a counter c0 in 1..7 and no request written yet, after any of
    `sdo_read` (incl. every segment request), `sdo_read_array`, `sdo_write`, `sdo_write_array` (values of at most 4
    bytes) the k-th request written carries the counter (c0 - 1 + k) mod 7 + 1, and the stored counter is the next one. -/
theorem counter_cycles {σ : Type} (w : World σ) (cfg : Cfg) (c0 : Nat) (dev : σ) (stale : List (List Nat))
    (hm : cfg.hasMailbox = true) (hw : 6 ≤ cfg.wmbx) (h1 : 1 ≤ c0) (h7 : c0 ≤ 7) :
    let good (s : St σ) : Prop :=
      s.ctr = (c0 - 1 + s.reqs.length) % 7 + 1 ∧
        ∀ k, k < s.reqs.length → reqCounter (s.reqs.getD k []) = (c0 - 1 + k) % 7 + 1
    (∀ fuel bufLen index access, good (sdoRead w cfg fuel bufLen index access (St.init c0 dev stale)).2) ∧
    (∀ (α : Type) (T : Dest α) fuel maxEntries index,
      good (sdoReadArray w cfg fuel T maxEntries index (St.init c0 dev stale)).2) ∧
    (∀ index access value, value.length ≤ 4 → good (sdoWrite w cfg index access value (St.init c0 dev stale)).2) ∧
    (∀ index values, (∀ v ∈ values, v.length ≤ 4) → good (sdoWriteArray w cfg index values (St.init c0 dev stale)).2) := by
  intro good
  have h0 : Sync c0 (St.init c0 dev stale) := ⟨rfl, fun k hk => absurd hk (Nat.not_lt_zero k)⟩
  have conv : ∀ s : St σ, Sync c0 s → good s := by
    intro s hs
    refine ⟨by rw [hs.1, counter_cycles_step c0 h1 h7], fun k hk => ?_⟩
    rw [hs.2 k hk, counter_cycles_step c0 h1 h7]
    exact Nat.mod_eq_of_lt (Nat.succ_lt_succ (Nat.mod_lt _ (by decide)))
  have hI := sync_steady w cfg c0 hm hw
  exact ⟨fun fuel bufLen index access => conv _ (sdoRead_safe hI fuel bufLen index access _ h0).2,
    fun α T fuel maxEntries index => conv _ (sdoReadArray_safe hI fuel T maxEntries index _ h0).2,
    fun index access value hv => conv _ (sdoWrite_safe hI index access value (.inl hv) _ h0).2,
    fun index values hv => conv _ (sdoWriteArray_safe hI index values (.inl hv) _ h0).2⟩

/-! ### Non-vacuity -/

set_option maxRecDepth 4000 in
/-- A server meeting the hypotheses of `sdo_read_exact_partial` in normal mode with three stale messages (one of them an
    emergency): 6-byte object, 32-byte mailbox, counter 7 (wraps to 1). -/
example : (sdoRead serverWorld cfg32 8 8 0x1008 (.index 0)
    (St.init 7 { dict := [((0x1008, 0), [69, 75, 49, 57, 49, 52])], aborts := [], mode := .auto, seg := none, counter := 5,
                 rmbx := 32, scs := 0, emergencies := [], strictLen := true }
      [[1, 2, 3], [0x0a, 0, 0, 0, 0, 0x23, 0, 0x10, 1, 2, 3, 4, 5, 6, 7, 8], []])).1 = .ok [69, 75, 49, 57, 49, 52] := by
  decide +kernel

set_option maxRecDepth 20000 in
/-- Expedited, complete access. -/
example : (sdoRead serverWorld cfg32 8 4 0x1c12 .complete
    (St.init 3 { dict := [((0x1c12, 0), [2]), ((0x1c12, 1), [0x00, 0x16]), ((0x1c12, 2), [0x01, 0x16])], aborts := [],
                 mode := .auto, seg := none, counter := 0, rmbx := 32, scs := 0, emergencies := [], strictLen := true } [])).1 =
    .ok [0x00, 0x16, 0x01, 0x16] := by
  decide +kernel

/-- Write two u16 values with `sdo_write_array`, read them back with `sdo_read_array`. -/
example :
    let srv : Server := { dict := [((0x1c13, 0), [0]), ((0x1c13, 1), [0, 0]), ((0x1c13, 2), [0, 0])], aborts := [],
                          mode := .auto, seg := none, counter := 0, rmbx := 32, scs := 0, emergencies := [], strictLen := true }
    (sdoReadArray serverWorld cfg32 8 { bufLen := 2, decode := fun b => if b.length < 2 then none else some (rd16 b) } 4 0x1c13
      (sdoWriteArray serverWorld cfg32 0x1c13 [[0x00, 0x1a], [0x02, 0x1a]] (St.init 1 srv [])).2).1 = .ok [0x1a00, 0x1a02] := by
  decide +kernel

/-- Every abort code of the table decodes to itself (the catch-all keeps unknown ones). -/
example : (sdoRead serverWorld cfg32 8 2 0x2000 (.index 0)
    (St.init 1 { dict := [((0x2000, 0), [1, 2])], aborts := [((0x2000, 0), 0x06090011)], mode := .auto, seg := none,
                 counter := 0, rmbx := 32, scs := 0, emergencies := [], strictLen := true } [])).1 =
    .err (.aborted 0x06090011 0x2000 0) := by
  decide +kernel

end Ec.C15
