/-
  C14 — writing a station alias changes the alias word and the checksum word, nothing else; generic EEPROM
  writes are exact; the write retry loop is bounded. The lemmas about the write loop, `storeAt` and CRC-8 are in
  EcModel/Lemmas (EepromWrite, EepromCrc).
-/
import EcModel.Lemmas.EepromWrite
import EcModel.Lemmas.EepromCrc

namespace Ec.C14
open Ec Ec.Eeprom Ec.EepromSpec

theorem alias_mem (rd : Nat → Nat) (al C : Nat) :
    slice (storeAt (storeAt rd 8 (le16 al)) 14 [C, 0]) 8 2 = le16 al ∧
    slice (storeAt (storeAt rd 8 (le16 al)) 14 [C, 0]) 0 14 = setRange (slice rd 0 14) 8 (le16 al) :=
  ⟨by rw [slice_storeAt_disjoint _ _ _ _ _ (Or.inl (by decide))]; exact slice_storeAt_self rd 8 (le16 al),
   by rw [slice_storeAt_disjoint _ _ _ _ _ (Or.inl (by decide))]
      exact slice_storeAt_within rd 8 (le16 al) 0 14 (by decide) (by rw [le16_length]; decide)⟩

/-- `set_station_alias` for any value of the alias (the code takes a `u16`): outcome, memory and write log. -/
theorem setStationAlias_eq (m : Mode) (d : Dev) (hcs : 2 ≤ d.cs) (al : Nat) :
    setStationAlias m d al =
      ((.ok (), (Range.readExact m d.prov ⟨0, 14⟩ 14).2 + 2),
        { d with rd := storeAt (storeAt d.rd 8 (le16 al)) 14 [crc8 (setRange (slice d.rd 0 14) 8 (le16 al)), 0],
                 log := d.log ++ [(4, al % 256, al / 256 % 256),
                                  (7, crc8 (setRange (slice d.rd 0 14) 8 (le16 al)), 0)] }) := by
  generalize hCd : crc8 (setRange (slice d.rd 0 14) 8 (le16 al)) = C
  have hC : C < 256 := hCd ▸ crc8_lt _
  have hre : (Range.readExact m d.prov ⟨0, 14⟩ 14).1 = .ok (slice d.rd 0 14, ⟨14, 14⟩) :=
    (readExact_ok m d.prov hcs ⟨0, 14⟩ 14 (by decide) (by decide)).1
  unfold setStationAlias
  rw [show startAt m 0 14 = ret ⟨0, 14⟩ from rfl,
    show startAt m (Gen.Eeprom.STATION_ALIAS_START / 2) 2 = ret ⟨8, 10⟩ from rfl,
    show startAt m (Gen.Eeprom.CHECKSUM_START / 2) 2 = ret ⟨14, 16⟩ from rfl]
  simp only [bindW, liftW, ret, eofToOverrun, hre, Gen.Eeprom.STATION_ALIAS_START, hCd]
  rw [writeAll_fits m _ _ (le16 al) (by decide) (by decide) (by decide) (by decide)
    (by rw [padEven_length, le16_length]; decide)]
  simp only []
  rw [writeAll_fits m _ _ (le16 C) (by decide) (by decide) (by decide) (by decide)
    (by rw [padEven_length, le16_length]; decide)]
  -- the two payloads are `[al % 256, al / 256 % 256]` and `[C, 0]`
  simp [le16, wordsAt, padEven, Nat.mod_eq_of_lt hC, Nat.div_eq_of_lt hC]

/-- **Station alias write.** For every build mode, every device memory, every chunk size (≥ 2; real
    providers serve 4 or 8), every previous write log and every alias value: `set_station_alias` succeeds,
    the only provider writes are word 4 := alias (little endian) and word 7 := (CRC-8 of the fourteen header
    bytes after patching the alias, 0); every other byte of the memory is unchanged; and the alias read back
    afterwards is the new one. -/
theorem alias_two_words (m : Mode) (d : Dev) (hcs : 2 ≤ d.cs) (al : Nat) (ha : al < 65536) :
    (setStationAlias m d al).1.1 = .ok () ∧
    (setStationAlias m d al).2.log
      = d.log ++ [(4, al % 256, al / 256),
                  (7, crc8 (setRange (slice d.rd 0 14) 8 (le16 al)), 0)] ∧
    (setStationAlias m d al).2.rd
      = storeAt (storeAt d.rd 8 (le16 al)) 14 [crc8 (setRange (slice d.rd 0 14) 8 (le16 al)), 0] ∧
    (setStationAlias m d al).2.cs = d.cs ∧
    (stationAlias m (setStationAlias m d al).2.prov).1 = .ok al := by
  rw [setStationAlias_eq m d hcs al, Nat.mod_eq_of_lt (show al / 256 < 256 by omega)]
  refine ⟨rfl, rfl, rfl, rfl, ?_⟩
  unfold stationAlias
  rw [show startAt m (Gen.Eeprom.STATION_ALIAS_START / 2) 2 = ret ⟨8, 10⟩ from rfl, bind_ret,
    bind_fst_ok _ (eofToOverrun_ok (readExact_ok m _ hcs ⟨8, 10⟩ 2 (by decide) (by decide)).1).1]
  show Outcome.ok (rd16 (slice (storeAt (storeAt d.rd 8 (le16 al)) 14 [_, 0]) 8 2)) = .ok al
  rw [(alias_mem d.rd al _).1, rd16_le16 al ha]

/-- Every byte other than 8, 9 (alias) and 14, 15 (checksum word) keeps its value. -/
theorem alias_others_unchanged (m : Mode) (d : Dev) (hcs : 2 ≤ d.cs) (al : Nat) (ha : al < 65536)
    (a : Nat) (h : a ≠ 8 ∧ a ≠ 9 ∧ a ≠ 14 ∧ a ≠ 15) :
    (setStationAlias m d al).2.rd a = d.rd a := by
  rw [setStationAlias_eq m d hcs al]
  dsimp only
  rw [storeAt_outside _ _ _ _ (by simp; omega), storeAt_outside _ _ _ _ (by simp [le16]; omega)]

/-- The checksum word holds the CRC-8 of the first fourteen bytes *as they read after the change*, high byte 0,
    and bytes 8..9 hold the new alias. -/
theorem alias_checksum_valid (m : Mode) (d : Dev) (hcs : 2 ≤ d.cs) (al : Nat) (ha : al < 65536) :
    (setStationAlias m d al).2.rd 14 = crc8 (slice (setStationAlias m d al).2.rd 0 14) ∧
    (setStationAlias m d al).2.rd 15 = 0 ∧
    rd16 (slice (setStationAlias m d al).2.rd 8 2) = al := by
  rw [setStationAlias_eq m d hcs al, (alias_mem d.rd al _).1, (alias_mem d.rd al _).2]
  generalize crc8 _ = C
  exact ⟨rfl, rfl, rd16_le16 al ha⟩

/-- **The checksum is the CRC-8 the property names.** `crc8` (the bitwise shift-register definition the
    model of `STATION_ALIAS_CRC.checksum` uses; generator and preset regenerated from `ECAT_CRC_ALGORITHM`) is
    the remainder of polynomial division over GF(2): with the message read as a polynomial (first byte most
    significant, MSB first), `msg · x^8 + 0xFF · x^(8n) = q ⊗ (x^8 + x^2 + x + 1) + crc8 msg` for some
    quotient `q`, and `crc8 msg` has degree < 8 — i.e. CRC-8, polynomial 0x07, register preset to 0xFF, no
    reflection, no final xor. -/
theorem crc8_spec (bytes : List Nat) (hb : AllBytes bytes) :
    crc8 bytes < 256 ∧
    ∃ q, msgPoly bytes * 256 ^^^ 255 * 256 ^ bytes.length = clmul q (2 ^ 8 + 7) ^^^ crc8 bytes := by
  exact ⟨crc8_lt bytes, crcFold_division 255 (by decide) bytes hb⟩

/-- ... and that remainder is unique: any `r < 2^8` with `msg · x^8 + 0xFF · x^(8n) = q ⊗ G + r` for some `q`
    equals `crc8 msg`. So the checksum word is *the* CRC-8 (0x07 / 0xFF) of the header, not merely what the
    code happens to compute. -/
theorem crc8_unique (bytes : List Nat) (hb : AllBytes bytes) (q r : Nat) (hr : r < 256)
    (h : msgPoly bytes * 256 ^^^ 255 * 256 ^ bytes.length = clmul q (2 ^ 8 + 7) ^^^ r) :
    r = crc8 bytes := by
  obtain ⟨q', hq'⟩ := crcFold_division 255 (by decide) bytes hb
  exact clmul_remainder_unique (k := 8) (by decide) (by decide) (h.symm.trans hq') hr (crc8_lt bytes)

/-- **Generic write (`EepromRange::write`).** On a word-aligned window inside the address space (what
    `EepromRange::new` produces), with room left or nothing to write, in both build modes: the call stores
    `k = min ⌈len/2⌉ (window words left)` words taken from the buffer padded with one zero byte if its length is
    odd, at consecutive word addresses starting at the cursor; reports the `min len (2k)` buffer bytes it
    consumed (never more than it was given); advances the cursor by `2k`; never panics; and no other byte of
    the memory changes. -/
theorem write_exact (m : Mode) (d : Dev) (r : Range) (buf : List Nat)
    (hp : r.pos % 2 = 0) (he : r.endp % 2 = 0) (hle : r.pos ≤ r.endp) (hlt : r.endp ≤ 131072)
    (hroom : buf.length = 0 ∨ r.pos < r.endp) :
    let k := min ((buf.length + 1) / 2) ((r.endp - r.pos) / 2)
    let stored := (padEven buf).take (2 * k)
    (Range.write m d r buf).1.1 = .ok (min buf.length (2 * k), { r with pos := r.pos + 2 * k }) ∧
    (Range.write m d r buf).1.2 = k ∧
    (Range.write m d r buf).2.rd = storeAt d.rd r.pos stored ∧
    (Range.write m d r buf).2.log = d.log ++ wordsAt (r.pos / 2) stored ∧
    stored.length = 2 * k ∧ r.pos + 2 * k ≤ r.endp := by
  intro k stored
  have hk : min (r.endp - r.pos) (padEven buf).length = 2 * k := by
    show _ = 2 * min _ ((r.endp - r.pos) / 2)
    obtain ⟨j, hj⟩ := Nat.dvd_of_mod_eq_zero (Nat.sub_mod_eq_zero_of_mod_eq (he.trans hp.symm))
    rw [padEven_length, hj, Nat.mul_div_cancel_left j (by decide), Nat.mul_min_mul_left, Nat.min_comm]
  have hst : stored = (padEven buf).take (r.endp - r.pos) := by
    rw [List.take_eq_take_min (i := r.endp - r.pos), hk]
  have hlen : stored.length = 2 * k := by rw [hst, List.length_take, hk]
  rw [write_spec m d r buf stored hst hp he hle hlt hroom, hlen]
  exact ⟨rfl, Nat.mul_div_cancel_left k (by decide), rfl, rfl, rfl,
    Nat.add_le_of_le_sub' hle (hk ▸ Nat.min_le_left _ _)⟩

/-- A non-empty buffer on an exhausted window is refused with `Err(SectionOverrun)`; nothing is written. -/
theorem write_exhausted (m : Mode) (d : Dev) (r : Range) (buf : List Nat) (hne : buf.length ≠ 0)
    (hfull : r.endp - r.pos = 0) : Range.write m d r buf = ((.err .overrun, 0), d) :=
  write_overrun m d r buf hne hfull

/-- Nothing is ever written past the permitted range: every byte outside `[pos, end)` keeps its value. -/
theorem write_never_past_end (m : Mode) (d : Dev) (r : Range) (buf : List Nat)
    (hp : r.pos % 2 = 0) (he : r.endp % 2 = 0) (hle : r.pos ≤ r.endp) (hlt : r.endp ≤ 131072)
    (a : Nat) (ha : a < r.pos ∨ r.endp ≤ a) :
    (Range.write m d r buf).2.rd a = d.rd a := by
  by_cases hroom : buf.length = 0 ∨ r.pos < r.endp
  · rw [write_spec m d r buf _ rfl hp he hle hlt hroom]
    exact storeAt_outside _ _ _ _ <| ha.imp_right <| Nat.le_trans <| by
      rw [List.length_take]; exact Nat.add_le_of_le_sub' hle (Nat.min_le_left _ _)
  · rw [write_exhausted m d r buf (fun h => hroom (Or.inl h))
      (Nat.sub_eq_zero_of_le (Nat.le_of_not_lt fun h => hroom (Or.inr h)))]

/-- **`write_all` (what `eeprom_write_dangerously` and `set_station_alias` call), payload fits** — any length,
    odd or even: the payload, padded with one zero byte if its length is odd, is stored exactly, `Ok(())` is
    returned. -/
theorem write_all_exact (m : Mode) (d : Dev) (r : Range) (buf : List Nat)
    (hp : r.pos % 2 = 0) (he : r.endp % 2 = 0) (hlt : r.endp ≤ 131072)
    (hfit : r.pos + 2 * ((buf.length + 1) / 2) ≤ r.endp) :
    (Range.writeAll m d r buf).1.1 = .ok { r with pos := r.pos + 2 * ((buf.length + 1) / 2) } ∧
    (Range.writeAll m d r buf).2.rd = storeAt d.rd r.pos (padEven buf) ∧
    (Range.writeAll m d r buf).2.log = d.log ++ wordsAt (r.pos / 2) (padEven buf) := by
  rw [writeAll_fits m d r buf hp he (Nat.le_trans (Nat.le_add_right _ _) hfit) hlt
    (padEven_length buf ▸ Nat.le_sub_of_add_le' hfit), padEven_length]
  exact ⟨rfl, rfl, rfl⟩

/-- **`write_all`, payload longer than the window**: the bytes that fit are stored, nothing past the window
    is touched, and the call returns `Err(SectionOverrun)` — it never panics. -/
theorem write_all_overrun (m : Mode) (d : Dev) (r : Range) (buf : List Nat)
    (hp : r.pos % 2 = 0) (he : r.endp % 2 = 0) (hle : r.pos ≤ r.endp) (hlt : r.endp ≤ 131072)
    (hnofit : r.endp < r.pos + 2 * ((buf.length + 1) / 2)) :
    (Range.writeAll m d r buf).1.1 = .err .overrun ∧
    (Range.writeAll m d r buf).2.rd = storeAt d.rd r.pos ((padEven buf).take (r.endp - r.pos)) ∧
    (Range.writeAll m d r buf).2.log = d.log ++ wordsAt (r.pos / 2) ((padEven buf).take (r.endp - r.pos)) := by
  rw [writeAll_spec m d r buf _ rfl hp he hle hlt,
    if_neg fun h => Nat.not_le_of_lt hnofit (Nat.add_le_of_le_sub' hle (padEven_length buf ▸ h))]
  exact ⟨rfl, rfl, rfl⟩

def dev0 : Dev := ⟨fun _ => 0, 4, []⟩

/-- Repaired in /repo (before: the three bytes were stored, then `write_all` panicked slicing `&buf[2..]` of a
    one-byte rest because `write` reported 2 bytes for the padded last byte): `Ok`, same words written. -/
theorem write_all_odd_fixed :
    (Range.writeAll .checked dev0 ⟨8, 12⟩ [1, 2, 3]).1.1 = .ok ⟨12, 12⟩ ∧
    (Range.writeAll .wrapping dev0 ⟨8, 12⟩ [1, 2, 3]).1.1 = .ok ⟨12, 12⟩ ∧
    (Range.writeAll .checked dev0 ⟨8, 12⟩ [1, 2, 3]).2.log = [(4, 1, 2), (5, 3, 0)] := by
  decide +kernel

/-- Repaired in /repo (before: `write` returned `Ok(0)` on an exhausted window and `write_all` panicked
    "write() returned Ok(0)"; `start_at(word, 1)` — what `eeprom_write_dangerously::<u8>` builds — was an
    empty window): `start_at(4, 1)` is the one-word window and the byte is written; a payload longer than its
    window ends with `Err(SectionOverrun)`. -/
theorem write_all_overrun_fixed :
    (startAt .checked 4 1).1 = .ok ⟨8, 10⟩ ∧
    (Range.writeAll .checked dev0 ⟨8, 10⟩ [0xaa]).1.1 = .ok ⟨10, 10⟩ ∧
    (Range.writeAll .checked dev0 ⟨8, 10⟩ [0xaa]).2.log = [(4, 0xaa, 0)] ∧
    (Range.writeAll .checked dev0 ⟨8, 8⟩ [0xaa]).1.1 = .err .overrun ∧
    (Range.writeAll .wrapping dev0 ⟨8, 10⟩ [1, 2, 3, 4]).1.1 = .err .overrun ∧
    (Range.writeAll .wrapping dev0 ⟨8, 10⟩ [1, 2, 3, 4]).2.log = [(4, 1, 2)] := by
  decide +kernel

/-- **`EepromRange::new(start_word, len_words)`, every word address**: the window is the byte range of the
    words asked for, clipped to the end of the 2^16-word address space; it is word aligned and inside the
    address space — the hypotheses of `write_exact` — for EVERY `u16` start and length, in both build modes. -/
theorem range_new_exact (m : Mode) (w n : Nat) (hw : w < 65536) :
    Range.new m w n = ret ⟨2 * w, min (2 * w + 2 * n) 131072⟩ ∧
    (2 * w) % 2 = 0 ∧ (min (2 * w + 2 * n) 131072) % 2 = 0 ∧ 2 * w ≤ min (2 * w + 2 * n) 131072 ∧
    min (2 * w + 2 * n) 131072 ≤ 131072 :=
  ⟨new_eq m w n, Nat.mul_mod_right 2 w, by omega, Nat.le_min.2 ⟨Nat.le_add_right _ _, by omega⟩, Nat.min_le_right _ _⟩

/-- Repaired in /repo (before: `start_word * 2` in `u16` panicked in checked builds and put the window at
    word 0 in wrapping builds): word 0x8000 is byte 0x10000 in both build modes, and the last word of the
    address space is a window of two bytes. -/
theorem range_new_overflow_fixed :
    (Range.new .checked 0x8000 1).1 = .ok ⟨65536, 65538⟩ ∧
    (Range.new .wrapping 0x8000 1).1 = .ok ⟨65536, 65538⟩ ∧
    (Range.new .checked 0xffff 1).1 = .ok ⟨131070, 131072⟩ ∧
    (Range.new .wrapping 0xffff 4).1 = .ok ⟨131070, 131072⟩ := by
  decide +kernel

/-- **Retry bound.** For every device script: `write_word` makes between 1 and 21 attempts; it stops at the
    first attempt `k ≤ 20` that is not answered with a command error, after exactly `k + 1` attempts; if the
    first 20 attempts are all refused it makes the 21st and stops whatever its answer (and reports `Ok`). -/
theorem write_retry_bound (errs : Nat → Bool) :
    1 ≤ writeWordProto errs ∧ writeWordProto errs ≤ Gen.Eeprom.WRITE_RETRY_LIMIT + 1 ∧
    (∀ k, k ≤ Gen.Eeprom.WRITE_RETRY_LIMIT → (∀ i, i < k → errs i = true) →
      (errs k = false ∨ k = Gen.Eeprom.WRITE_RETRY_LIMIT) → writeWordProto errs = k + 1) := by
  have h := writeWordAttempts_bounds errs Gen.Eeprom.WRITE_RETRY_LIMIT 0 0
  refine ⟨by unfold writeWordProto; omega, by unfold writeWordProto; omega, ?_⟩
  intro k hk herr hstop
  exact writeWordAttempts_stop errs _ 0 k (by omega) hk (by omega) (fun i _ hi => herr i hi) hstop

/-- T1 obligation: the positions and CRC parameters the statements above spell out as literals are the ones
    regenerated from /repo (`STATION_ALIAS_POSITION`, `CHECKSUM_POSITION`, `ECAT_CRC_ALGORITHM`, retry limit). -/
theorem t1_alias_constants :
    Gen.Eeprom.STATION_ALIAS_START = 8 ∧ Gen.Eeprom.STATION_ALIAS_END = 10 ∧ Gen.Eeprom.CHECKSUM_START = 14 ∧
    Gen.Eeprom.CHECKSUM_END = 16 ∧ Gen.Eeprom.CRC_WIDTH = 8 ∧ Gen.Eeprom.CRC_POLY = 7 ∧
    Gen.Eeprom.CRC_INIT = 255 ∧ Gen.Eeprom.CRC_XOROUT = 0 ∧ Gen.Eeprom.CRC_REFIN = false ∧
    Gen.Eeprom.CRC_REFOUT = false ∧ Gen.Eeprom.WRITE_RETRY_LIMIT = 20 := by
  decide +kernel

set_option maxRecDepth 100000 in
/-- The suite's own example (akd.hex header, alias 0xabcd ⇒ checksum 0x04). -/
example : crc8 [0x09, 0x00, 0x00, 0x08, 0, 0, 0, 0, 0xcd, 0xab, 0, 0, 0, 0] = 0x04 := by decide +kernel

set_option maxRecDepth 100000 in
/-- The check string "123456789" gives 0xFB (the `check: 0x80` field written in `ECAT_CRC_ALGORITHM` is not
    this algorithm's check value; the `crc` crate never uses that field for computing). -/
example : crc8 [0x31, 0x32, 0x33, 0x34, 0x35, 0x36, 0x37, 0x38, 0x39] = 0xfb := by decide +kernel

example : (setStationAlias .checked ⟨fun a => a % 7, 8, []⟩ 0xabcd).2.log.length = 2 := by decide +kernel

example : writeWordProto (fun i => decide (i < 3)) = 4 := by decide +kernel
example : writeWordProto (fun _ => true) = 21 := by decide +kernel

end Ec.C14
