/-
  The codec laws (C19) and the impls of ethercrab-wire/src/impls.rs that obey them: the primitives, `bool`, `[T; N]`.
-/
import EcModel.Lemmas.WireBits

namespace Ec.Wire

/-- Laws of a field codec (an `EtherCrabWire{Read,Write,Sized}` impl triple) the struct theorems rely on. -/
structure Lawful (c : Codec) : Prop where
  /-- whatever is packed has `PACKED_LEN` bytes -/
  enc_len : ∀ v bs, c.enc v = .ok bs → bs.length = c.len ∧ AllBytes bs
  /-- valid values pack without panic -/
  enc_ok : ∀ v, c.valid v → ∃ bs, c.enc v = .ok bs
  /-- a short buffer is an error -/
  dec_short : ∀ buf, buf.length < c.len → c.dec buf = .err .readBufferTooShort
  /-- only the first `PACKED_LEN` bytes are looked at -/
  dec_prefix : ∀ buf, c.len ≤ buf.length → c.dec buf = c.dec (buf.take c.len)
  /-- decoding never panics -/
  dec_total : ∀ buf why, c.dec buf ≠ .panic why
  /-- unpacking what was packed gives the value back -/
  roundtrip : ∀ v bs, c.valid v → c.enc v = .ok bs → c.dec bs = .ok v

/-- `Lawful.dec_total` on its own: what the no-panic theorems ask of a component, and all that the `heapless` decoders
    (which accept short buffers, so are not `Lawful`) have to offer. -/
def DecTotal (c : Codec) : Prop := ∀ b why, c.dec b ≠ .panic why

theorem Lawful.len_le_of_ok {c : Codec} (hc : Lawful c) {buf : List Nat} {v : Val} (h : c.dec buf = .ok v) :
    c.len ≤ buf.length := by
  by_cases hl : buf.length < c.len
  · rw [hc.dec_short buf hl] at h; cases h
  · omega

theorem Lawful.roundtrip_append {c : Codec} (hc : Lawful c) {v : Val} {bs : List Nat} (hv : c.valid v)
    (he : c.enc v = .ok bs) (extra : List Nat) : c.dec (bs ++ extra) = .ok v := by
  have hl := (hc.enc_len v bs he).1
  rw [hc.dec_prefix _ (by rw [List.length_append]; omega), ← hl, List.take_left' rfl]
  exact hc.roundtrip v bs hv he

/-- Every fixed-size impl decodes the same way: refuse a buffer shorter than `PACKED_LEN`, else look at the first
    `PACKED_LEN` bytes only (`g`). For such a codec the laws come down to: what is packed has `PACKED_LEN` bytes, `g`
    inverts the packing of valid values, and `g` does not panic. -/
theorem Lawful.of_sized {c : Codec} (g : List Nat → Out Val)
    (hdec : ∀ buf, c.dec buf = if buf.length < c.len then .err .readBufferTooShort else g (buf.take c.len))
    (enc_len : ∀ v bs, c.enc v = .ok bs → bs.length = c.len ∧ AllBytes bs)
    (rt : ∀ v, c.valid v → ∃ bs, c.enc v = .ok bs ∧ g bs = .ok v)
    (total : ∀ b why, g b ≠ .panic why) : Lawful c where
  enc_len := enc_len
  enc_ok v hv := (rt v hv).imp fun _ h => h.1
  dec_short buf h := by rw [hdec, if_pos h]
  dec_prefix buf h := by
    rw [hdec, hdec (buf.take _), if_neg (Nat.not_lt.mpr h), List.length_take, Nat.min_eq_left h,
      if_neg (Nat.lt_irrefl _), List.take_take, Nat.min_self]
  dec_total buf why := by
    rw [hdec]
    split
    · exact nofun
    · exact total _ _
  roundtrip v bs hv hw := by
    obtain ⟨bs', hb, hg⟩ := rt v hv
    rw [hw] at hb
    cases hb
    have hl := (enc_len v bs hw).1
    rw [hdec, ← hl, if_neg (Nat.lt_irrefl _), List.take_length]
    exact hg

theorem uN_dec_eq_ok {k : Nat} {b : List Nat} {v : Val} :
    (Codec.uN k).dec b = .ok v ↔ k ≤ b.length ∧ v = .int (leVal (b.take k)) := by
  by_cases h : b.length < k
  · simp only [Codec.uN, if_pos h]
    exact ⟨nofun, fun h' => absurd h'.1 (Nat.not_le.mpr h)⟩
  · simp only [Codec.uN, if_neg h, Outcome.ok.injEq, Nat.le_of_not_lt h, true_and]
    exact eq_comm

theorem uN_dec_full {k : Nat} {ch : List Nat} (h : ch.length = k) : ∃ v, (Codec.uN k).dec ch = .ok v :=
  ⟨_, uN_dec_eq_ok.mpr ⟨Nat.le_of_eq h.symm, rfl⟩⟩

theorem lawful_uN (n : Nat) : Lawful (Codec.uN n) :=
  .of_sized (fun b => .ok (.int (leVal b))) (fun _ => rfl)
    (by
      intro v bs h
      cases v with
      | int i => cases h; exact ⟨leBytes_length _ _, allBytes_leBytes _ _⟩
      | _ => cases h)
    (by
      rintro v ⟨i, rfl, hi⟩
      refine ⟨_, rfl, ?_⟩
      rw [toNat_emod_natCast, Nat.mod_eq_of_lt hi, leVal_leBytes, Nat.mod_eq_of_lt hi])
    (fun _ _ => nofun)

theorem toSigned_roundtrip (n : Nat) (i : Int) (h1 : -((256 ^ n : Nat) : Int) ≤ 2 * i)
    (h2 : 2 * i < ((256 ^ n : Nat) : Int)) :
    toSigned n ((i % ((256 ^ n : Nat) : Int)).toNat % 256 ^ n) = i := by
  unfold toSigned
  generalize (256 ^ n : Nat) = M at *
  by_cases hi : 0 ≤ i
  · rw [Int.emod_eq_of_lt hi (by omega), Nat.mod_eq_of_lt (by omega), if_neg (by omega)]
    omega
  · have e : i % (M : Int) = i + M := by
      rw [← Int.add_mul_emod_self_left i (M : Int) 1, Int.mul_one]
      exact Int.emod_eq_of_lt (by omega) (by omega)
    rw [e, Nat.mod_eq_of_lt (by omega), if_pos (by omega)]
    omega

theorem lawful_iN (n : Nat) : Lawful (Codec.iN n) :=
  .of_sized (fun b => .ok (.int (toSigned n (leVal b)))) (fun _ => rfl) (lawful_uN n).enc_len
    (by
      rintro v ⟨i, rfl, h1, h2⟩
      refine ⟨_, rfl, ?_⟩
      rw [leVal_leBytes, toSigned_roundtrip n i h1 h2])
    (fun _ _ => nofun)

theorem lawful_bool : Lawful Codec.bool :=
  .of_sized Codec.bool.dec (fun buf => by cases buf <;> rfl)
    (by
      intro v bs h
      cases v with
      | bool b => cases h; exact ⟨rfl, allBytes_cons.mpr ⟨by cases b <;> decide, allBytes_nil⟩⟩
      | _ => cases h)
    (by
      rintro v ⟨b, rfl⟩
      exact ⟨_, rfl, by cases b <;> rfl⟩)
    (fun b why h => by cases b <;> cases h)

theorem encAll_spec (c : Codec) (hc : Lawful c) : ∀ (vs : List Val) (bs : List Nat), encAll c vs = .ok bs →
    bs.length = c.len * vs.length ∧ AllBytes bs
  | [], bs, h => by
    cases h
    exact ⟨rfl, allBytes_nil⟩
  | v :: vs, bs, h => by
    obtain ⟨b, bs', hb, hbs', rfl⟩ := bindO₂_eq_ok h
    obtain ⟨l1, a1⟩ := hc.enc_len v b hb
    obtain ⟨l2, a2⟩ := encAll_spec c hc vs bs' hbs'
    refine ⟨?_, allBytes_append.mpr ⟨a1, a2⟩⟩
    simp only [List.length_append, List.length_cons, l1, l2, Nat.mul_add, Nat.mul_one]
    omega

theorem decChunks_total (c : Codec) (hc : DecTotal c) : ∀ (n : Nat) (buf : List Nat) (why : String),
    decChunks c n buf ≠ .panic why
  | 0, _, _ => nofun
  | n + 1, _, why =>
    bindO_ne_panic (hc _) (fun _ => bindO_ok_ne_panic fun w => decChunks_total c hc n _ w) why

theorem decChunks_err (c : Codec) {e : WireError} : ∀ (n : Nat) (buf : List Nat), decChunks c n buf = .err e →
    ∃ b, c.dec b = .err e
  | 0, _, h => by cases h
  | n + 1, buf, h => by
    rcases bindO_eq_err.mp h with h | ⟨v, _, h⟩
    · exact ⟨_, h⟩
    · rcases bindO_eq_err.mp h with h | ⟨vs, _, h⟩
      · exact decChunks_err c n _ h
      · cases h

theorem encAll_roundtrip (c : Codec) (hc : Lawful c) : ∀ (vs : List Val), (∀ x ∈ vs, c.valid x) →
    ∃ bs, encAll c vs = .ok bs ∧ decChunks c vs.length bs = .ok vs
  | [], _ => ⟨[], rfl, rfl⟩
  | v :: vs, h => by
    obtain ⟨hv, hvs⟩ := List.forall_mem_cons.mp h
    obtain ⟨b, hb⟩ := hc.enc_ok v hv
    obtain ⟨bs, hbs, hd⟩ := encAll_roundtrip c hc vs hvs
    refine ⟨b ++ bs, by rw [encAll, hb, bindO_ok, hbs, bindO_ok], ?_⟩
    rw [List.length_cons, decChunks, ← (hc.enc_len v b hb).1, List.take_left' rfl, List.drop_left' rfl,
      hc.roundtrip v b hv hb, bindO_ok, hd, bindO_ok]

/-- For an element type of non-zero size the `chunks_exact(0)` panic of the `[T; N]` decoder is dead. -/
theorem array_dec_eq {c : Codec} (hpos : 0 < c.len) (n : Nat) (buf : List Nat) :
    (Codec.array c n).dec buf = if buf.length < c.len * n then .err .readBufferTooShort
      else bindO (decChunks c n (buf.take (c.len * n))) fun vs => .ok (.seq vs) := by
  simp only [Codec.array, if_neg (Nat.ne_of_gt hpos)]

theorem lawful_array (c : Codec) (n : Nat) (hc : Lawful c) (hpos : 0 < c.len) : Lawful (Codec.array c n) :=
  .of_sized (fun b => bindO (decChunks c n b) fun vs => .ok (.seq vs)) (array_dec_eq hpos n)
    (by
      intro v bs h
      cases v with
      | seq vs =>
        simp only [Codec.array] at h
        split at h
        · rename_i hl
          have := encAll_spec c hc vs bs h
          exact ⟨by rw [this.1, hl]; rfl, this.2⟩
        · cases h
      | _ => cases h)
    (by
      rintro v ⟨vs, rfl, hl, hv⟩
      obtain ⟨bs, hbs, hd⟩ := encAll_roundtrip c hc vs hv
      exact ⟨bs, by simp only [Codec.array, hl, if_true, hbs], by rw [← hl, hd, bindO_ok]⟩)
    (fun _ => bindO_ok_ne_panic fun w => decChunks_total c hc.dec_total _ _ w)

theorem array_dec_err {c : Codec} {n : Nat} {buf : List Nat} {e : WireError} (h : (Codec.array c n).dec buf = .err e) :
    e = .readBufferTooShort ∨ ∃ b, c.dec b = .err e := by
  unfold Codec.array at h
  dsimp only at h
  split at h
  · exact Or.inl (Outcome.err.inj h).symm
  split at h
  · cases h
  · rcases bindO_eq_err.mp h with h | ⟨vs, _, h⟩
    · exact Or.inr (decChunks_err c n _ h)
    · cases h

/-- Every codec of the list is lawful, as a nested conjunction: a proof is the tuple of the components' proofs
    (Generated/LayoutsLawful.lean writes them that way). -/
def AllLawfulC : List Codec → Prop
  | [] => True
  | c :: cs => Lawful c ∧ AllLawfulC cs

theorem AllLawfulC.mem : ∀ {cs : List Codec}, AllLawfulC cs → ∀ c ∈ cs, Lawful c
  | _ :: _, h, c, hc => by
    rcases List.mem_cons.mp hc with rfl | hc
    · exact h.1
    · exact AllLawfulC.mem h.2 c hc

end Ec.Wire
