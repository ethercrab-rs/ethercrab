/-
  The routing-table / linearisation invariant of EcModel.Tasks.  Every step overwrites one slot and
  concerns one task, so preservation is proved once for such an update (`Inv.frame`).
-/
import EcModel.Lemmas.TasksLemmas
import EcModel.Lemmas.TasksLin

namespace Ec.Tasks

variable {Rq Rs σ : Type}

structure Inv (S : Sys Rq Rs σ) (s0 : σ) (st : St Rq Rs σ) : Prop where
  /-- a task holds at most one slot (it awaits every response before its next request) -/
  uniq : ∀ i j ei ej, slotAt st.slots i = some ei → slotAt st.slots j = some ej → ei.task = ej.task → i = j
  /-- the indices of a claimed slot have been handed out -/
  fresh : ∀ i e, slotAt st.slots i = some e → e.abs < st.total
  /-- routing table: requests awaiting a response have distinct first indices -/
  idx : ∀ i j ei ej, slotAt st.slots i = some ei → slotAt st.slots j = some ej →
      ei.stage.awaiting = true → ej.stage.awaiting = true → ei.idx = ej.idx → i = j
  /-- the request on the wire is the one the requester remembers -/
  outreq : ∀ i e rq, slotAt st.slots i = some e → e.stage.req? = some rq → rq = e.req
  /-- a task that holds no slot has picked up every response the segment logged for it -/
  idle : ∀ t, (∀ i e, slotAt st.slots i = some e → e.task ≠ t) → respsOf t st.log = st.got t
  /-- so has a task whose request is still on its way out, and that request is its program's next -/
  outs : ∀ i e rq, slotAt st.slots i = some e → e.stage.req? = some rq →
      respsOf e.task st.log = st.got e.task ∧ S.tasks e.task (st.got e.task) = some rq
  /-- a task whose response is on its way back or stored lacks exactly that response, which the segment
      logged for the request the task remembers -/
  backs : ∀ i e rs, slotAt st.slots i = some e → e.stage.resp? = some rs →
      respsOf e.task st.log = st.got e.task ++ [rs] ∧ (e.task, e.req, rs) ∈ st.log
  prog : ∀ t, Follows (S.tasks t) (reqsOf t st.log) (respsOf t st.log)
  valid : Valid S.seg s0 st.log
  ends : endState S.seg s0 st.log = st.seg

theorem inv_init (S : Sys Rq Rs σ) (n c tot : Nat) (s0 : σ) (img0 : Nat → List Nat) :
    Inv S s0 (St.init n c tot s0 img0 : St Rq Rs σ) := by
  have hfree : ∀ {i e}, slotAt (St.init n c tot s0 img0 : St Rq Rs σ).slots i ≠ some e :=
    fun h => by rw [St.init, slotAt_replicate] at h; cases h
  exact ⟨fun _ _ _ _ h => absurd h hfree, fun _ _ h => absurd h hfree, fun _ _ _ _ h => absurd h hfree,
    fun _ _ _ h => absurd h hfree, fun _ _ => rfl, fun _ _ _ h => absurd h hfree, fun _ _ _ h => absurd h hfree,
    fun _ _ _ h => (nomatch h), trivial, rfl⟩

/-- Frame rule: slot `j`, the only one `tj` may hold, is overwritten with `v`; the other tasks' histories
    stay. What the step owes: the clauses for `v`, for `tj`, and for the new log. -/
theorem Inv.frame {S : Sys Rq Rs σ} {s0 : σ} {st st' : St Rq Rs σ} (h : Inv S s0 st) {j tj : Nat}
    {v : Option (Entry Rq Rs)} (hj : j < st.slots.length) (hslots : st'.slots = st.slots.set j v)
    (hown : ∀ i e, slotAt st.slots i = some e → (e.task = tj ↔ i = j))
    (htot : st.total ≤ st'.total)
    (hresp : ∀ t, t ≠ tj → respsOf t st'.log = respsOf t st.log)
    (hgot : ∀ t, t ≠ tj → st'.got t = st.got t)
    (hmem : ∀ x, x ∈ st.log → x ∈ st'.log)
    (hnew : ∀ e, v = some e → e.task = tj ∧ e.abs < st'.total ∧
      (∀ i e', i ≠ j → slotAt st.slots i = some e' → e.stage.awaiting = true → e'.stage.awaiting = true →
        e.idx ≠ e'.idx) ∧
      (∀ rq, e.stage.req? = some rq →
        rq = e.req ∧ respsOf tj st'.log = st'.got tj ∧ S.tasks tj (st'.got tj) = some rq) ∧
      (∀ rs, e.stage.resp? = some rs → respsOf tj st'.log = st'.got tj ++ [rs] ∧ (tj, e.req, rs) ∈ st'.log))
    (hfree : v = none → respsOf tj st'.log = st'.got tj)
    (hprog : ∀ t, Follows (S.tasks t) (reqsOf t st'.log) (respsOf t st'.log))
    (hvalid : Valid S.seg s0 st'.log) (hends : endState S.seg s0 st'.log = st'.seg) : Inv S s0 st' := by
  have hS : ∀ {i e}, slotAt st'.slots i = some e → i = j ∧ v = some e ∨ i ≠ j ∧ slotAt st.slots i = some e :=
    fun hi => slotAt_set_some hj (hslots ▸ hi)
  have hj' : slotAt st'.slots j = v := by rw [hslots, slotAt_set j hj, if_pos rfl]
  have hoth : ∀ i e, i ≠ j → slotAt st.slots i = some e → e.task ≠ tj :=
    fun i e hne hi ht => hne ((hown i e hi).1 ht)
  -- an old entry elsewhere keeps its clauses: its task's history is untouched
  have hkeep : ∀ {i e}, i ≠ j → slotAt st.slots i = some e →
      respsOf e.task st'.log = respsOf e.task st.log ∧ st'.got e.task = st.got e.task :=
    fun hi he => ⟨hresp _ (hoth _ _ hi he), hgot _ (hoth _ _ hi he)⟩
  refine ⟨?_, ?_, ?_, ?_, ?_, ?_, ?_, hprog, hvalid, hends⟩
  · intro i i' ei ej hi hi' htk
    rcases hS hi with ⟨rfl, hv⟩ | ⟨hne, hi⟩ <;> rcases hS hi' with ⟨rfl, hv'⟩ | ⟨hne', hi'⟩
    · rfl
    · exact absurd (htk.symm.trans (hnew ei hv).1) (hoth i' ej hne' hi')
    · exact absurd (htk.trans (hnew ej hv').1) (hoth i ei hne hi)
    · exact h.uniq i i' ei ej hi hi' htk
  · intro i e hi
    rcases hS hi with ⟨rfl, hv⟩ | ⟨hne, hi⟩
    · exact (hnew e hv).2.1
    · exact Nat.lt_of_lt_of_le (h.fresh i e hi) htot
  · intro i i' ei ej hi hi' ai aj hidx
    rcases hS hi with ⟨rfl, hv⟩ | ⟨hne, hi⟩ <;> rcases hS hi' with ⟨rfl, hv'⟩ | ⟨hne', hi'⟩
    · rfl
    · exact absurd hidx ((hnew ei hv).2.2.1 i' ej hne' hi' ai aj)
    · exact absurd hidx.symm ((hnew ej hv').2.2.1 i ei hne hi aj ai)
    · exact h.idx i i' ei ej hi hi' ai aj hidx
  · intro i e rq hi hs
    rcases hS hi with ⟨rfl, hv⟩ | ⟨hne, hi⟩
    · exact ((hnew e hv).2.2.2.1 rq hs).1
    · exact h.outreq i e rq hi hs
  · intro t hno
    by_cases ht : t = tj
    · subst ht
      cases hv : v with
      | none => exact hfree hv
      | some e => exact absurd (hnew e hv).1 (hno j e (hj'.trans hv))
    · rw [hresp t ht, hgot t ht]
      refine h.idle t fun i e hi => ?_
      by_cases hij : i = j
      · exact fun he => ht (he.symm.trans ((hown i e hi).2 hij))
      · exact hno i e (by rw [hslots, slotAt_set i hj, if_neg hij]; exact hi)
  · intro i e rq hi hs
    rcases hS hi with ⟨rfl, hv⟩ | ⟨hne, hi⟩
    · rw [(hnew e hv).1]; exact ((hnew e hv).2.2.2.1 rq hs).2
    · rw [(hkeep hne hi).1, (hkeep hne hi).2]; exact h.outs i e rq hi hs
  · intro i e rs hi hs
    rcases hS hi with ⟨rfl, hv⟩ | ⟨hne, hi⟩
    · rw [(hnew e hv).1]; exact (hnew e hv).2.2.2.2 rs hs
    · rw [(hkeep hne hi).1, (hkeep hne hi).2]
      exact (h.backs i e rs hi hs).imp_right (hmem _)

theorem selTask_none {t : Nat} {e : Entry Rq Rs} (h : selTask t e = none) : e.task ≠ t :=
  fun ht => by rw [selTask, if_pos ht] at h; cases h

theorem selTask_some {t : Nat} {e : Entry Rq Rs} {u : Unit} (h : selTask t e = some u) : e.task = t :=
  Classical.byContradiction fun ht => by rw [selTask, if_neg ht] at h; cases h

theorem selOut_some {u : Nat} {e : Entry Rq Rs} {rq : Rq} (h : selOut u e = some rq) :
    e.stage = .out u rq := by
  revert h
  fun_cases selOut u e <;> intro h
  · cases h; subst_vars; assumption
  · cases h
  · cases h

theorem selBack_some {u : Nat} {e : Entry Rq Rs} {rs : Rs} (h : selBack u e = some rs) :
    e.stage = .back u rs := by
  revert h
  fun_cases selBack u e <;> intro h
  · cases h; subst_vars; assumption
  · cases h
  · cases h

theorem selDone_some {t : Nat} {e : Entry Rq Rs} {rs : Rs} (h : selDone t e = some rs) :
    e.task = t ∧ e.stage = .done rs := by
  revert h
  fun_cases selDone t e <;> intro h
  · cases h; exact ⟨‹_›, ‹_›⟩
  · cases h
  · cases h

section

variable {S : Sys Rq Rs σ} {s0 : σ} {st : St Rq Rs σ}

theorem Inv.owner (h : Inv S s0 st) {j : Nat} {e : Entry Rq Rs} (hj : slotAt st.slots j = some e) :
    ∀ i e', slotAt st.slots i = some e' → (e'.task = e.task ↔ i = j) :=
  fun i e' hi => ⟨h.uniq i j e' e hi hj, fun hij => by subst hij; cases hj.symm.trans hi; rfl⟩

theorem inv_issue (t : Nat) (h : Inv S s0 st) (hw : WindowOk st) : Inv S s0 (issue S st t) := by
  unfold issue
  split
  · exact h
  · next hfree =>
    have hold : ∀ i e, slotAt st.slots i = some e → e.task ≠ t :=
      fun i e hi => selTask_none (findSlot_none hfree i e hi)
    split
    · exact h
    · next rq hrq =>
      split
      · exact ⟨h.uniq, h.fresh, h.idx, h.outreq, h.idle, h.outs, h.backs, h.prog, h.valid, h.ends⟩
      · next k c hal =>
        obtain ⟨hk, hkfree⟩ := allocLoop_some hal
        refine h.frame (tj := t) hk rfl
          (fun i e hi => ⟨fun ht => absurd ht (hold i e hi), fun hij => by subst hij; cases hkfree.symm.trans hi⟩)
          (Nat.le_trans (Nat.le_add_right _ _) (Nat.le_add_right _ _)) (fun _ _ => rfl) (fun _ _ => rfl)
          (fun _ hx => hx) ?_ (fun hv => (nomatch hv)) h.prog h.valid h.ends
        rintro _ ⟨⟩
        refine ⟨rfl, Nat.lt_succ_of_le (Nat.le_add_right _ _), fun m em _ hm _ am => ?_,
          fun rq' hs => ?_, fun _ hs => (nomatch hs)⟩
        · -- fewer than 256 indices since `em` was allocated: its marker differs from the new one
          exact mod_ne_of_sub_lt (h.fresh m em hm) (hw m em hm am)
        · cases hs; exact ⟨rfl, h.idle t hold, hrq⟩

theorem inv_arrive (u : Nat) (h : Inv S s0 st) : Inv S s0 (arrive S st u) := by
  unfold arrive
  split
  · exact h
  · next j e rq hfind =>
    obtain ⟨hj, hsel⟩ := findSlot_some hfind
    have hes := selOut_some hsel
    have hes' : e.stage.req? = some rq := by rw [hes]; rfl
    have ho := h.outs j e rq hj hes'
    have hlog : ∀ t, t ≠ e.task →
        respsOf t (st.log ++ [(e.task, rq, (S.seg st.seg rq).2)]) = respsOf t st.log :=
      fun t ht => by rw [respsOf_append, if_neg (Ne.symm ht)]
    refine h.frame (slotAt_lt hj) rfl (h.owner hj) (Nat.le_refl _) hlog
      (fun _ _ => rfl) (fun _ => List.mem_append_left _) ?_ (fun hv => (nomatch hv)) (fun t' => ?_) ?_ ?_
    · rintro _ ⟨⟩
      refine ⟨rfl, h.fresh j e hj, fun i e' hne hi _ ai hidx => ?_, fun _ hs => (nomatch hs), fun rs hs => ?_⟩
      · exact hne (h.idx i j e' e hi hj ai (by rw [hes]; rfl) hidx.symm)
      · cases hs
        exact ⟨by rw [respsOf_append, if_pos rfl, ho.1],
          List.mem_append_right _ (by rw [h.outreq j e rq hj hes']; exact List.mem_singleton_self _)⟩
    · show Follows _ (reqsOf t' (st.log ++ _)) (respsOf t' (st.log ++ _))
      rw [respsOf_append, reqsOf_append]
      by_cases h1 : e.task = t'
      · subst h1
        rw [if_pos rfl, if_pos rfl]
        exact follows_append _ (h.prog e.task) (reqsOf_length _ _) (ho.1 ▸ ho.2)
      · rw [if_neg h1, if_neg h1]; exact h.prog t'
    · exact (valid_append ..).2 ⟨h.valid, by rw [h.ends]⟩
    · exact (endState_append ..).trans (by rw [h.ends])

/-- Transparent transport, state form: the response travelling for slot `j` is routed to slot `j`. -/
theorem route_self (h : Inv S s0 st) {j : Nat} {e : Entry Rq Rs} (hj : slotAt st.slots j = some e)
    (ha : e.stage.awaiting = true) : route st.slots e.idx = some (j, e, ()) := by
  obtain ⟨⟨j', e', u⟩, hr⟩ := findSlot_isSome (f := selRoute e.idx) hj (if_pos ⟨ha, rfl⟩)
  obtain ⟨hj', hs'⟩ := findSlot_some hr
  have hcond : e'.stage.awaiting = true ∧ e'.idx = e.idx :=
    Classical.byContradiction fun hc => by rw [selRoute, if_neg hc] at hs'; cases hs'
  obtain rfl : j' = j := h.idx j' j e' e hj' hj hcond.1 ha hcond.2
  cases hj.symm.trans hj'
  exact hr

theorem deliver_eq (h : Inv S s0 st) {u j : Nat} {e : Entry Rq Rs} {rs : Rs}
    (hfind : findSlot (selBack u) st.slots = some (j, e, rs)) :
    deliver st u = { st with slots := st.slots.set j (some { e with stage := .done rs }) } := by
  obtain ⟨hj, hsel⟩ := findSlot_some hfind
  have hr := route_self h hj (by rw [selBack_some hsel]; rfl)
  simp only [deliver, hfind, hr, List.set_set]

theorem inv_deliver (u : Nat) (h : Inv S s0 st) : Inv S s0 (deliver st u) := by
  cases hfind : findSlot (selBack u) st.slots with
  | none => unfold deliver; rw [hfind]; exact h
  | some r =>
    obtain ⟨j, e, rs⟩ := r
    rw [deliver_eq h hfind]
    obtain ⟨hj, hsel⟩ := findSlot_some hfind
    have hb := h.backs j e rs hj (by rw [selBack_some hsel]; rfl)
    refine h.frame (slotAt_lt hj) rfl (h.owner hj) (Nat.le_refl _) (fun _ _ => rfl)
      (fun _ _ => rfl) (fun _ hx => hx) ?_ (fun hv => (nomatch hv)) h.prog h.valid h.ends
    rintro _ ⟨⟩
    exact ⟨rfl, h.fresh j e hj, fun _ _ _ _ ai => (nomatch ai), fun _ hs => (nomatch hs),
      fun _ hs => (by cases hs; exact hb)⟩

theorem inv_consume (t : Nat) (h : Inv S s0 st) : Inv S s0 (consume S st t) := by
  unfold consume
  split
  · exact h
  · next j e rs hfind =>
    obtain ⟨hj, hsel⟩ := findSlot_some hfind
    obtain ⟨rfl, hes⟩ := selDone_some hsel
    have hb := h.backs j e rs hj (by rw [hes]; rfl)
    refine h.frame (slotAt_lt hj) rfl (h.owner hj) (Nat.le_refl _) (fun _ _ => rfl)
      (fun t ht => if_neg ht) (fun _ hx => hx) (fun _ hv => (nomatch hv)) (fun _ => ?_) h.prog h.valid h.ends
    exact hb.1.trans (if_pos rfl).symm

theorem inv_step (S : Sys Rq Rs σ) (s0 : σ) (st : St Rq Rs σ) (a : Act)
    (h : Inv S s0 st) (hw : (∃ t, a = .issue t) → WindowOk st) : Inv S s0 (step S st a) := by
  cases a with
  | issue t => exact inv_issue t h (hw ⟨t, rfl⟩)
  | arrive t => exact inv_arrive t h
  | deliver t => exact inv_deliver t h
  | consume t => exact inv_consume t h

theorem inv_run {sched : List Act} (h : Inv S s0 st) (ha : Admissible S st sched) : Inv S s0 (run S st sched) := by
  induction sched generalizing st with
  | nil => exact h
  | cons a rest ih => exact ih (inv_step S s0 st a h ha.1) ha.2

theorem got_prefix (h : Inv S s0 st) (t : Nat) :
    st.got t <+: respsOf t st.log ∧ (findSlot (selTask t) st.slots = none → st.got t = respsOf t st.log) := by
  cases hf : findSlot (selTask t) st.slots with
  | none =>
    have := h.idle t (fun i e hi => selTask_none (findSlot_none hf i e hi))
    exact ⟨this ▸ List.prefix_refl _, fun _ => this.symm⟩
  | some r =>
    obtain ⟨j, e, u⟩ := r
    obtain ⟨hj, hsel⟩ := findSlot_some hf
    obtain rfl := selTask_some hsel
    refine ⟨?_, fun hn => nomatch hn⟩
    cases hs : e.stage with
    | out u rq => rw [(h.outs j e rq hj (by rw [hs]; rfl)).1]; exact List.prefix_refl _
    | back u rs => rw [(h.backs j e rs hj (by rw [hs]; rfl)).1]; exact List.prefix_append _ _
    | done rs => rw [(h.backs j e rs hj (by rw [hs]; rfl)).1]; exact List.prefix_append _ _

theorem windowOkB_sound (h : windowOkB st = true) : WindowOk st := by
  intro i e hi ha
  have hl := slotAt_lt hi
  have := List.all_eq_true.1 h (some e) (by rw [← hi, slotAt_getElem hl]; exact List.getElem_mem hl)
  simpa [ha] using this

theorem admissibleB_sound (S : Sys Rq Rs σ) (st : St Rq Rs σ) (sched : List Act)
    (h : admissibleB S st sched = true) : Admissible S st sched := by
  induction sched generalizing st with
  | nil => trivial
  | cons a rest ih =>
    simp only [admissibleB, Bool.and_eq_true] at h
    refine ⟨?_, ih _ h.2⟩
    rintro ⟨t, rfl⟩
    exact windowOkB_sound h.1

theorem issue_img (S : Sys Rq Rs σ) (st : St Rq Rs σ) (t : Nat) : (issue S st t).img = st.img := by
  fun_cases issue S st t <;> rfl

theorem arrive_img (S : Sys Rq Rs σ) (st : St Rq Rs σ) (t : Nat) : (arrive S st t).img = st.img := by
  fun_cases arrive S st t <;> rfl

theorem deliver_img (st : St Rq Rs σ) (t : Nat) : (deliver st t).img = st.img := by
  fun_cases deliver st t <;> rfl

/-- All claimed slots belong to tasks below `m`. -/
def Bounded (m : Nat) (st : St Rq Rs σ) : Prop := ∀ i e, slotAt st.slots i = some e → e.task < m

theorem Bounded.set {m : Nat} {st st' : St Rq Rs σ} (hb : Bounded m st) {j : Nat} {v : Option (Entry Rq Rs)}
    (hj : j < st.slots.length) (hs : st'.slots = st.slots.set j v) (hv : ∀ e, v = some e → e.task < m) :
    Bounded m st' :=
  fun i e hi => (slotAt_set_some hj (hs ▸ hi)).elim (fun h => hv e h.2) fun h => hb i e h.2

theorem issue_fails (t : Nat) (hn : st.slots.length ≤ 256)
    (hfree : inFlight st.slots < st.slots.length) : (issue S st t).fails = st.fails := by
  obtain ⟨k, c', hal, _⟩ := alloc_complete st.slots st.cursor hfree hn
  fun_cases issue S st t
  case case3 hal' => cases hal.symm.trans hal'
  all_goals rfl

/-- Nothing is refused: by pigeonhole a task that holds no slot finds one free. -/
theorem step_storage {m : Nat} {a : Act} (h : Inv S s0 st) (hb : Bounded m st) (ha : ∀ t, a = .issue t → t < m)
    (hm : m ≤ st.slots.length) (hn : st.slots.length ≤ 256) :
    Bounded m (step S st a) ∧ (step S st a).slots.length = st.slots.length ∧ (step S st a).fails = st.fails := by
  cases a with
  | issue t =>
    show Bounded m (issue S st t) ∧ (issue S st t).slots.length = _ ∧ (issue S st t).fails = _
    fun_cases issue S st t
    case case3 hfree _ _ _ hal =>
      obtain ⟨k, c', hal', _⟩ := alloc_complete st.slots st.cursor (Nat.lt_of_lt_of_le
        (inFlight_lt_tasks (ha t rfl) h.uniq
          fun i e hi => ⟨hb i e hi, selTask_none (findSlot_none hfree i e hi)⟩) hm) hn
      cases hal'.symm.trans hal
    case case4 hal =>
      exact ⟨hb.set (allocLoop_some hal).1 rfl fun _ hv => by cases hv; exact ha t rfl,
        List.length_set, rfl⟩
    all_goals exact ⟨hb, rfl, rfl⟩
  | arrive u =>
    show Bounded m (arrive S st u) ∧ (arrive S st u).slots.length = _ ∧ (arrive S st u).fails = _
    fun_cases arrive S st u
    · exact ⟨hb, rfl, rfl⟩
    · next j e rq hfind =>
      have hj := (findSlot_some hfind).1
      exact ⟨hb.set (slotAt_lt hj) rfl fun _ hv => by cases hv; exact hb _ e hj, List.length_set, rfl⟩
  | deliver u =>
    show Bounded m (deliver st u) ∧ (deliver st u).slots.length = _ ∧ (deliver st u).fails = _
    cases hfind : findSlot (selBack u) st.slots with
    | none => unfold deliver; rw [hfind]; exact ⟨hb, rfl, rfl⟩
    | some r =>
      obtain ⟨j, e, rs⟩ := r
      rw [deliver_eq h hfind]
      have hj := (findSlot_some hfind).1
      exact ⟨hb.set (slotAt_lt hj) rfl fun _ hv => by cases hv; exact hb _ e hj, List.length_set, rfl⟩
  | consume t =>
    show Bounded m (consume S st t) ∧ (consume S st t).slots.length = _ ∧ (consume S st t).fails = _
    fun_cases consume S st t
    · exact ⟨hb, rfl, rfl⟩
    · next hfind =>
      exact ⟨hb.set (slotAt_lt (findSlot_some hfind).1) rfl fun _ hv => (nomatch hv), List.length_set, rfl⟩

theorem run_fails {m : Nat} {sched : List Act} (h : Inv S s0 st) (hb : Bounded m st) (hm : m ≤ st.slots.length)
    (hn : st.slots.length ≤ 256) (hadm : Admissible S st sched) (hbelow : TasksBelow m sched) :
    (run S st sched).fails = st.fails := by
  induction sched generalizing st with
  | nil => rfl
  | cons a rest ih =>
    obtain ⟨hb', hl, hf⟩ := step_storage h hb hbelow.1 hm hn
    exact (ih (inv_step S s0 st a h hadm.1) hb' (hl ▸ hm) (hl ▸ hn) hadm.2 hbelow.2).trans hf

end

end Ec.Tasks
