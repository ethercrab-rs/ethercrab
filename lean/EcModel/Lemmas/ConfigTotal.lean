/-
  C08: from `smLoop` up to the network, in every build mode. First agreement (`_agree`, no hypothesis); then no
  panic (`_noPanic`) under `Device.TypesOk` — the `u64` bit sums cannot overflow and the only unchecked operation
  left is the `u32` logical address, which needs thousands of devices to overflow; last the register properties
  that every write keeps (`Kept`).
-/
import EcModel.Lemmas.ConfigLoops

namespace Ec.Config
open Ec

theorem writeFmmuConfig_agree (m : Mode) {r : Regs} {fi off ty : Nat} {cfg : SmReg} :
    Agree (writeFmmuConfig .checked r fi off ty cfg) (writeFmmuConfig m r fi off ty cfg) :=
  Agree.refl.bind fun _ => (arith_agree m).bind fun _ => Agree.refl

section
variable {m : Mode} {ty : Nat} {bits bits' : Nat → Out Nat} {pick : Nat → Nat → Out (Option Nat)}

theorem smLoop_agree (hb : ∀ i, Agree (bits i) (bits' i)) {L : List (Nat × SmDesc)} {r : Regs} {off : Nat} :
    Agree (smLoop .checked ty bits pick L r off) (smLoop m ty bits' pick L r off) := by
  induction L generalizing r off with
  | nil => exact Agree.refl
  | cons x rest ih =>
    obtain ⟨i, sm⟩ := x
    simp only [smLoop]
    split
    · exact ih
    · refine (hb i).bind fun b => Agree.refl.bind fun lb => Agree.refl.bind fun fo => ?_
      cases fo with
      | none => exact ih
      | some fi => exact (writeFmmuConfig_agree m).bind fun _ => ih

end

theorem devBits_agree (m : Mode) {d : Device} {dir : Dir} {coe : Bool} (i : Nat) :
    Agree (devBits .checked d dir coe i) (devBits m d dir coe i) := by
  cases coe
  · exact eepromSmBitLen_agree m
  · simp only [devBits]
    cases d.coe i
    · exact Agree.refl
    · exact coeSmBitLen_agree m

theorem configureFmmus_agree (m : Mode) {d : Device} {st : DevState} {off gs : Nat} {dir : Dir} :
    Agree (configureFmmus .checked d st off gs dir) (configureFmmus m d st off gs dir) := by
  rw [configureFmmus_eq, configureFmmus_eq]
  split
  · exact Agree.refl
  · exact (smLoop_agree (devBits_agree m)).bind fun _ =>
      (subWrap_agree m).bind fun _ => (subWrap_agree m).bind fun _ => Agree.refl

theorem passDir_agree (m : Mode) {dir : Dir} {gs : Nat} {devs : List (Device × DevState)} {off : Nat} :
    Agree (passDir .checked dir gs off devs) (passDir m dir gs off devs) := by
  induction devs generalizing off with
  | nil => exact Agree.refl
  | cons x rest ih => exact (configureFmmus_agree m).bind fun _ => ih.bind fun _ => Agree.refl

theorem groupLayout_agree (m : Mode) {start : Nat} {devs : List (Device × DevState)} :
    Agree (groupLayout .checked start devs) (groupLayout m start devs) :=
  (passDir_agree m).bind fun _ => (subWrap_agree m).bind fun _ =>
    (passDir_agree m).bind fun _ => (subWrap_agree m).bind fun _ => Agree.refl

theorem groupConfigureFmmus_agree (m : Mode) {start maxPdi : Nat} {devs : List (Device × DevState)} :
    Agree (groupConfigureFmmus .checked start maxPdi devs) (groupConfigureFmmus m start maxPdi devs) :=
  (groupLayout_agree m).bind fun _ => Agree.refl

theorem groupStarts_agree (m : Mode) {mps : List Nat} {off : Nat} :
    Agree (groupStarts .checked off mps) (groupStarts m off mps) := by
  induction mps generalizing off with
  | nil => exact Agree.refl
  | cons mp rest ih => exact (arith_agree m).bind fun _ => ih.bind fun _ => Agree.refl

theorem initPhase_agree (m : Mode) {n : Net} : Agree (initPhase .checked n) (initPhase m n) := by
  unfold initPhase
  split
  · exact Agree.refl
  · exact (groupStarts_agree m).bind fun _ => Agree.refl

/-- The numbers of a device description fit the Rust types the MainDevice reads them into. -/
structure Device.TypesOk (d : Device) : Prop where
  /-- `DefaultMailbox::{subdevice_receive_size, subdevice_send_size}: u16`. -/
  mbx : d.mailbox.recvSize < 65536 ∧ d.mailbox.sendSize < 65536
  /-- `oversampling_config: &[(u16, u16)]`. -/
  os : ∀ p ∈ d.oversampling, p.2 < 65536
  /-- `heapless::Vec<Pdo, 64>` (more: `Error::Capacity`, C13 `collections_bounded`), `Pdo::bit_len: u16`. -/
  tx : d.txPdos.length ≤ 64 ∧ ∀ p ∈ d.txPdos, p.bitLen < 65536
  rx : d.rxPdos.length ≤ 64 ∧ ∀ p ∈ d.rxPdos, p.bitLen < 65536
  /-- sub-index 0 of an assignment / mapping object is read as `u8`; `Mapping::mapping_bit_len: u8`. -/
  coe : ∀ i pdos, d.coe i = some pdos →
    pdos.length ≤ 255 ∧ ∀ p ∈ pdos, p.mappings.length ≤ 255 ∧ ∀ b ∈ p.mappings, b < 256

theorem writeFmmuConfig_noPanic (m : Mode) (r : Regs) (fi ty : Nat) {off : Nat} {cfg : SmReg}
    (h : off + cfg.len < 4294967296) :
    NoPanic (writeFmmuConfig m r fi off ty cfg) (fun p => p.2 = off + cfg.len) := by
  unfold writeFmmuConfig
  refine NoPanic.bind (Q := fun _ => True) ?_ fun f _ => (arith_noPanic m (by unfold U32; omega)).bind fun _ e => e
  split
  · unfold extendLen; split <;> trivial
  · trivial

section
variable {m : Mode} {ty : Nat} {bits : Nat → Out Nat} {pick : Nat → Nat → Out (Option Nat)}

/-- Every sync manager advances the logical address by at most 65535 bytes. -/
theorem smLoop_noPanic (hb : ∀ i, NoPanic (bits i) fun _ => True) (hp : ∀ i b, NoPanic (pick i b) fun _ => True)
    (L : List (Nat × SmDesc)) (r : Regs) (off : Nat) (hoff : off + 65535 * L.length < 4294967296) :
    NoPanic (smLoop m ty bits pick L r off) (fun res => off ≤ res.2 ∧ res.2 ≤ off + 65535 * L.length) := by
  induction L generalizing r off with
  | nil => exact ⟨Nat.le_refl _, Nat.le_add_right _ _⟩
  | cons x rest ih =>
    obtain ⟨i, sm⟩ := x
    simp only [List.length_cons, Nat.mul_add, Nat.mul_one] at hoff ⊢
    simp only [smLoop]
    split
    · exact (ih r off (room_skip hoff)).mono fun res h => ⟨h.1, within_skip h.2⟩
    · refine (hb i).bind fun b _ => (lenBytes_noPanic b).bind fun lb hlb => (hp i b).bind fun fo _ => ?_
      cases fo with
      | none => exact (ih _ off (room_skip hoff)).mono fun res h => ⟨h.1, within_skip h.2⟩
      | some fi =>
        have hlb : lb ≤ 65535 := Nat.le_of_lt_succ hlb.2
        have hr := room_step hlb hoff
        refine (writeFmmuConfig_noPanic m _ fi ty (Nat.lt_of_le_of_lt (Nat.le_add_right _ _) hr)).bind ?_
        rintro ⟨r', _⟩ (rfl : _ = off + lb)
        exact (ih r' _ hr).mono fun res h => ⟨Nat.le_trans (Nat.le_add_right _ _) h.1, within_step hlb h.2⟩

end

theorem devBits_noPanic (m : Mode) {d : Device} (hd : d.TypesOk) (dir : Dir) (coe : Bool) (i : Nat) :
    NoPanic (devBits m d dir coe i) fun _ => True := by
  cases coe
  · have hp : (d.pdos dir).length ≤ 64 ∧ ∀ p ∈ d.pdos dir, p.bitLen < 65536 := by
      cases dir
      · exact hd.tx
      · exact hd.rx
    exact eepromSmBitLen_noPanic m hd.os i _ 0 (mul_len_lt hp.1 (by decide)) hp.2
  · simp only [devBits]
    cases hco : d.coe i with
    | none => trivial
    | some pdos =>
      obtain ⟨hlen, hmap⟩ := hd.coe i pdos hco
      exact coeSmBitLen_noPanic m hd.os pdos 0 (mul_len_lt hlen (by decide)) hmap

theorem devPick_noPanic (d : Device) (dir : Dir) (coe : Bool) (i b : Nat) :
    NoPanic (devPick d dir coe i b) fun _ => True := by
  cases coe
  · trivial
  · simp only [devPick]
    split
    · cases position dir.fmmuType d.fmmuUsage <;> trivial
    · trivial

/-- One direction on one device: at most 8 sync managers of at most 65535 bytes each. -/
theorem configureFmmus_noPanic (m : Mode) {d : Device} (hd : d.TypesOk) (st : DevState) {off gs : Nat} (dir : Dir)
    (hgs : gs ≤ off) (hoff : off + 524280 < 4294967296) :
    NoPanic (configureFmmus m d st off gs dir) (fun res => off ≤ res.1 ∧ res.1 ≤ off + 524280) := by
  rw [configureFmmus_eq]
  split
  · trivial
  · have hlen : 65535 * (enumFrom 0 d.sms).length ≤ 524280 :=
      Nat.mul_le_mul_left 65535 (show _ ≤ 8 by rw [enumFrom_length]; exact Nat.le_of_not_lt ‹_›)
    have hl := smLoop_noPanic (m := m) (ty := dir.smType) (devBits_noPanic m hd dir st.hasCoe)
      (devPick_noPanic d dir st.hasCoe) (enumFrom 0 d.sms) st.regs off
      (Nat.lt_of_le_of_lt (Nat.add_le_add_left hlen off) hoff)
    refine (hl.mono fun p hp => (⟨hp.1, Nat.le_trans hp.2 (Nat.add_le_add_left hlen off)⟩ :
      off ≤ p.2 ∧ p.2 ≤ off + 524280)).bind fun p hp => ?_
    exact (subWrap_noPanic m hgs).bind fun _ _ => (subWrap_noPanic m (Nat.le_trans hgs hp.1)).bind fun _ _ => hp

/-- The devices come out in the order they went in, so `TypesOk` carries over to the second pass. -/
theorem passDir_noPanic (m : Mode) (dir : Dir) (gs : Nat) (devs : List (Device × DevState)) (off : Nat)
    (hty : ∀ d ∈ devs.map (·.1), d.TypesOk) (hgs : gs ≤ off) (hoff : off + 524280 * devs.length < 4294967296) :
    NoPanic (passDir m dir gs off devs) (fun res =>
      (off ≤ res.1 ∧ res.1 ≤ off + 524280 * devs.length) ∧ res.2.map (·.1) = devs.map (·.1)) := by
  induction devs generalizing off with
  | nil => exact ⟨⟨Nat.le_refl _, Nat.le_add_right _ _⟩, rfl⟩
  | cons x rest ih =>
    obtain ⟨d, st⟩ := x
    simp only [List.length_cons, Nat.mul_add, Nat.mul_one] at hoff ⊢
    have hr := room_step (Nat.le_refl _) hoff
    refine (configureFmmus_noPanic m (hty d (by simp)) st dir hgs
      (Nat.lt_of_le_of_lt (Nat.le_add_right _ _) hr)).bind fun p hp => ?_
    have hr' : p.1 + 524280 * rest.length < 4294967296 := Nat.lt_of_le_of_lt (Nat.add_le_add_right hp.2 _) hr
    refine (ih p.1 (fun y hy => hty y (by simp [List.mem_map.1 hy])) (Nat.le_trans hgs hp.1) hr').bind fun q hq => ?_
    exact ⟨⟨Nat.le_trans hp.1 hq.1.1, within_step (Nat.le_refl _) (Nat.le_trans hq.1.2 (Nat.add_le_add_right hp.2 _))⟩,
      congrArg (d :: ·) hq.2⟩

/-- Each device needs at most 2 × 8 × 65535 bytes. -/
theorem groupLayout_noPanic (m : Mode) {start : Nat} {devs : List (Device × DevState)}
    (hty : ∀ d ∈ devs.map (·.1), d.TypesOk) (hsz : start + 1048560 * devs.length < 4294967296) :
    NoPanic (groupLayout m start devs) fun _ => True := by
  rw [show 1048560 * devs.length = 524280 * devs.length + 524280 * devs.length by rw [← Nat.add_mul]] at hsz
  unfold groupLayout
  refine (passDir_noPanic m .input start devs start hty (Nat.le_refl _) (by omega)).bind fun p1 hp1 => ?_
  have hlen : p1.2.length = devs.length := by simpa using congrArg List.length hp1.2
  refine (subWrap_noPanic m hp1.1.1).bind fun _ _ => ?_
  refine (passDir_noPanic m .output start p1.2 p1.1 (hp1.2 ▸ hty) hp1.1.1
    (by rw [hlen]; omega)).bind fun p2 hp2 => ?_
  exact (subWrap_noPanic m (Nat.le_trans hp1.1.1 hp2.1.1)).bind fun _ _ => trivial

theorem groupConfigureFmmus_noPanic (m : Mode) {start : Nat} {devs : List (Device × DevState)} (maxPdi : Nat)
    (hty : ∀ d ∈ devs.map (·.1), d.TypesOk) (hsz : start + 1048560 * devs.length < 4294967296) :
    NoPanic (groupConfigureFmmus m start maxPdi devs) fun _ => True :=
  (groupLayout_noPanic m hty hsz).bind fun g _ => by unfold checkLen; split <;> trivial

theorem groupStarts_noPanic (m : Mode) (mps : List Nat) (off : Nat) (hoff : off + 65535 * mps.length < 4294967296) :
    NoPanic (groupStarts m off mps) (fun starts => ∀ s ∈ starts, s ≤ off + 65535 * mps.length) := by
  induction mps generalizing off with
  | nil => intro s hs; simp at hs
  | cons mp rest ih =>
    simp only [List.length_cons, Nat.mul_add, Nat.mul_one] at hoff ⊢
    have hmp : mp % U16 ≤ 65535 := Nat.le_of_lt_succ (Nat.mod_lt _ (by decide))
    have hr := room_step hmp hoff
    refine (arith_noPanic m (Nat.lt_of_le_of_lt (Nat.le_add_right _ _) hr)).bind ?_
    rintro _ rfl
    refine (ih _ hr).bind fun l hl s hs => ?_
    rcases List.mem_cons.1 hs with rfl | hs
    · exact Nat.le_add_right _ _
    · exact within_step hmp (hl s hs)

theorem groupMapOrder_length (l seen : List Nat) : (groupMapOrder seen l).length ≤ seen.length + l.length := by
  induction l generalizing seen with
  | nil => exact Nat.le_refl _
  | cons g rest ih =>
    simp only [groupMapOrder]
    split
    · have := ih seen; simp only [List.length_cons]; omega
    · have := ih (g :: seen); simp only [List.length_cons] at this ⊢; omega

theorem initPhase_noPanic (m : Mode) {n : Net} (hsz : 0 + 65535 * n.devices.length < 4294967296) :
    NoPanic (initPhase m n) (fun gs => ∀ x ∈ gs, x.2 ≤ 65535 * n.devices.length) := by
  have hlen : (n.order.map n.maxPdi).length ≤ n.devices.length := by
    simpa [Net.order] using groupMapOrder_length (n.devices.map (·.2)) []
  unfold initPhase
  split
  · trivial
  · refine (groupStarts_noPanic m _ 0 (mul_len_lt hlen hsz)).bind fun starts hs x hx => ?_
    have := hs x.2 (List.of_mem_zip hx).2
    have := Nat.mul_le_mul_left 65535 hlen
    omega

theorem configNet_total {n : Net} (hty : ∀ x ∈ n.devices, x.1.TypesOk)
    (hsz : 65535 * n.devices.length + 1048560 * n.devices.length < 4294967296) :
    (∀ m, configNet m n = configNet .checked n) ∧
    NoPanic (configNet .checked n) (fun res => ∀ u ∈ res, ∀ w, u.2.2 ≠ .panic w) := by
  have hi := initPhase_noPanic .checked (n := n)
    (Nat.lt_of_le_of_lt (Nat.zero_add _ ▸ Nat.le_add_right _ _) hsz)
  have hgrp : ∀ gs, initPhase .checked n = .ok gs → ∀ x ∈ gs, ∀ m,
      NoPanic (groupConfigureFmmus m x.2 (n.maxPdi x.1) (n.members x.1)) fun _ => True := by
    intro gs hgs x hx m
    refine groupConfigureFmmus_noPanic m _ (fun d hd => ?_) ?_
    · simp only [Net.members, List.map_map, List.mem_map, List.mem_filter] at hd
      obtain ⟨y, ⟨hy, _⟩, rfl⟩ := hd
      exact hty y hy
    · have b1 := hi.post hgs x hx
      have b2 : (n.members x.1).length ≤ n.devices.length := by
        unfold Net.members; rw [List.length_map]; exact List.length_filter_le _ _
      exact Nat.lt_of_le_of_lt (Nat.add_le_add b1 (Nat.mul_le_mul_left 1048560 b2)) hsz
  have ha := fun m => initPhase_agree m (n := n) hi.ne_panic
  unfold configNet
  cases hgs : initPhase .checked n with
  | ok gs =>
    refine ⟨fun m => ?_, fun u hu w => ?_⟩
    · rw [ha m, hgs]
      refine congrArg Outcome.ok (List.map_congr_left fun x hx => ?_)
      rw [groupConfigureFmmus_agree m (hgrp gs hgs x hx .checked).ne_panic]
    · obtain ⟨x, hx, rfl⟩ := List.mem_map.1 hu
      exact (hgrp gs hgs x hx .checked).ne_panic w
  | err e => exact ⟨fun m => by rw [ha m, hgs]; rfl, trivial⟩
  | panic w => exact absurd hgs (hi.ne_panic w)

/-- A property of register files that both register writes keep. -/
structure Kept (m : Mode) (I : Regs → Prop) : Prop where
  sm : ∀ {r i sm lb}, I r → lb < 65536 → I (writeSmConfig r i sm lb).1
  fmmu : ∀ {r fi off ty cfg p}, I r → cfg.len < 65536 → writeFmmuConfig m r fi off ty cfg = .ok p → I p.1

section
variable {m : Mode} {ty : Nat} {bits : Nat → Out Nat} {pick : Nat → Nat → Out (Option Nat)}

theorem smLoop_kept {I : Regs → Prop} (hI : Kept m I) {L : List (Nat × SmDesc)} {r : Regs} {off : Nat}
    {res : Regs × Nat} (hr : I r) (h : smLoop m ty bits pick L r off = .ok res) : I res.1 := by
  induction L generalizing r off with
  | nil => cases h; exact hr
  | cons x rest ih =>
    obtain ⟨i, sm⟩ := x
    simp only [smLoop] at h
    split at h
    · exact ih hr h
    · simp only [bind_eq_ok, lenBytes_ok] at h
      obtain ⟨b, _, _, ⟨hlt, rfl⟩, fo, _, h⟩ := h
      have hw := hI.sm (i := i) (sm := sm) hr hlt
      cases fo with
      | none => exact ih hw h
      | some fi =>
        simp only [bind_eq_ok] at h
        obtain ⟨p, hp, h⟩ := h
        exact ih (hI.fmmu hw hlt hp) h

end

/-- Every sync manager / FMMU length in the register file fits the 16-bit register it is written to (so the
    model's natural numbers ARE the register contents). -/
def Regs.Rep (r : Regs) : Prop := ∀ k, (r.sm k).len < 65536 ∧ (r.fmmu k).length < 65536

/-- A fresh entity is written byte-aligned, a shared one only grows. -/
def Regs.Aligned (r : Regs) : Prop :=
  ∀ k, (r.fmmu k).enable = true → (r.fmmu k).startBit = 0 ∧ (r.fmmu k).endBit = 7 ∧ (r.fmmu k).physBit = 0

theorem Regs.Rep.kept (m : Mode) : Kept m Regs.Rep where
  sm {r i sm lb} hr hlb k := by
    refine ⟨?_, (hr k).2⟩
    by_cases hk : k = i
    · subst hk; exact (setSm_sm_same r k _).symm ▸ hlb
    · exact (setSm_sm_other r _ hk).symm ▸ (hr k).1
  fmmu {r fi off ty cfg p} hr hc h k := by
    obtain ⟨e, hlt⟩ := writeFmmuConfig_regs h
    rw [e]
    refine ⟨(hr k).1, ?_⟩
    by_cases hk : k = fi
    · subst hk
      rw [setFmmu_fmmu_same]; unfold Fmmu.written
      split
      · exact hlt ‹_›
      · exact hc
    · rw [setFmmu_fmmu_other _ _ hk]; exact (hr k).2

theorem Regs.Aligned.kept (m : Mode) : Kept m Regs.Aligned where
  sm hr _ := hr
  fmmu {r fi off ty cfg p} hr _ h k := by
    rw [(writeFmmuConfig_regs h).1]
    by_cases hk : k = fi
    · subst hk
      rw [setFmmu_fmmu_same]; unfold Fmmu.written
      split
      · exact fun _ => hr k ‹_›
      · exact fun _ => ⟨rfl, rfl, rfl⟩
    · rw [setFmmu_fmmu_other _ _ hk]; exact hr k

section
variable {m : Mode} {I : Regs → Prop} (hI : Kept m I)
include hI

theorem configureFmmus_kept {d : Device} {st : DevState} {off gs : Nat} {dir : Dir} {res : Nat × DevState}
    (hr : I st.regs) (h : configureFmmus m d st off gs dir = .ok res) : I res.2.regs := by
  rw [configureFmmus_eq] at h
  split at h
  · cases h
  · simp only [bind_eq_ok, Outcome.ok.injEq] at h
    obtain ⟨p, hp, _, _, _, _, rfl⟩ := h
    have := smLoop_kept hI hr hp
    cases dir <;> exact this

theorem passDir_kept {dir : Dir} {gs : Nat} {devs : List (Device × DevState)} {off : Nat}
    {res : Nat × List (Device × DevState)} (hr : ∀ x ∈ devs, I x.2.regs)
    (h : passDir m dir gs off devs = .ok res) : ∀ x ∈ res.2, I x.2.regs := by
  induction devs generalizing off res with
  | nil => cases h; exact hr
  | cons x rest ih =>
    obtain ⟨off', st', q, hc, hq, rfl⟩ := passDir_cons h
    intro y hy
    rcases List.mem_cons.1 hy with rfl | hy
    · exact configureFmmus_kept hI (hr _ (by simp)) hc
    · exact ih (fun z hz => hr z (by simp [hz])) hq y hy

theorem groupLayout_kept {start : Nat} {devs : List (Device × DevState)} {g : GroupLayout}
    (hr : ∀ x ∈ devs, I x.2.regs) (h : groupLayout m start devs = .ok g) : ∀ x ∈ g.devs, I x.2.regs := by
  simp only [groupLayout, bind_eq_ok, Outcome.ok.injEq] at h
  obtain ⟨q1, h1, _, _, q2, h2, _, _, rfl⟩ := h
  exact passDir_kept hI (passDir_kept hI hr h1) h2

end

theorem initDev_rep {d : Device} (hd : d.TypesOk) : (initDev d).regs.Rep :=
  initDev_kept d
    (fun hr hlb => (Regs.Rep.kept .checked).sm hr (by
      rcases hlb with rfl | rfl
      · exact hd.mbx.1
      · exact hd.mbx.2))
    fun _ => ⟨Nat.zero_lt_succ _, Nat.zero_lt_succ _⟩

end Ec.Config
