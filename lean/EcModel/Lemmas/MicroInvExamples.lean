/-
  Decision procedures for the hypotheses of the micro-step ownership theorems (so that concrete
  schedules can be checked by `decide`), and the concrete witness worlds used by `Props/C02Micro.lean`.

  Why the witnesses are "mid-execution" worlds: `Micro.begin` parses the operation strings
  (`String.splitOn`, `String.toNat?`), which the kernel cannot evaluate, so `decide` cannot run a
  program from its first operation. Each witness world below is therefore written down literally,
  PROVED to satisfy the invariant `MInv`, and additionally checked (`#guard`, executable model) to be
  exactly the world the model reaches from the fresh world with the stated string programs and
  schedule, in the form of the harness' case lines. (The real storage refuses a frame size below 28
  bytes: of the worlds below only `wRx`, with 40, has a size the harness can replay.)
-/
import EcModel.Lemmas.MicroInvMain

namespace Ec.Micro

theorem holds_rx_iff (t : Thread) (k : Nat) : Holds t k .rx ↔ t.pc.claim = some (k, .rx) :=
  ⟨fun h => h.resolve_right fun ⟨x, _, _, hx⟩ => (by revert hx; cases x.kind <;> intro hx <;> cases hx),
   Or.inl⟩

/-- Register of the future a thread is about to abandon (plain store of `None`). -/
def abandonReg : Pc → Option Nat
  | .dfStore r => some r
  | .poRelease r => some r
  | _ => none

theorem abandonReg_iff (pc : Pc) (r : Nat) : abandonReg pc = some r ↔ (pc = .dfStore r ∨ pc = .poRelease r) := by
  cases pc <;> simp [abandonReg]

theorem abandonInside_iff (w : MWorld) (tid : Nat) :
    AbandonInsideStep w tid ↔ ∃ t ∈ w.threads[tid]?, ∃ r ∈ abandonReg t.pc,
      (w.sys.slot (slotOf t r)).st = .sending ∨ ((w.sys.slot (slotOf t r)).st = .rxBusy ∧
        ∃ t' ∈ w.threads, t'.pc.claim = some (slotOf t r, .rx)) := by
  simp only [AbandonInsideStep, Option.mem_def, abandonReg_iff, holds_rx_iff]
  exact ⟨fun ⟨t, r, ht, hr, h⟩ => ⟨t, ht, r, hr, h⟩, fun ⟨t, ht, r, hr, h⟩ => ⟨t, r, ht, hr, h⟩⟩

instance (w : MWorld) (tid : Nat) : Decidable (AbandonInsideStep w tid) :=
  decidable_of_iff _ (abandonInside_iff w tid).symm

def safeSchedB : MWorld → List Tick → Bool
  | _, [] => true
  | w, x :: rest =>
    (match x with
     | .run tid => !decide (AbandonInsideStep w tid)
     | .advance _ => true) && safeSchedB (tick w x) rest

theorem safeSched_iff (w : MWorld) (sched : List Tick) : SafeSched w sched ↔ safeSchedB w sched = true := by
  induction sched generalizing w with
  | nil => simp [SafeSched, safeSchedB]
  | cons x rest ih =>
    cases x with
    | run tid => simp [SafeSched, safeSchedB, ih]
    | advance us => simp [SafeSched, safeSchedB, ih]

instance (w : MWorld) (sched : List Tick) : Decidable (SafeSched w sched) :=
  decidable_of_iff _ (safeSched_iff w sched).symm

instance (n : Nat) (t : Thread) : Decidable (PcOk n t) := by
  unfold PcOk
  refine @instDecidableAnd _ _ ?_ ?_
  · cases t.pc.needs with
    | none => exact isTrue trivial
    | some x => exact (inferInstance : Decidable (∃ h ∈ getH t.regs x.1, roleOf h.kind = x.2))
  · cases t.pc <;> first | exact isTrue trivial | exact Nat.decLt _ _

/-- Two threads on one slot: thread 0 has begun `al,0` (it is at `alloc_frame`'s first shared
    access), thread 1 has begun `tn,0` (`next_sendable_frame`). -/
def wStart : MWorld :=
  { sys := Sys.init 1 20,
    threads := [{ prog := [], pc := .alFetch 0 0, regs := [], outs := [] },
                { prog := [], pc := .tnCas 0 0, regs := [], outs := [] }] }

theorem wStart_inv : MInv wStart := MInv_of_check wStart 0 (by decide) (by decide) (by decide)

#guard (repr (runSched (initWorld 1 20 0 0 [["al,0"], ["tn,0"]]) [.run 0, .run 1])).pretty
    == (repr wStart).pretty

/-- Thread 0 ran `al,0; mk,0,0,1000` and has begun `df,0` (it is about to store `None`); thread 1 ran
    `tn,0` and holds the `SendableFrame` (status `Sending`); thread 2 has begun `al,0`. -/
def wTx : MWorld :=
  { sys := { data := 20,
             slots := [{ st := .sending, first := 65280, used := 0,
                         buf := [255, 255, 255, 255, 255, 255, 16, 16, 16, 16, 16, 16, 136, 164, 0, 16, 0, 0, 0, 0] }],
             frameIdx := 1, pduIdx := 0, now := 0, exit := false },
    threads := [{ prog := [], pc := .dfStore 0, regs := [{ reg := 0, slot := 0, kind := .fut 0 1000 1000 false }],
                  outs := ["ok", "ok.0"] },
                { prog := [], pc := .idle, regs := [{ reg := 0, slot := 0, kind := .sendable }],
                  outs := ["some.0"] },
                { prog := [], pc := .alFetch 0 0, regs := [], outs := [] }] }

def progsTx : List (List String) := [["al,0", "mk,0,0,1000", "df,0"], ["tn,0"], ["al,0"]]
def preTx : List Tick := List.replicate 10 (Tick.run 0) ++ [.run 1, .run 1, .run 0, .run 2]

#guard (repr (runSched (initWorld 1 20 0 0 progsTx) preTx)).pretty == (repr wTx).pretty

theorem wTx_inv : MInv wTx := MInv_of_check wTx 1 (by decide) (by decide) (by decide)

/-- Thread 0 ran `al,0; pu,0,brd.0.0,00,-; mk,0,0,1000` and has begun `df,0`; thread 1 ran
    `tn,0; ts,0,0` (frame sent); thread 2 is inside `receive_frame` for the response, after
    `claim_receiving` and the marker re-check, about to copy (status `RxBusy`); thread 3 has begun `al,0`. -/
def wRx : MWorld :=
  { sys := { data := 40,
             slots := [{ st := .rxBusy, first := 0, used := 13,
                         buf := [255, 255, 255, 255, 255, 255, 16, 16, 16, 16, 16, 16, 136, 164, 13, 16, 7, 0, 0, 0,
                                 0, 0, 1, 0, 0, 0, 0, 0, 0, 0, 0, 0, 0, 0, 0, 0, 0, 0, 0, 0] }],
             frameIdx := 1, pduIdx := 1, now := 0, exit := false },
    threads := [{ prog := [], pc := .dfStore 0, regs := [{ reg := 0, slot := 0, kind := .fut 0 1000 1000 false }],
                  outs := ["ok", "ok.0.0.7.13", "ok.0"] },
                { prog := [], pc := .idle, regs := [],
                  outs := ["ok.ffffffffffff10101010101088a40d1007000000000001000000000000", "some.0"] },
                { prog := [], pc := .rxCopy 0 [7, 0, 0, 0, 0, 0, 1, 0, 0, 0, 0, 1, 0], regs := [], outs := [] },
                { prog := [], pc := .alFetch 0 0, regs := [], outs := [] }] }

def progsRx : List (List String) :=
  [["al,0", "pu,0,brd.0.0,00,-", "mk,0,0,1000", "df,0"], ["tn,0", "ts,0,0"],
   ["rx,ffffffffffff12101010101088a40d1007000000000001000000000100"], ["al,0"]]
def preRx : List Tick :=
  List.replicate 14 (Tick.run 0) ++ List.replicate 5 (.run 1) ++ List.replicate 5 (.run 2) ++ [.run 0, .run 3]

#guard (repr (runSched (initWorld 1 40 0 0 progsRx) preRx)).pretty == (repr wRx).pretty

theorem wRx_inv : MInv wRx := MInv_of_check wRx 1 (by decide) (by decide) (by decide)

/-- As `wTx`, before the TX thread has claimed the frame (status `Sendable`): an abandonment the
    theorem covers. -/
def wSafe : MWorld :=
  { sys := { data := 20,
             slots := [{ st := .sendable, first := 65280, used := 0,
                         buf := [255, 255, 255, 255, 255, 255, 16, 16, 16, 16, 16, 16, 136, 164, 0, 16, 0, 0, 0, 0] }],
             frameIdx := 1, pduIdx := 0, now := 0, exit := false },
    threads := [{ prog := [], pc := .dfStore 0, regs := [{ reg := 0, slot := 0, kind := .fut 0 1000 1000 false }],
                  outs := ["ok", "ok.0"] },
                { prog := [], pc := .tnCas 0 0, regs := [], outs := [] },
                { prog := [], pc := .alFetch 0 0, regs := [], outs := [] }] }

#guard (repr (runSched (initWorld 1 20 0 0 progsTx) (List.replicate 10 (Tick.run 0) ++ [.run 1, .run 0, .run 2]))).pretty
    == (repr wSafe).pretty

theorem wSafe_inv : MInv wSafe := MInv_of_check wSafe 1 (by decide) (by decide) (by decide)

/-- Thread 0 ran `al,0` (slot 0, register 0) and is at the last step of a second `al,0` (slot 1): the
    new `CreatedFrame` goes into register 0, which is occupied. -/
def wClobber : MWorld :=
  { sys := { data := 20,
             slots := [{ st := .created, first := 65280, used := 0,
                         buf := [255, 255, 255, 255, 255, 255, 16, 16, 16, 16, 16, 16, 136, 164, 0, 0, 0, 0, 0, 0] },
                       { st := .created, first := 65280, used := 0,
                         buf := [0, 0, 0, 0, 0, 0, 0, 0, 0, 0, 0, 0, 0, 0, 0, 0, 0, 0, 0, 0] }],
             frameIdx := 2, pduIdx := 0, now := 0, exit := false },
    threads := [{ prog := [], pc := .alBuf 0 1, regs := [{ reg := 0, slot := 0, kind := .created 0 none }],
                  outs := ["ok.0"] }] }

#guard (repr (runSched (initWorld 2 20 0 0 [["al,0", "al,0"]]) (List.replicate 11 (Tick.run 0)))).pretty
    == (repr wClobber).pretty

end Ec.Micro
