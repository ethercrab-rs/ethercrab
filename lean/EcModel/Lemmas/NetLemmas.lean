/- The abstract segment (`EcModel.Net`): who executes what, and what a write leaves behind. -/
import EcModel.Net

namespace Ec.Net

theorem filter_range_unique (P : Nat → Bool) (i n : Nat) (h : ∀ p, p < n → (P p = true ↔ p = i)) :
    (List.range n).filter P = if i < n then [i] else [] := by
  induction n with
  | zero => rfl
  | succ n ih =>
    have hn := h n (Nat.lt_succ_self n)
    rw [List.range_succ, List.filter_append, ih fun p hp => h p (Nat.lt_succ_of_lt hp)]
    by_cases hni : n = i
    · subst hni
      rw [List.filter_cons_of_pos (hn.2 rfl), if_neg (Nat.lt_irrefl n), if_pos (Nat.lt_succ_self n)]; rfl
    · rw [List.filter_cons_of_neg fun hp => hni (hn.1 hp), List.filter_nil, List.append_nil]
      simp only [show i < n + 1 ↔ i < n by omega]

theorem apAddr_lt (idx : Nat) : apAddr idx < 65536 :=
  Nat.mod_lt _ (by decide)

theorem apExecutors_single {idx n : Nat} (hi : idx < n) (hn : n ≤ 65536) :
    apExecutors (apAddr idx) n = [idx] := by
  rw [apExecutors, filter_range_unique _ idx n, if_pos hi]
  intro p hp
  have hi' := Nat.lt_of_lt_of_le hi hn
  have hp' := Nat.lt_of_lt_of_le hp hn
  rw [beq_iff_eq, apAddr, Nat.mod_eq_of_lt hi', Nat.mod_add_mod]
  clear hi hn hp
  omega

theorem wkc_single (i : Nat) : wkc [i] = 1 := rfl

theorem wkc_bExecutors {n : Nat} (h : n ≤ 65535) : wkc (bExecutors n) = n := by
  rw [wkc, bExecutors, List.length_range]
  exact Nat.mod_eq_of_lt (Nat.lt_succ_of_le h)

theorem readLast_single {α : Type} (i : Nat) (col : List α) : readLast [i] col = col[i]? := rfl

theorem writeAt_length {α : Type} (ex : List Nat) (v : α) (col : List α) :
    (writeAt ex v col).length = col.length := List.length_mapIdx

theorem writeAt_getElem? {α : Type} (ex : List Nat) (v : α) (col : List α) (p : Nat) :
    (writeAt ex v col)[p]? = if p ∈ ex then col[p]?.map (fun _ => v) else col[p]? := by
  rw [writeAt, List.getElem?_mapIdx]
  by_cases h : p ∈ ex <;> simp [h]

theorem mem_writeAt {α : Type} {ex : List Nat} {v : α} {col : List α} {x : α}
    (h : x ∈ writeAt ex v col) : x = v ∨ x ∈ col := by
  obtain ⟨i, hi, rfl⟩ := List.mem_mapIdx.1 h
  split
  · exact .inl rfl
  · exact .inr (List.getElem_mem hi)

theorem writeAt_broadcast {α : Type} (v : α) (col : List α) :
    writeAt (bExecutors col.length) v col = List.replicate col.length v := by
  apply List.ext_getElem (by rw [writeAt_length, List.length_replicate])
  intro p hp _
  rw [writeAt_length] at hp
  simp [writeAt, bExecutors, hp]

end Ec.Net
