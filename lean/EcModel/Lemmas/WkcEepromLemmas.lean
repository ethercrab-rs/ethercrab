/-
  The multi-datagram EEPROM paths of EcModel.WkcEeprom (C11), taken apart into the datagrams they consumed:
  those of one completed chunk read (`ChunkSeg`) and of a `clear_errors` (`ClearOk`), the ways either fails on
  the wire (`ChunkFault`, `ClearFault`), what the chunk loop copies out of the data reads (`gather`) and where
  it stands after some of them (`advance`, `fills`), the datagrams of completed word writes (`wordsEvents`).
-/
import EcModel.Lemmas.WkcLemmas
import EcModel.WkcEeprom

namespace Ec.Wkc

section ChunkRead

/-- The datagrams of one `read_chunk` that ran to completion, as the MainDevice got them back: the
    answer to the read command (FPWR 0x0502, fire-and-forget: documented exempt), the SII status
    polls that said "busy", the one that said "idle" (FPRD 0x0502) and the data read (FPRD 0x0508). -/
structure ChunkSeg where
  cmd : Pdu
  busy : List Pdu
  idle : Pdu
  data : Pdu

def ChunkSeg.events (s : ChunkSeg) : List Ev :=
  .resp s.cmd :: (s.busy.map Ev.resp ++ [.resp s.idle, .resp s.data])

/-- Every datagram of the chunk read that the property REQUIRES to be checked — every status poll
    and the data read — came back with working counter 1. -/
def ChunkSeg.Checked (s : ChunkSeg) : Prop :=
  (∀ q ∈ s.busy, q.wkc = 1) ∧ s.idle.wkc = 1 ∧ s.data.wkc = 1

/-- The status register image decodes and its busy bit is `b`. -/
def SaysBusy (b : Bool) (p : Pdu) : Prop := ∃ c, unpackSii p.data = .ok c ∧ c.busy = b

/-- A chunk read by a device that answers everything: checked, and the polls say what their place
    in the sequence needs (busy …, then idle). -/
def ChunkSeg.Healthy (s : ChunkSeg) : Prop :=
  s.Checked ∧ (∀ q ∈ s.busy, SaysBusy true q) ∧ SaysBusy false s.idle

variable {p cmd : Pdu} {busy : List Pdu} {tr rest t f : List Ev}

theorem waitWhileBusy_resp {c : SiiControl} (hw : p.wkc = 1) (hc : unpackSii p.data = .ok c) :
    waitWhileBusy (.resp p :: t) = if c.busy then waitWhileBusy t else (.ok c, t) := by
  rw [waitWhileBusy, receive_resp hw, hc]

theorem waitWhileBusy_skip_busy (hb : ∀ q ∈ busy, q.wkc = 1 ∧ SaysBusy true q) :
    waitWhileBusy (busy.map Ev.resp ++ rest) = waitWhileBusy rest := by
  induction busy with
  | nil => rfl
  | cons q qs ih =>
    obtain ⟨hw, c, hc, hcb⟩ := hb q List.mem_cons_self
    rw [List.map_cons, List.cons_append, waitWhileBusy_resp hw hc, hcb, if_pos rfl]
    exact ih fun q' hq' => hb q' (List.mem_cons_of_mem _ hq')

theorem waitWhileBusy_idle (hw : p.wkc = 1) (hb : SaysBusy false p) (t : List Ev) :
    ∃ c, waitWhileBusy (.resp p :: t) = (.ok c, t) := by
  obtain ⟨c, hc, hcb⟩ := hb
  exact ⟨c, by rw [waitWhileBusy_resp hw hc, hcb]; rfl⟩

theorem readChunk_skip_busy (hb : ∀ q ∈ busy, q.wkc = 1 ∧ SaysBusy true q) :
    readChunk (.resp cmd :: (busy.map Ev.resp ++ f) ++ t) = readChunk (.resp cmd :: (f ++ t)) := by
  simp only [List.cons_append, List.append_assoc, readChunk, send_resp, waitWhileBusy_skip_busy hb]

theorem readChunk_healthy (s : ChunkSeg) (hs : s.Healthy) (t : List Ev) :
    readChunk (s.events ++ t) = (.ok s.data.data, t) := by
  obtain ⟨⟨hbw, hiw, hdw⟩, hbb, hib⟩ := hs
  obtain ⟨c, hc⟩ := waitWhileBusy_idle hiw hib (.resp s.data :: t)
  rw [ChunkSeg.events, readChunk_skip_busy fun q hq => ⟨hbw q hq, hbb q hq⟩]
  simp only [List.cons_append, List.nil_append, readChunk, send_resp, hc, receiveSlice_resp hdw]

theorem readChunk_ok_seg {d : List Nat} :
    readChunk tr = (.ok d, rest) → ∃ s : ChunkSeg, tr = s.events ++ rest ∧ s.Checked ∧ d = s.data.data := by
  fun_cases readChunk tr <;> intro h <;> cases h
  rename_i e0 t hsend _ e2 pd hslice hwait
  obtain ⟨p0, hp0⟩ := send_ok hsend
  cases exch_ok.1 hp0
  obtain ⟨polls, ps, rfl, hpolls, hps, _⟩ := waitWhileBusy_ok hwait
  obtain ⟨rfl, hw2⟩ := receiveSlice_exch_ok hslice
  exact ⟨⟨p0, polls, ps, pd⟩, by simp [ChunkSeg.events], ⟨hpolls, hps, hw2⟩, rfl⟩

/-- The ways one chunk read can fail on the wire while everything before the failing datagram was
    in order: the failing datagram is the command write (lost), a status poll at ANY position (after
    any number of answered busy polls) or the data read; it is lost, or comes back with a working
    counter other than 1, or (status polls only) the EEPROM timeout fires first. The second index is
    the error `read_chunk` returns. -/
inductive ChunkFault : List Ev → Err → Prop
  | cmdLost : ChunkFault [.lost] (.timeout .pdu)
  | poll (cmd : Pdu) (busy : List Pdu) (p : Pdu) :
      (∀ q ∈ busy, q.wkc = 1 ∧ SaysBusy true q) → p.wkc ≠ 1 →
      ChunkFault (.resp cmd :: (busy.map Ev.resp ++ [.resp p])) (.workingCounter 1 p.wkc)
  | pollLost (cmd : Pdu) (busy : List Pdu) :
      (∀ q ∈ busy, q.wkc = 1 ∧ SaysBusy true q) →
      ChunkFault (.resp cmd :: (busy.map Ev.resp ++ [.lost])) (.timeout .pdu)
  | pollDeadline (cmd : Pdu) (busy : List Pdu) (e : Ev) :
      (∀ q ∈ busy, q.wkc = 1 ∧ SaysBusy true q) → (e = .deadline ∨ e = .lostDeadline) →
      ChunkFault (.resp cmd :: (busy.map Ev.resp ++ [e])) (.timeout .eeprom)
  | data (cmd : Pdu) (busy : List Pdu) (idle p : Pdu) :
      (∀ q ∈ busy, q.wkc = 1 ∧ SaysBusy true q) → idle.wkc = 1 → SaysBusy false idle → p.wkc ≠ 1 →
      ChunkFault (.resp cmd :: (busy.map Ev.resp ++ [.resp idle, .resp p])) (.workingCounter 1 p.wkc)
  | dataLost (cmd : Pdu) (busy : List Pdu) (idle : Pdu) :
      (∀ q ∈ busy, q.wkc = 1 ∧ SaysBusy true q) → idle.wkc = 1 → SaysBusy false idle →
      ChunkFault (.resp cmd :: (busy.map Ev.resp ++ [.resp idle, .lost])) (.timeout .pdu)

theorem chunkFault_error {e : Err} (hf : ChunkFault f e) (t : List Ev) :
    readChunk (f ++ t) = (.error e, t) := by
  cases hf with
  | cmdLost => rfl
  | poll cmd busy p hb hw =>
    rw [readChunk_skip_busy hb]
    simp only [List.cons_append, List.nil_append, readChunk, send_resp, waitWhileBusy, receive_resp_mismatch hw]
  | pollLost cmd busy hb =>
    rw [readChunk_skip_busy hb]
    rfl
  | pollDeadline cmd busy e' hb he =>
    rw [readChunk_skip_busy hb]
    rcases he with rfl | rfl <;> rfl
  | data cmd busy idle p hb hiw hib hw =>
    obtain ⟨c, hc⟩ := waitWhileBusy_idle hiw hib (.resp p :: t)
    rw [readChunk_skip_busy hb]
    simp only [List.cons_append, List.nil_append, readChunk, send_resp, hc, receiveSlice_resp_mismatch hw]
  | dataLost cmd busy idle hb hiw hib =>
    obtain ⟨c, hc⟩ := waitWhileBusy_idle hiw hib (.lost :: t)
    rw [readChunk_skip_busy hb]
    simp only [List.cons_append, List.nil_append, readChunk, send_resp, hc]
    rfl

end ChunkRead

section ClearErrors

/-- The status register image decodes and `SiiControl::has_error` is `b`. -/
def HasErr (b : Bool) (p : Pdu) : Prop := ∃ c, unpackSii p.data = .ok c ∧ c.hasError = b

/-- The datagrams of a `clear_errors` that succeeded: the checked status read (FPRD 0x0502) and, if
    it showed error flags, the checked write-and-read-back of the reset (FPWR 0x0502, `send_receive`). -/
inductive ClearOk : List Ev → Prop
  | clean (p : Pdu) : p.wkc = 1 → HasErr false p → ClearOk [.resp p]
  | reset (p p2 : Pdu) : p.wkc = 1 → HasErr true p → p2.wkc = 1 → HasErr false p2 → ClearOk [.resp p, .resp p2]

theorem clearErrors_of_clearOk {c : List Ev} (hc : ClearOk c) (t : List Ev) : clearErrors (c ++ t) = (.ok (), t) := by
  cases hc with
  | clean p hw he =>
    obtain ⟨st, hst, hb⟩ := he
    simp only [List.cons_append, List.nil_append, clearErrors, receive_resp hw, hst, hb, Bool.false_eq_true, if_false]
  | reset p p2 hw he hw2 he2 =>
    obtain ⟨st, hst, hb⟩ := he
    obtain ⟨st2, hst2, hb2⟩ := he2
    simp only [List.cons_append, List.nil_append, clearErrors, receive_resp hw, hst, hb, if_true,
      sendReceive_resp hw2, hst2, hb2, Bool.false_eq_true, if_false]

theorem clearErrors_ok_clearOk {tr rest : List Ev} :
    clearErrors tr = (.ok (), rest) → ∃ c, ClearOk c ∧ tr = c ++ rest := by
  fun_cases clearErrors tr <;> intro h <;> cases h
  · rename_i e st h1 herr e2 st2 h2 herr2
    obtain ⟨p, rfl, hw, hu⟩ := receive_exch_ok h1
    obtain ⟨p2, rfl, hw2, hu2⟩ := sendReceive_exch_ok h2
    exact ⟨_, .reset p p2 hw ⟨st, hu, herr⟩ hw2 ⟨st2, hu2, Bool.eq_false_iff.2 herr2⟩, rfl⟩
  · rename_i e st h1 herr
    obtain ⟨p, rfl, hw, hu⟩ := receive_exch_ok h1
    exact ⟨_, .clean p hw ⟨st, hu, Bool.eq_false_iff.2 herr⟩, rfl⟩

/-- The ways `clear_errors` fails on the wire. -/
inductive ClearFault : List Ev → Err → Prop
  | status (p : Pdu) : p.wkc ≠ 1 → ClearFault [.resp p] (.workingCounter 1 p.wkc)
  | statusLost : ClearFault [.lost] (.timeout .pdu)
  | reset (p p2 : Pdu) : p.wkc = 1 → HasErr true p → p2.wkc ≠ 1 → ClearFault [.resp p, .resp p2] (.workingCounter 1 p2.wkc)
  | resetLost (p : Pdu) : p.wkc = 1 → HasErr true p → ClearFault [.resp p, .lost] (.timeout .pdu)

theorem clearFault_error {f : List Ev} {e : Err} (hf : ClearFault f e) (t : List Ev) :
    clearErrors (f ++ t) = (.error e, t) := by
  cases hf with
  | status p hw => simp only [List.cons_append, List.nil_append, clearErrors, receive_resp_mismatch hw]
  | statusLost => rfl
  | reset p p2 hw he hw2 =>
    obtain ⟨st, hst, hb⟩ := he
    simp only [List.cons_append, List.nil_append, clearErrors, receive_resp hw, hst, hb, if_true,
      sendReceive_resp_mismatch hw2]
  | resetLost p hw he =>
    obtain ⟨st, hst, hb⟩ := he
    simp only [List.cons_append, List.nil_append, clearErrors, receive_resp hw, hst, hb, if_true]
    rfl

end ClearErrors

section ReadLoop

/-- What the chunk loop copies out of the payloads of the data reads it consumed, starting at byte
    position `pos` with `want` bytes to go: each chunk loses its first byte when the position is
    odd; a chunk that more than fills the buffer is cut; the others are taken whole. -/
def gather (pos want : Nat) : List (List Nat) → List Nat
  | [] => []
  | d :: ds =>
    if want < (d.drop (pos % 2)).length then (d.drop (pos % 2)).take want
    else d.drop (pos % 2) ++ gather (pos + (d.drop (pos % 2)).length) (want - (d.drop (pos % 2)).length) ds

variable {pos want : Nat} {acc : List Nat} {tr : List Ev} {segs : List ChunkSeg}

theorem gather_subset {ds : List (List Nat)} {b : Nat} : b ∈ gather pos want ds → ∃ d ∈ ds, b ∈ d := by
  fun_induction gather pos want ds <;> intro hb
  case case1 => cases hb
  case case2 d _ _ => exact ⟨d, List.mem_cons_self, List.mem_of_mem_drop (List.mem_of_mem_take hb)⟩
  case case3 d _ _ ih =>
    rcases List.mem_append.1 hb with h | h
    · exact ⟨d, List.mem_cons_self, List.mem_of_mem_drop h⟩
    · obtain ⟨d', hd', hb'⟩ := ih h
      exact ⟨d', List.mem_cons_of_mem _ hd', hb'⟩

/-- One round of the chunk loop with room left in the buffer and in the address space. -/
theorem readLoop_step (hw : want ≠ 0) (hp : pos / 2 < 65536) :
    readLoop pos want acc tr =
      match readChunk tr with
      | (.error e, t) => (.error (.base e), t)
      | (.ok chunk, t) =>
        if chunk.length < pos % 2 then (.error .internal, t)
        else if want < (chunk.drop (pos % 2)).length then
          (.ok (acc ++ (chunk.drop (pos % 2)).take want, pos + want), t)
        else readLoop (pos + (chunk.drop (pos % 2)).length) (want - (chunk.drop (pos % 2)).length)
          (acc ++ chunk.drop (pos % 2)) t := by
  rw [readLoop, if_neg hw, if_neg (not_not_intro hp)]
  split <;> rename_i heq <;> simp only [heq]

theorem readLoop_ok {out : List Nat} {pos' : Nat} {rest : List Ev} :
    readLoop pos want acc tr = (.ok (out, pos'), rest) →
    ∃ segs : List ChunkSeg, tr = segs.flatMap ChunkSeg.events ++ rest ∧ (∀ s ∈ segs, s.Checked) ∧
      out = acc ++ gather pos want (segs.map fun s => s.data.data) ∧ out.length = acc.length + want := by
  fun_induction readLoop pos want acc tr <;> intro h
  case case1 => cases h; exact ⟨[], rfl, nofun, (List.append_nil _).symm, rfl⟩
  case case2 | case3 | case4 => cases h
  case case5 =>
    rename_i hlt
    obtain ⟨s, rfl, hchk, rfl⟩ := readChunk_ok_seg ‹readChunk _ = _›
    cases h
    exact ⟨[s], by simp, List.forall_mem_singleton.2 hchk,
      by simp only [List.map_cons, List.map_nil, gather, if_pos hlt],
      by rw [List.length_append, List.length_take, Nat.min_eq_left (Nat.le_of_lt hlt)]⟩
  case case6 ih =>
    rename_i hlt _
    obtain ⟨s, rfl, hchks, rfl⟩ := readChunk_ok_seg ‹readChunk _ = _›
    obtain ⟨segs, rfl, hchk, rfl, hl⟩ := ih h
    exact ⟨s :: segs, by simp, List.forall_mem_cons.2 ⟨hchks, hchk⟩,
      by simp only [List.map_cons, gather, if_neg hlt, List.append_assoc],
      by rw [hl, List.length_append, Nat.add_assoc, Nat.add_sub_cancel' (Nat.not_lt.1 hlt)]⟩

/-- Where the loop stands after consuming these data payloads without finishing: `some (pos', want')`
    with `want'` bytes still to go; `none` if it would have ended (buffer full, address overrun,
    internal error) before consuming them all. -/
def advance (pos want : Nat) : List (List Nat) → Option (Nat × Nat)
  | [] => some (pos, want)
  | d :: ds =>
    if want = 0 then none
    else if ¬ pos / 2 < 65536 then none
    else if d.length < pos % 2 then none
    else if want < (d.drop (pos % 2)).length then none
    else advance (pos + (d.drop (pos % 2)).length) (want - (d.drop (pos % 2)).length) ds

theorem advance_cons_some {d : List Nat} {ds : List (List Nat)} {r : Nat × Nat} :
    advance pos want (d :: ds) = some r ↔
      want ≠ 0 ∧ pos / 2 < 65536 ∧ ¬ d.length < pos % 2 ∧ ¬ want < (d.drop (pos % 2)).length ∧
      advance (pos + (d.drop (pos % 2)).length) (want - (d.drop (pos % 2)).length) ds = some r := by
  simp only [advance, Option.ite_none_left_eq_some, Decidable.not_not]

theorem readLoop_advance (hh : ∀ s ∈ segs, s.Healthy) {r : Nat × Nat}
    (h : advance pos want (segs.map fun s => s.data.data) = some r) (acc : List Nat) (tail : List Ev) :
    readLoop pos want acc (segs.flatMap ChunkSeg.events ++ tail)
      = readLoop r.1 r.2 (acc ++ gather pos want (segs.map fun s => s.data.data)) tail := by
  induction segs generalizing pos want acc with
  | nil =>
    cases Option.some.inj h
    simp [gather]
  | cons s segs ih =>
    obtain ⟨hw, hp, hl, hlt, hrest⟩ := advance_cons_some.1 h
    rw [List.flatMap_cons, List.append_assoc, readLoop_step hw hp, readChunk_healthy s (hh s List.mem_cons_self)]
    dsimp only
    rw [if_neg hl, if_neg hlt, ih (fun s' hs' => hh s' (List.mem_cons_of_mem _ hs')) hrest]
    simp only [List.map_cons, gather, if_neg hlt, List.append_assoc]

theorem advance_uniform (L : Nat) (hL : 0 < L) (hL2 : L % 2 = 0) (ds : List (List Nat)) (hlen : ∀ d ∈ ds, d.length = L)
    (w' : Nat) : ∀ pos, pos % 2 = 0 → pos + L * ds.length ≤ 131072 →
      advance pos (L * ds.length + w') ds = some (pos + L * ds.length, w') := by
  induction ds with
  | nil => intro pos _ _; simp [advance]
  | cons d ds ih =>
    intro pos hpos hp
    rw [List.length_cons, Nat.mul_succ] at hp ⊢
    have hpos' : (pos + L) % 2 = 0 := by rw [Nat.add_mod, hpos, hL2]
    have hp2 : pos / 2 < 65536 :=
      Nat.div_lt_of_lt_mul (Nat.lt_of_lt_of_le (Nat.lt_add_of_pos_right (Nat.add_pos_right _ hL)) hp)
    rw [advance_cons_some, hpos, List.drop_zero, hlen d List.mem_cons_self,
      Nat.add_right_comm, Nat.add_sub_cancel, ih (fun d' hd' => hlen d' (List.mem_cons_of_mem _ hd')) (pos + L) hpos'
        (by rw [Nat.add_assoc, Nat.add_comm L]; exact hp),
      Nat.add_assoc pos, Nat.add_comm L]
    exact ⟨Nat.ne_of_gt (Nat.add_pos_right _ hL), hp2, Nat.not_lt_zero _, Nat.not_lt.2 (Nat.le_add_left _ _), rfl⟩

/-- The loop ends exactly after consuming these payloads with its buffer full. -/
def fills (pos want : Nat) : List (List Nat) → Bool
  | [] => want == 0
  | d :: ds =>
    want != 0 && decide (pos / 2 < 65536) && !decide (d.length < pos % 2) &&
      (if want < (d.drop (pos % 2)).length then ds.isEmpty
       else fills (pos + (d.drop (pos % 2)).length) (want - (d.drop (pos % 2)).length) ds)

theorem readLoop_healthy (hh : ∀ s ∈ segs, s.Healthy)
    (hf : fills pos want (segs.map fun s => s.data.data) = true) (acc : List Nat) (t : List Ev) :
    readLoop pos want acc (segs.flatMap ChunkSeg.events ++ t)
      = (.ok (acc ++ gather pos want (segs.map fun s => s.data.data), pos + want), t) := by
  induction segs generalizing pos want acc with
  | nil =>
    simp only [List.map_nil, fills, beq_iff_eq] at hf
    subst hf
    rw [readLoop, if_pos rfl]
    simp [gather]
  | cons s segs ih =>
    simp only [List.map_cons, fills, Bool.and_eq_true, bne_iff_ne, ne_eq, decide_eq_true_eq, Bool.not_eq_true',
      decide_eq_false_iff_not] at hf
    obtain ⟨⟨⟨hw, hp⟩, hl⟩, hrest⟩ := hf
    rw [List.flatMap_cons, List.append_assoc, readLoop_step hw hp, readChunk_healthy s (hh s List.mem_cons_self)]
    dsimp only
    rw [if_neg hl]
    by_cases hlt : want < (List.drop (pos % 2) s.data.data).length
    · rw [if_pos hlt] at hrest ⊢
      obtain rfl : segs = [] := List.map_eq_nil_iff.1 (List.isEmpty_iff.1 hrest)
      simp only [List.flatMap_nil, List.nil_append, List.map_cons, List.map_nil, gather, if_pos hlt]
    · rw [if_neg hlt] at hrest ⊢
      rw [ih (fun s' hs' => hh s' (List.mem_cons_of_mem _ hs')) hrest, Nat.add_assoc,
        Nat.add_sub_cancel' (Nat.not_lt.1 hlt)]
      simp only [List.map_cons, gather, if_neg hlt, List.append_assoc]

end ReadLoop

section RangeRead

variable {pos endp n : Nat} {tr rest : List Ev} {out : List Nat}

theorem rangeRead_ok {pos' : Nat} :
    rangeRead pos endp n tr = (.ok (out, pos'), rest) →
    out.length = min n (endp - pos) ∧
    ((endp - pos = 0 ∧ rest = tr) ∨
     ∃ (clr : List Ev) (segs : List ChunkSeg), ClearOk clr ∧
       tr = clr ++ (segs.flatMap ChunkSeg.events ++ rest) ∧ (∀ s ∈ segs, s.Checked) ∧
       out = gather pos (min n (endp - pos)) (segs.map fun s => s.data.data)) := by
  fun_cases rangeRead pos endp n tr <;> intro h
  case case1 h0 => cases h; exact ⟨by rw [h0, Nat.min_zero, List.length_nil], Or.inl ⟨h0, rfl⟩⟩
  case case2 => cases h
  case case3 t hclr =>
    obtain ⟨clr, hc, rfl⟩ := clearErrors_ok_clearOk hclr
    obtain ⟨segs, rfl, hchk, hout, hl⟩ := readLoop_ok h
    exact ⟨hl.trans (Nat.zero_add _), Or.inr ⟨clr, segs, hc, rfl, hchk, hout⟩⟩

theorem readExactLoop_ok_length {rem : Nat} {acc : List Nat} :
    readExactLoop pos endp rem acc tr = (.ok out, rest) → out.length = acc.length + rem := by
  fun_induction readExactLoop pos endp rem acc tr <;> intro h
  case case1 => cases h; rfl
  case case2 | case3 => cases h
  case case4 hrr _ _ ih =>
    rw [ih h, List.length_append, Nat.add_assoc, Nat.add_sub_cancel']
    rw [(rangeRead_ok hrr).1]
    exact Nat.min_le_left _ _

theorem readExact_single (hn : 0 < n) (hfit : n ≤ endp - pos) :
    readExactLoop pos endp n [] tr = bytesOnly (rangeRead pos endp n tr) := by
  rw [readExactLoop, dif_neg (Nat.ne_of_gt hn)]
  cases hrr : rangeRead pos endp n tr with
  | mk r t =>
    match r with
    | .error e => rfl
    | .ok (bytes, p') =>
      have hl : bytes.length = n := (rangeRead_ok hrr).1.trans (Nat.min_eq_left hfit)
      dsimp only [bytesOnly]
      rw [dif_neg (hl ▸ Nat.ne_of_gt hn), readExactLoop, dif_pos (hl ▸ Nat.sub_self n), List.nil_append]

theorem bytesOnly_ok {x : ERes (List Nat × Nat) × List Ev}
    (h : bytesOnly x = (.ok out, rest)) : ∃ pos', x = (.ok (out, pos'), rest) := by
  match x, h with
  | (.ok (b, p), t), h => cases h; exact ⟨p, rfl⟩

theorem le_even_up (n : Nat) : n ≤ (n + 1) / 2 * 2 := by omega

theorem startAt_of_fits {word n : Nat} (hwin : word * 2 + (n + 1) / 2 * 2 ≤ 131072) :
    startAt word n = (word * 2, word * 2 + (n + 1) / 2 * 2) :=
  congrArg (Prod.mk _) (Nat.min_eq_left hwin)

end RangeRead

section Category

theorem categoryLoop_ok {cat wa ne : Nat} {tr : List Ev} {r : Option (Nat × Nat)} {rest : List Ev} :
    categoryLoop cat wa ne tr = (.ok r, rest) →
    ∃ segs : List ChunkSeg, tr = segs.flatMap ChunkSeg.events ++ rest ∧ ∀ s ∈ segs, s.Checked := by
  fun_induction categoryLoop cat wa ne tr <;> intro h
  case case1 | case3 | case8 => cases h
  case case2 | case4 | case5 | case6 =>
    obtain ⟨s, rfl, hc, _⟩ := readChunk_ok_seg ‹readChunk _ = _›
    cases h
    exact ⟨[s], by simp, List.forall_mem_singleton.2 hc⟩
  case case7 ih =>
    obtain ⟨s, rfl, hc, _⟩ := readChunk_ok_seg ‹readChunk _ = _›
    obtain ⟨segs, rfl, hchk⟩ := ih h
    exact ⟨s :: segs, by simp, List.forall_mem_cons.2 ⟨hc, hchk⟩⟩

theorem categoryLoop_first_chunk_fault {cat wa ne : Nat} {tr t : List Ev} {e : Err}
    (h : readChunk tr = (.error e, t)) : categoryLoop cat wa ne tr = (.error (.base e), t) := by
  rw [categoryLoop]
  split <;> rename_i heq <;> rw [h] at heq <;> cases heq
  rfl

theorem parseFmmus_length {bytes us : List Nat} : parseFmmus bytes = some us → us.length = bytes.length := by
  fun_induction parseFmmus bytes generalizing us <;> intro h <;> cases h
  · rfl
  · rename_i hus ih
    exact congrArg (· + 1) (ih hus)

end Category

section Write

/-- The datagrams of completed `write_word`s: for each word everything up to its last status poll,
    and that poll (the acknowledgement that the interface finished). -/
def wordsEvents (ws : List (List Ev × Pdu)) : List Ev := ws.flatMap fun w => w.1 ++ [.resp w.2]

variable {pos endp written : Nat} {buf : List Nat} {tr rest t : List Ev}

theorem writeWord_ok_seg : writeWord tr = (.ok (), rest) →
    ∃ (pre : List Ev) (p : Pdu), tr = pre ++ .resp p :: rest ∧ p.wkc = 1 := by
  fun_cases writeWord tr <;> intro h
  case case1 => cases h
  case case2 hw =>
    obtain ⟨polls, p0, rfl, _⟩ := waitWhileBusy_ok hw
    obtain ⟨pre, p, rfl, hpw⟩ := writeLoop_ok h
    exact ⟨polls.map Ev.resp ++ .resp p0 :: pre, p, by simp, hpw⟩

theorem writeLoopR_nil :
    writeLoopR pos endp [] written tr = (.ok (written, pos), tr) := by
  rw [writeLoopR]; split <;> rfl

/-- One round of the word loop, for a one-byte rest of the buffer as for a longer one. -/
theorem writeLoopR_step (hwin : pos < endp) (hb : buf ≠ []) :
    writeLoopR pos endp buf written tr =
      if ¬ pos / 2 < 65536 then (.error .sectionOverrun, tr)
      else match writeWord tr with
        | (.error e, t) => (.error (.base e), t)
        | (.ok (), t) => writeLoopR (pos + 2) endp (buf.drop 2) (written + min 2 buf.length) t := by
  have h1 := Nat.sub_ne_zero_of_lt hwin
  match buf, hb with
  | [_], _ => rw [writeLoopR, if_neg h1]; rfl
  | _ :: _ :: rest, _ => rw [writeLoopR, if_neg h1]; rfl

theorem min_two_add_sub : ∀ n, 0 < n → min 2 n + (n - 2) = n
  | 1, _ => rfl
  | n + 2, _ => by rw [Nat.min_eq_left (Nat.le_add_left 2 n), Nat.add_sub_cancel, Nat.add_comm]

theorem half_sub_two_succ : ∀ n, 0 < n → (n - 2 + 1) / 2 + 1 = (n + 1) / 2
  | 1, _ => rfl
  | n + 2, _ => by rw [Nat.add_sub_cancel, Nat.add_right_comm, Nat.add_div_right _ Nat.two_pos]

theorem writeLoopR_ok {k w' pos' : Nat} (hk : buf.length ≤ 2 * k) (hfit : pos + 2 * k ≤ endp)
    (h : writeLoopR pos endp buf written tr = (.ok (w', pos'), rest)) :
    ∃ ws : List (List Ev × Pdu), tr = wordsEvents ws ++ rest ∧ (∀ w ∈ ws, w.2.wkc = 1) ∧
      w' = written + buf.length ∧ ws.length = (buf.length + 1) / 2 := by
  induction k generalizing pos buf written tr with
  | zero =>
    cases List.length_eq_zero_iff.1 (Nat.le_zero.1 hk)
    rw [writeLoopR_nil] at h
    cases h
    exact ⟨[], rfl, nofun, rfl, rfl⟩
  | succ k ih =>
    rw [Nat.mul_succ] at hk hfit
    by_cases hb : buf = []
    · subst hb
      rw [writeLoopR_nil] at h
      cases h
      exact ⟨[], rfl, nofun, rfl, rfl⟩
    · rw [writeLoopR_step (Nat.lt_of_lt_of_le (Nat.lt_add_of_pos_right (Nat.succ_pos _)) hfit) hb] at h
      split at h
      · cases h
      · split at h
        · cases h
        · rename_i t hw
          obtain ⟨pre, p, rfl, hpw⟩ := writeWord_ok_seg hw
          obtain ⟨ws, rfl, hack, hw', hc⟩ := ih (by rw [List.length_drop]; exact Nat.sub_le_of_le_add hk)
            (by rw [Nat.add_assoc, Nat.add_comm 2]; exact hfit) h
          have hpos := List.length_pos_iff.2 hb
          rw [List.length_drop] at hw' hc
          exact ⟨(pre, p) :: ws, by simp [wordsEvents], List.forall_mem_cons.2 ⟨hpw, hack⟩,
            by rw [hw', Nat.add_assoc, min_two_add_sub _ hpos], by rw [List.length_cons, hc, half_sub_two_succ _ hpos]⟩

/-- `ws` are the event runs of the words written before, each a completed `write_word`. -/
theorem writeLoopR_stops_at_failing_word (ws : List (List Ev)) (endp : Nat) (tail t : List Ev) (e : Err)
    (hok : ∀ w ∈ ws, ∀ x, writeWord (w ++ x) = (.ok (), x)) (hbad : writeWord tail = (.error e, t)) :
    ∀ (pos : Nat) (buf : List Nat) (written : Nat),
      2 * ws.length < buf.length → pos + 2 * ws.length < endp → pos + 2 * ws.length < 131072 →
      writeLoopR pos endp buf written (ws.flatten ++ tail) = (.error (.base e), t) := by
  induction ws with
  | nil =>
    intro pos buf written hlen hend hp
    rw [List.flatten_nil, List.nil_append, writeLoopR_step (Nat.lt_of_add_right_lt hend)
      (List.ne_nil_of_length_pos (Nat.zero_lt_of_lt hlen)),
      if_neg (not_not_intro (Nat.div_lt_of_lt_mul (Nat.lt_of_add_right_lt hp))), hbad]
  | cons w ws ih =>
    intro pos buf written hlen hend hp
    rw [List.length_cons, Nat.mul_succ] at hlen
    rw [List.length_cons, Nat.mul_succ, Nat.add_comm _ 2, ← Nat.add_assoc] at hend hp
    rw [List.flatten_cons, List.append_assoc, writeLoopR_step
      (Nat.lt_of_add_right_lt (Nat.lt_of_add_right_lt hend)) (List.ne_nil_of_length_pos (Nat.zero_lt_of_lt hlen)),
      if_neg (not_not_intro (Nat.div_lt_of_lt_mul (Nat.lt_of_add_right_lt (Nat.lt_of_add_right_lt hp)))),
      hok w List.mem_cons_self]
    exact ih (fun w' hw' => hok w' (List.mem_cons_of_mem _ hw')) _ _ _
      (by rw [List.length_drop]; exact Nat.lt_sub_of_add_lt hlen) hend hp

theorem writeAllLoop_ok_fits (hb : buf ≠ []) {k : Nat}
    (hk : buf.length ≤ 2 * k) (hfit : pos + 2 * k ≤ endp) : writeAllLoop pos endp buf tr = (.ok (), rest) →
    ∃ ws : List (List Ev × Pdu), tr = wordsEvents ws ++ rest ∧ (∀ w ∈ ws, w.2.wkc = 1) ∧
      ws.length = (buf.length + 1) / 2 := by
  fun_cases writeAllLoop pos endp buf tr <;> intro h
  case case1 hb' => exact absurd hb' hb
  case case2 | case3 => cases h
  case case4 n pos' t hrw _ _ =>
    rw [rangeWrite] at hrw
    split at hrw
    · cases hrw
    obtain ⟨ws, h1, h2, hn, hcount⟩ := writeLoopR_ok hk hfit hrw
    rw [Nat.zero_add] at hn
    subst hn
    rw [List.drop_length, writeAllLoop, dif_pos rfl] at h
    cases h
    exact ⟨ws, h1, h2, hcount⟩

theorem writeAllLoop_first_write_error {e : EErr} (hb : buf ≠ [])
    (h : rangeWrite pos endp buf tr = (.error e, t)) : writeAllLoop pos endp buf tr = (.error e, t) := by
  rw [writeAllLoop, dif_neg hb, h]

end Write

end Ec.Wkc
