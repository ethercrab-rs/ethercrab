/-
  The model of one pass of the process-data loop (C07), characterised. Transmit half: `buildFrame` builds the frame
  its plan describes (`planDescs`: the clock datagram if due, an LRW with as much of the image as fits, state checks
  in the room that is left). Receive half: what `consume` may do whatever the answer holds (`Consumed`) and what it
  does on an answer of the requested shape. Then the two halves put together (`step_cases`), what a digested pass
  does to the loop variables (`Passed`), why fewer frames are due after it (`phi_step`), and how a run ends.
-/
import EcModel.TxRx
import EcModel.Lemmas.FrameInv

namespace Ec.TxRx
open Ec

/-- A datagram without its index: (command, declared length, data). -/
def desc (d : Dgram) : Cmd × Nat × List Nat := (d.cmd, d.len, d.data)

/-- The frame under construction is the encoding of the accepted datagrams (C04 invariant). -/
structure BInv (cap : Nat) (b : Build) : Prop where
  inv : FInv b.f b.acc
  cap : b.f.cap = cap

theorem BInv.new (cap idx : Nat) : BInv cap (Build.new cap idx) :=
  ⟨FInv.init cap, rfl⟩

theorem BInv.plen {cap : Nat} {b : Build} (h : BInv cap b) : b.f.pdu.length = cap - 16 := by
  have := h.inv.plen; rw [h.cap] at this; exact this

theorem push_some {cap : Nat} {b : Build} (h : BInv cap b) (hcap : cap ≤ 2063) (c : Cmd)
    (data : List Nat) (lenOv : Option Nat)
    (hfit : b.f.used + (declLen data lenOv + 12) ≤ cap - 16) :
    ∃ b', b.push c data lenOv = some b' ∧ BInv cap b' ∧
      b'.acc = b.acc ++ [⟨c, b.idx, declLen data lenOv, data⟩] ∧
      b'.f.used = b.f.used + (declLen data lenOv + 12) := by
  have hfit' : b.f.used + (declLen data lenOv + PDU_OVERHEAD) ≤ b.f.pdu.length := by rw [h.plen]; exact hfit
  exact ⟨⟨(b.f.commit c b.idx (declLen data lenOv) data).1, _, nextIdx b.idx⟩,
    by rw [Build.push, CFrame.pushPdu_fit hfit'],
    ⟨h.inv.commit c b.idx _ data (declLen_ge ..) hfit' (h.cap ▸ hcap), h.cap⟩, rfl, rfl⟩

theorem push_none {cap : Nat} {b : Build} (h : BInv cap b) (c : Cmd)
    (data : List Nat) (lenOv : Option Nat)
    (hfit : ¬ b.f.used + (declLen data lenOv + 12) ≤ cap - 16) :
    b.push c data lenOv = none := by
  rw [Build.push, CFrame.pushPdu_nofit (by rw [h.plen]; exact hfit)]

/-- The state-check datagram for SubDevice `a`. -/
def fprdDesc (a : Nat) : Cmd × Nat × List Nat := (.fprd a 304, 2, [])

/-- Number of state checks `pushStateChecks` adds: as many as there are SubDevices left, as fit, and the
    per-frame cap of 129 allows. -/
def checksFit (cap used : Nat) (subs : List Nat) (num : Nat) : Nat :=
  min (min subs.length ((cap - 16 - used) / 14)) (129 - num)

theorem checksFit_cons {cap used num : Nat} (a : Nat) (rest : List Nat) (hfit : used + 14 ≤ cap - 16)
    (hnum : num ≤ 128) :
    checksFit cap used (a :: rest) num = checksFit cap (used + 14) rest (num + 1) + 1 := by
  have hq : (cap - 16 - used) / 14 = (cap - 16 - (used + 14)) / 14 + 1 := by
    rw [Nat.sub_add_eq]; exact Nat.div_eq_sub_div (by decide) (by omega)
  have hn : 129 - num = 129 - (num + 1) + 1 :=
    (Nat.succ_pred_eq_of_pos (Nat.sub_pos_of_lt (Nat.lt_succ_of_le hnum))).symm
  rw [checksFit, checksFit, List.length_cons, hq, hn, Nat.add_min_add_right, Nat.add_min_add_right]

theorem checksFit_zero {cap used num : Nat} (subs : List Nat)
    (h : subs = [] ∨ ¬ used + 14 ≤ cap - 16 ∨ 129 ≤ num) : checksFit cap used subs num = 0 := by
  rcases h with rfl | h | h
  · simp [checksFit]
  · have : (cap - 16 - used) / 14 = 0 := Nat.div_eq_of_lt (by omega)
    simp [checksFit, this]
  · simp [checksFit, Nat.sub_eq_zero_of_le h]

/-- `checksFit` obeys the recursion of the loop (`checksFit_cons`, `checksFit_zero`): one more while a SubDevice
    is left, 14 bytes fit and fewer than 129 were pushed. -/
theorem pushStateChecks_spec (cap : Nat) (hcap : cap ≤ 2063) :
    ∀ (subs : List Nat) (b : Build) (num : Nat), BInv cap b → num ≤ 128 →
    ∃ b', pushStateChecks b subs num
        = some (b', subs.drop (checksFit cap b.f.used subs num), num + checksFit cap b.f.used subs num) ∧
      BInv cap b' ∧
      b'.acc.map desc = b.acc.map desc ++ (subs.take (checksFit cap b.f.used subs num)).map fprdDesc := by
  intro subs
  induction subs with
  | nil =>
    intro b num h _
    rw [checksFit_zero [] (Or.inl rfl)]
    exact ⟨b, rfl, h, (List.append_nil _).symm⟩
  | cons a rest ih =>
    intro b num h hnum
    have hcan : b.f.canPush Gen.TxRx.AL_CONTROL_PACKED_LEN = decide (b.f.used + 14 ≤ cap - 16) := by
      rw [CFrame.canPush, h.plen]; rfl
    rw [pushStateChecks, hcan]
    by_cases hfit : b.f.used + 14 ≤ cap - 16
    · obtain ⟨b1, e1, h1, hacc1, hused1⟩ := push_some h hcap (.fprd a Gen.TxRx.REG_AlStatus) []
        (some Gen.TxRx.AL_CONTROL_PACKED_LEN) hfit
      replace hused1 : b1.f.used = b.f.used + 14 := hused1
      have hd1 : b1.acc.map desc = b.acc.map desc ++ [fprdDesc a] := by rw [hacc1, List.map_append]; rfl
      rw [if_pos (decide_eq_true hfit), e1, checksFit_cons a rest hfit hnum, ← hused1]
      by_cases hbrk : num + 1 > Gen.TxRx.STATE_CHECKS_BREAK_AFTER
      · rw [checksFit_zero rest (Or.inr (Or.inr hbrk))]
        exact ⟨b1, if_pos hbrk, h1, hd1⟩
      · obtain ⟨b2, e2, h2, hacc2⟩ := ih b1 (num + 1) h1 (Nat.le_of_not_gt hbrk)
        refine ⟨b2, ?_, h2, ?_⟩
        · rw [← Nat.add_assoc, Nat.add_right_comm]; exact (if_neg hbrk).trans e2
        · rw [hacc2, hd1, List.take_succ_cons, List.map_cons, List.append_assoc]; rfl
    · rw [if_neg (by simpa using hfit), checksFit_zero _ (Or.inr (Or.inl hfit))]
      exact ⟨b, rfl, h, (List.append_nil _).symm⟩

/-- Standing assumptions on the configuration (the property's quantifier): frame size between the smallest
    that carries one state check (plus the clock datagram for the clock variants) and the 11-bit limit, and a
    logical window inside the 32-bit address space. -/
structure CfgOk (c : Cfg) (pdiLen : Nat) : Prop where
  capHi : c.cap ≤ 2063
  capLo : 30 ≤ c.cap
  capDc : c.dc.isSome = true → 50 ≤ c.cap
  window : c.pdiStart + pdiLen ≤ 2 ^ 32

/-- Is the clock datagram due in this pass? -/
def needDc (c : Cfg) (s : St) : Bool := c.dc.isSome && !s.timeRead
/-- Bytes used by the clock datagram. -/
def u0 (c : Cfg) (s : St) : Nat := if needDc c s then 20 else 0
/-- Image bytes still to send. -/
def remOf (s : St) : Nat := s.image.length - s.sent
/-- Image bytes the LRW of this pass carries. -/
def kOf (c : Cfg) (s : St) : Nat := min (remOf s) (c.cap - 16 - u0 c s - 12)
/-- Bytes used after the LRW. -/
def u1 (c : Cfg) (s : St) : Nat := u0 c s + (if remOf s = 0 then 0 else kOf c s + 12)
/-- State checks of this pass. -/
def tOf (c : Cfg) (s : St) : Nat := checksFit c.cap (u1 c s) s.subs 0

def dcDescs (c : Cfg) (s : St) : List (Cmd × Nat × List Nat) :=
  match c.dc with
  | some r => if s.timeRead then [] else [(.frmw r 2320, 8, le64 0)]
  | none => []

def lrwDescs (c : Cfg) (s : St) : List (Cmd × Nat × List Nat) :=
  if remOf s = 0 then []
  else [(.lrw (c.pdiStart + s.sent), kOf c s, (s.image.drop s.sent).take (kOf c s))]

/-- The datagrams of one pass, as (command, length, data). -/
def planDescs (c : Cfg) (s : St) : List (Cmd × Nat × List Nat) :=
  dcDescs c s ++ lrwDescs c s ++ (s.subs.take (tOf c s)).map fprdDesc

theorem u0_le (c : Cfg) (s : St) : u0 c s ≤ 20 := by unfold u0; split <;> omega

theorem room_after_dc {c : Cfg} {s : St} {n : Nat} (h : CfgOk c n) : u0 c s + 14 ≤ c.cap - 16 := by
  have := h.capLo
  unfold u0
  split
  · rename_i hn
    have := h.capDc (Bool.and_eq_true_iff.1 hn).1
    omega
  · omega

theorem pushDcIf_spec {c : Cfg} {s : St} {n : Nat} (h : CfgOk c n) :
    ∃ b1, pushDcIf c s (Build.new c.cap s.idx) = some (b1, needDc c s) ∧ BInv c.cap b1 ∧
      b1.acc.map desc = dcDescs c s ∧ b1.f.used = u0 c s := by
  have h0 := BInv.new c.cap s.idx
  have hcap := h.capDc
  unfold pushDcIf needDc dcDescs u0 needDc
  cases hd : c.dc with
  | none => exact ⟨_, rfl, h0, rfl, rfl⟩
  | some r =>
    cases s.timeRead with
    | true => exact ⟨_, rfl, h0, rfl, rfl⟩
    | false =>
      obtain ⟨b1, e1, h1, hacc1, hused1⟩ :=
        push_some h0 h.capHi (.frmw r Gen.TxRx.REG_DcSystemTime) (le64 0) none
          (by have := hcap (by rw [hd]; rfl); show 0 + (8 + 12) ≤ _; omega)
      exact ⟨b1, by simp only [e1]; rfl, h1, by rw [hacc1]; rfl, hused1⟩

/-- `pushed_chunk` of a pass from `s`. -/
def pushedOf (c : Cfg) (s : St) : Option Nat := if remOf s = 0 then none else some (kOf c s)

theorem finishBuild_spec {c : Cfg} {s : St} (hcap : c.cap ≤ 2063) {b : Build} (pushed : Option Nat)
    (hb : BInv c.cap b) (hacc : b.acc.map desc = dcDescs c s ++ lrwDescs c s) (hused : b.f.used = u1 c s) :
    ∃ b', finishBuild s b (needDc c s) pushed = .ok ⟨b', needDc c s, pushed, s.subs.drop (tOf c s), tOf c s⟩ ∧
      BInv c.cap b' ∧ b'.acc.map desc = planDescs c s := by
  obtain ⟨b', e, h', hacc'⟩ := pushStateChecks_spec c.cap hcap s.subs b 0 hb (Nat.zero_le _)
  rw [hused] at e hacc'
  rw [Nat.zero_add] at e
  exact ⟨b', by rw [finishBuild, e]; rfl, h', by rw [hacc', hacc]; rfl⟩

theorem buildFrame_spec {c : Cfg} {s : St} (h : CfgOk c s.image.length) (hs : s.sent ≤ s.image.length) :
    ∃ b, buildFrame c s = .ok ⟨b, needDc c s, pushedOf c s, s.subs.drop (tOf c s), tOf c s⟩ ∧
      BInv c.cap b ∧ b.acc.map desc = planDescs c s := by
  obtain ⟨b1, e1, h1, hacc1, hused1⟩ := pushDcIf_spec (s := s) h
  have hchunk : chunkOf s = (s.image.drop s.sent).take (remOf s) := by rw [chunkOf, Nat.min_eq_left hs]; rfl
  unfold pushedOf
  by_cases hrem : remOf s = 0
  · have hemp : (chunkOf s).isEmpty = true := by rw [hchunk, hrem]; rfl
    simp only [buildFrame, e1, hemp, if_true, if_pos hrem]
    exact finishBuild_spec h.capHi none h1 (by rw [hacc1, lrwDescs, if_pos hrem, List.append_nil])
      (by rw [hused1, u1, if_pos hrem]; rfl)
  · have hroom := room_after_dc (s := s) h
    have hfit : u0 c s + (kOf c s + 12) ≤ c.cap - 16 := by unfold kOf; omega
    have h12 : ¬ c.cap - 16 - u0 c s ≤ 12 := by omega
    have hw := h.window
    have hsent : s.sent < s.image.length := Nat.lt_of_sub_pos (Nat.pos_of_ne_zero hrem)
    have hclen : (chunkOf s).length = remOf s := by
      rw [hchunk, List.length_take, List.length_drop]; exact Nat.min_self _
    have hne : chunkOf s ≠ [] := by rw [Ne, ← List.length_eq_zero_iff, hclen]; exact hrem
    have haddr : addU 32 c.mode c.pdiStart (s.sent % 2 ^ 32) = some (c.pdiStart + s.sent) := by
      rw [Nat.mod_eq_of_lt (Nat.lt_of_lt_of_le hsent (Nat.le_trans (Nat.le_add_left _ _) hw))]
      exact if_pos (Nat.lt_of_lt_of_le (Nat.add_lt_add_left hsent _) hw)
    have hpr : ¬ (chunkOf s = [] ∨ b1.f.pdu.length - b1.f.used ≤ 12) := by
      rw [h1.plen, hused1]; exact fun h => h.elim hne h12
    have hrest : restLen b1.f (chunkOf s) = kOf c s := by
      rw [restLen, h1.plen, hused1, hclen, kOf, Nat.min_comm]; rfl
    have hk : kOf c s ≤ remOf s := Nat.min_le_left _ _
    simp only [buildFrame, e1, List.isEmpty_iff, if_neg hne, haddr, CFrame.pushRest_eq, if_neg hpr, hrest,
      if_neg hrem]
    refine finishBuild_spec h.capHi _ ⟨h1.inv.commit _ b1.idx _ _ ?_ ?_ (h1.cap ▸ h.capHi), h1.cap⟩ ?_ ?_
    · rw [List.length_take, hclen]; exact Nat.min_le_left _ _
    · rw [h1.plen, hused1]; exact hfit
    · rw [List.map_append, hacc1, lrwDescs, if_neg hrem, hchunk, List.take_take, Nat.min_eq_left hk]; rfl
    · rw [commit_used, hused1, u1, if_neg hrem]

/-- The answer has one datagram per request datagram, each with the requested data length (devices change data
    and working counters, not the structure of a frame). -/
def ShapedOne : List Dgram → List RPdu → Prop
  | [], [] => True
  | d :: ds, p :: ps => p.data.length = d.len ∧ ShapedOne ds ps
  | _, _ => False

theorem ShapedOne.length : ∀ {ds : List Dgram} {r : List RPdu}, ShapedOne ds r → r.length = ds.length := by
  intro ds
  induction ds with
  | nil => intro r h; cases r with
    | nil => rfl
    | cons _ _ => exact h.elim
  | cons d ds ih => intro r h; cases r with
    | nil => exact h.elim
    | cons p ps => exact congrArg (· + 1) (ih h.2)

theorem ShapedOne.append_inv {ds1 ds2 : List Dgram} : ∀ {r : List RPdu}, ShapedOne (ds1 ++ ds2) r →
    ∃ r1 r2, r = r1 ++ r2 ∧ ShapedOne ds1 r1 ∧ ShapedOne ds2 r2 := by
  induction ds1 with
  | nil => exact fun {r} h => ⟨[], r, rfl, trivial, h⟩
  | cons d ds1 ih => intro r h; cases r with
    | nil => exact h.elim
    | cons p ps =>
      obtain ⟨r1, r2, e, h1, h2⟩ := ih h.2
      exact ⟨p :: r1, r2, by rw [e]; rfl, ⟨h.1, h1⟩, h2⟩

theorem ShapedOne.nil_left : ∀ {r : List RPdu}, ShapedOne [] r → r = []
  | [], _ => rfl
  | _ :: _, h => h.elim

theorem ShapedOne.single {d : Dgram} {r : List RPdu} (h : ShapedOne [d] r) :
    ∃ p, r = [p] ∧ p.data.length = d.len := by
  cases r with
  | nil => exact h.elim
  | cons p ps => exact ⟨p, by rw [ShapedOne.nil_left h.2], h.1⟩

/-- The AL state a state-check answer carries. -/
def nib (p : RPdu) : Nat := p.data.getD 0 0 % 16

theorem consumeStates_facts (c : Cfg) (pdus : List RPdu) : ∀ (s : St) {s5 : St} {o5 : Outcome TxErr Unit},
    consumeStates c s pdus = (s5, o5) →
    s5 = { s with states := s5.states } ∧ (∀ w, o5 ≠ .panic w) ∧ (∀ e, o5 = .err e → e = .wireShort) := by
  induction pdus with
  | nil => intro s s5 o5 h; cases h; exact ⟨rfl, nofun, nofun⟩
  | cons p rest ih =>
    intro s s5 o5 h
    rw [consumeStates] at h
    split at h
    · cases h; exact ⟨rfl, nofun, fun e h => by cases h; rfl⟩
    · have := ih _ h; exact this

theorem consumeStates_ok (c : Cfg) (pdus : List RPdu) : ∀ (s : St),
    (∀ p ∈ pdus, p.data.length = 2) → s.states.length + pdus.length ≤ c.maxSd →
    consumeStates c s pdus = ({ s with states := s.states ++ pdus.map nib }, .ok ()) := by
  induction pdus with
  | nil => intro s _ _; simp [consumeStates]
  | cons p rest ih =>
    intro s hp hlen
    rw [List.forall_mem_cons] at hp
    rw [List.length_cons] at hlen
    rw [consumeStates, if_neg (by rw [hp.1]; decide), if_pos (by omega : s.states.length < c.maxSd),
      ih _ hp.2 (by simp only [List.length_append, List.length_singleton]; omega)]
    simp [nib, Gen.TxRx.AL_STATE_BITS]

theorem setRange_drop (l : List Nat) (off : Nat) (bs : List Nat) (m : Nat) (h : off + bs.length ≤ m)
    (hl : off + bs.length ≤ l.length) : (setRange l off bs).drop m = l.drop m := by
  have hA : (l.take off ++ bs).length = off + bs.length := by
    rw [List.length_append, List.length_take, Nat.min_eq_left (by omega : off ≤ l.length)]
  rw [setRange, List.drop_append, List.drop_eq_nil_of_le (by rw [hA]; exact h), hA, List.drop_drop, List.nil_append]
  congr 1; omega

theorem consumeLrw_facts {c : Cfg} {pushed : Option Nat} {s s4 : St} {pdus : List RPdu}
    {o4 : Outcome TxErr (List RPdu)} (hk : ∀ k, pushed = some k → s.sent + k ≤ s.image.length)
    (h : consumeLrw c pushed s pdus = (s4, o4)) :
    s4 = { s with image := s4.image, sent := s4.sent, wkc := s4.wkc } ∧
    s4.image.length = s.image.length ∧
    (∀ m, min (s.sent + pushed.getD 0) c.readLen ≤ m → s4.image.drop m = s.image.drop m) ∧
    (∀ e, o4 = .err e → e = .internal) ∧ (∀ pdus', o4 = .ok pdus' → s4.sent = s.sent + pushed.getD 0) := by
  cases pushed with
  | none => cases h; exact ⟨rfl, rfl, fun _ _ => rfl, nofun, fun _ _ => rfl⟩
  | some k =>
    cases pdus with
    | nil => cases h; exact ⟨rfl, rfl, fun _ _ => rfl, fun e h => by cases h; rfl, nofun⟩
    | cons p rest =>
      have hk' := hk k rfl
      have hlo : min s.sent c.readLen ≤ min (s.sent + k) c.readLen :=
        (Nat.le_min).2 ⟨Nat.le_trans (Nat.min_le_left _ _) (Nat.le_add_right _ _), Nat.min_le_right _ _⟩
      have hhi : min (s.sent + k) c.readLen ≤ s.sent + k := Nat.min_le_left _ _
      rw [consumeLrw] at h
      generalize min s.sent c.readLen = lo at h hlo
      show _ ∧ _ ∧ (∀ m, min (s.sent + k) c.readLen ≤ m → _) ∧ _
      generalize min (s.sent + k) c.readLen = hi at h hlo hhi ⊢
      split at h
      · cases h; exact ⟨rfl, rfl, fun _ _ => rfl, fun e h => by cases h; rfl, nofun⟩
      · rename_i hl
        have hlen : (p.data.take (hi - lo)).length = hi - lo := List.length_take_of_le (Nat.le_of_not_lt hl)
        have hfit : lo + (p.data.take (hi - lo)).length ≤ s.image.length := by rw [hlen]; omega
        have e1 := setRange_length s.image _ _ hfit
        have e2 : ∀ m, hi ≤ m → (setRange s.image lo (p.data.take (hi - lo))).drop m = s.image.drop m :=
          fun m hm => setRange_drop s.image _ _ m (by rw [hlen]; omega) hfit
        split at h <;> cases h
        · exact ⟨rfl, e1, e2, nofun, nofun⟩
        · exact ⟨rfl, e1, e2, nofun, fun _ _ => rfl⟩

theorem consumeDc_cases (dcP : Bool) (s : St) (r : List RPdu) :
    (∃ e, consumeDc dcP s r = .err e ∧ (e = .internal ∨ e = .wireShort)) ∨
    (∃ s3 pdus, consumeDc dcP s r = .ok (s3, pdus) ∧
      s3 = { s with time := s3.time, timeRead := s3.timeRead } ∧ s3.timeRead = (s.timeRead || dcP) ∧
      (dcP = true → ∃ p rest, r = p :: rest ∧ s3.time = rd64 p.data) ∧ (dcP = false → s3.time = s.time)) := by
  cases dcP with
  | false => exact .inr ⟨s, r, rfl, rfl, (Bool.or_false _).symm, nofun, fun _ => rfl⟩
  | true =>
    cases r with
    | nil => exact .inl ⟨_, rfl, .inl rfl⟩
    | cons p rest =>
      rw [consumeDc, if_pos rfl]
      split
      · exact .inl ⟨_, rfl, .inr rfl⟩
      · exact .inr ⟨_, _, rfl, rfl, (Bool.or_true _).symm, fun _ => ⟨p, rest, rfl, rfl⟩, nofun⟩

/-- `x` differs from `s` at most in what the receive half writes; the image keeps its length and, from the end of
    this chunk's input bytes on, its content. -/
structure Kept (c : Cfg) (pushed : Option Nat) (s x : St) : Prop where
  same : x = { s with
    image := x.image, sent := x.sent, wkc := x.wkc, states := x.states, time := x.time, timeRead := x.timeRead }
  len : x.image.length = s.image.length
  drop : ∀ m, min (s.sent + pushed.getD 0) c.readLen ≤ m → x.image.drop m = s.image.drop m

def Step.Ok (t : Step) (s' : St) : Prop := t = .continue s' ∨ t = .done s'

theorem Step.Ok.st {t : Step} {s' : St} (h : t.Ok s') : t.st = s' := by
  rcases h with h | h <;> rw [h] <;> rfl

/-- What `consume` can end in, whatever the answer holds. -/
structure Consumed (c : Cfg) (dcP : Bool) (pushed : Option Nat) (cl : Nat) (s : St) (r : List RPdu) (t : Step) :
    Prop where
  kept : Kept c pushed s t.st
  failKind : ∀ s' e, t = .fail s' e → e = .internal ∨ e = .wireShort
  ok : ∀ s', t.Ok s' →
    (s'.sent = s.sent + pushed.getD 0 ∧ s'.timeRead = (s.timeRead || dcP) ∧
      (dcP = true → ∃ p rest, r = p :: rest ∧ s'.time = rd64 p.data) ∧ (dcP = false → s'.time = s.time)) ∧
    (t = .done s' → cl = 0 ∧ c.addrs.length ≤ s'.checks ∧ c.dc.isSome = true)

theorem Consumed.of_fail {c : Cfg} {dcP : Bool} {pushed : Option Nat} {cl : Nat} {s x : St} {r : List RPdu}
    {e : TxErr} (k : Kept c pushed s x) (he : e = .internal ∨ e = .wireShort) :
    Consumed c dcP pushed cl s r (.fail x e) :=
  ⟨k, fun _ _ h => by cases h; exact he, fun _ h => by rcases h with h | h <;> cases h⟩

theorem consume_facts (c : Cfg) (dcP : Bool) (pushed : Option Nat) (cl : Nat) (s : St) (r : List RPdu)
    (hk : ∀ k, pushed = some k → s.sent + k ≤ s.image.length) :
    Consumed c dcP pushed cl s r (consume c dcP pushed cl s r) := by
  rcases consumeDc_cases dcP s r with ⟨e, he, hek⟩ | ⟨s3, pdus, he, hs3, htr, htt, htf⟩
  · rw [consume, he]
    exact .of_fail ⟨rfl, rfl, fun _ _ => rfl⟩ hek
  · have k3 : s3.image = s.image ∧ s3.sent = s.sent := by rw [hs3]; exact ⟨rfl, rfl⟩
    rw [consume, he]
    dsimp only
    cases hL : consumeLrw c pushed s3 pdus with | mk s4 o4 =>
    obtain ⟨l1, l2, l3, l4, l5⟩ := consumeLrw_facts (by rw [k3.1, k3.2]; exact hk) hL
    have k4 : Kept c pushed s s4 :=
      ⟨by rw [l1, hs3], by rw [l2, k3.1], fun m hm => by rw [l3 m (by rwa [k3.2]), k3.1]⟩
    cases o4 with
    | err e => exact .of_fail k4 (.inl (l4 e rfl))
    | panic w => exact ⟨k4, nofun, fun _ h => by rcases h with h | h <;> cases h⟩
    | ok pdus' =>
      dsimp only
      cases hS : consumeStates c s4 pdus' with | mk s5 o5 =>
      obtain ⟨q1, q2, q3⟩ := consumeStates_facts c pdus' s4 hS
      have k5 : Kept c pushed s s5 :=
        ⟨by rw [q1, k4.same], by rw [q1]; exact k4.len, fun m hm => by rw [q1]; exact k4.drop m hm⟩
      cases o5 with
      | err e => exact .of_fail k5 (.inr (q3 e rfl))
      | panic w => exact absurd rfl (q2 w)
      | ok u =>
        have f5 : s5.sent = s.sent + pushed.getD 0 ∧ s5.timeRead = (s.timeRead || dcP) ∧
            (dcP = true → ∃ p rest, r = p :: rest ∧ s5.time = rd64 p.data) ∧ (dcP = false → s5.time = s.time) := by
          have e5 : s5.sent = s4.sent ∧ s5.time = s4.time ∧ s5.timeRead = s4.timeRead := by
            rw [q1]; exact ⟨rfl, rfl, rfl⟩
          have e4 : s4.time = s3.time ∧ s4.timeRead = s3.timeRead := by rw [l1]; exact ⟨rfl, rfl⟩
          rw [e5.1, e5.2.1, e5.2.2, e4.1, e4.2, l5 pdus' rfl, k3.2]
          exact ⟨rfl, htr, htt, htf⟩
        have same : ∀ {t : Step} {s'}, t.st = s5 → t.Ok s' → s5 = s' := fun e h => e.symm.trans h.st
        dsimp only
        split
        · rename_i hc
          simp only [exitCond, Bool.and_eq_true, beq_iff_eq, decide_eq_true_eq] at hc
          exact ⟨k5, nofun, fun s' h => same rfl h ▸ ⟨f5, fun _ => ⟨hc.2.1, hc.2.2, hc.1⟩⟩⟩
        · exact ⟨k5, nofun, fun s' h => same rfl h ▸ ⟨f5, nofun⟩⟩

/-- On an answer of the requested shape `consume` panics in the working-counter addition or goes through. -/
theorem consume_shaped (c : Cfg) (dcP : Bool) (pushed : Option Nat) (chunkLen : Nat) (s : St)
    (pd pl : RPdu) (rs : List RPdu)
    (hd : dcP = true → pd.data.length = 8)
    (hl : ∀ k, pushed = some k → pl.data.length = k)
    (hs : ∀ p ∈ rs, p.data.length = 2) (hst : s.states.length + rs.length ≤ c.maxSd) :
    (∃ x w, consume c dcP pushed chunkLen s
        ((if dcP then [pd] else []) ++ (if pushed.isSome then [pl] else []) ++ rs) = .panic x w) ∨
    (∃ x, (consume c dcP pushed chunkLen s
        ((if dcP then [pd] else []) ++ (if pushed.isSome then [pl] else []) ++ rs)).Ok x ∧
      x.states = s.states ++ rs.map nib ∧
      (pushed = none → x.image = s.image ∧ x.wkc = s.wkc) ∧
      (∀ k, pushed = some k → x.image = setRange s.image (min s.sent c.readLen)
          (pl.data.take (min (s.sent + k) c.readLen - min s.sent c.readLen)) ∧
        addU 16 c.mode s.wkc pl.wkc = some x.wkc)) := by
  -- the clock datagram's answer changes neither image, counters nor states: from here on `s3` stands for `s`
  obtain ⟨s3, hdc, hi3, hse3, hw3, hst3⟩ : ∃ s3,
      (∀ rest, consumeDc dcP s ((if dcP then [pd] else []) ++ rest) = .ok (s3, rest)) ∧
      s.image = s3.image ∧ s.sent = s3.sent ∧ s.wkc = s3.wkc ∧ s.states = s3.states := by
    cases dcP with
    | false => exact ⟨s, fun _ => rfl, rfl, rfl, rfl, rfl⟩
    | true =>
      have h8 : ¬ pd.data.length < Gen.TxRx.U64_PACKED_LEN := by rw [hd rfl]; decide
      exact ⟨_, fun _ => if_neg h8, rfl, rfl, rfl, rfl⟩
  have fin : ∀ (b : Bool) (x : St), (if b then Step.done x else .continue x).Ok x := fun b x => by
    cases b
    · exact .inl rfl
    · exact .inr rfl
  rw [consume, List.append_assoc, hdc, hi3, hse3, hw3, hst3]
  rw [hst3] at hst
  cases pushed with
  | none =>
    simp only [consumeLrw, Option.isSome, Bool.false_eq_true, if_false, List.nil_append]
    rw [consumeStates_ok c rs _ hs hst]
    exact .inr ⟨_, fin _ _, rfl, fun _ => ⟨rfl, rfl⟩, nofun⟩
  | some k =>
    have hn : ¬ pl.data.length < min (s3.sent + k) c.readLen - min s3.sent c.readLen := by
      rw [hl k rfl]; omega
    simp only [consumeLrw, Option.isSome, if_true, List.cons_append, List.nil_append, if_neg hn]
    cases ha : addU 16 c.mode s3.wkc pl.wkc with
    | none => exact .inl ⟨_, _, rfl⟩
    | some w =>
      simp only
      rw [consumeStates_ok c rs _ hs (by exact hst)]
      exact .inr ⟨_, fin _ _, rfl, nofun, fun _ h => by cases h; exact ⟨rfl, rfl⟩⟩

theorem kOf_le (c : Cfg) (s : St) : kOf c s ≤ remOf s := Nat.min_le_left _ _

theorem kOf_pos {c : Cfg} {s : St} {n : Nat} (h : CfgOk c n) (hr : remOf s ≠ 0) : 0 < kOf c s := by
  have := room_after_dc (s := s) h
  exact Nat.lt_min.2 ⟨Nat.pos_of_ne_zero hr, by omega⟩

theorem tOf_le (c : Cfg) (s : St) : tOf c s ≤ s.subs.length :=
  Nat.le_trans (Nat.min_le_left _ _) (Nat.min_le_left _ _)

theorem pushedOf_fits {c : Cfg} {s : St} {k : Nat} (h : pushedOf c s = some k) : s.sent + k ≤ s.image.length := by
  unfold pushedOf at h
  split at h
  · cases h
  · rename_i hr
    cases h
    exact Nat.add_le_of_le_sub' (Nat.le_of_lt (Nat.lt_of_sub_pos (Nat.pos_of_ne_zero hr))) (kOf_le c s)

theorem dcDescs_eq_nil (c : Cfg) (s : St) : dcDescs c s = [] ↔ needDc c s = false := by
  unfold dcDescs needDc; cases c.dc <;> cases s.timeRead <;> simp

theorem kOf_noDc {c : Cfg} {s : St} (hd : needDc c s = false) : kOf c s = min (remOf s) (c.cap - 28) := by
  simp only [kOf, u0, hd, Bool.false_eq_true, if_false, Nat.sub_zero, Nat.sub_sub]

def ceilDiv (a b : Nat) : Nat := (a + b - 1) / b

/-- State checks one frame can carry when it carries nothing else. -/
def perFrame (c : Cfg) : Nat := min ((c.cap - 16) / 14) 129

theorem tOf_idle {c : Cfg} {s : St} (hd : needDc c s = false) (hr : remOf s = 0) :
    tOf c s = min s.subs.length (perFrame c) := by
  simp only [tOf, checksFit, u1, u0, hd, hr, perFrame, if_true, if_false, Bool.false_eq_true, Nat.add_zero,
    Nat.sub_zero, Nat.min_assoc]

theorem perFrame_pos {c : Cfg} {n : Nat} (h : CfgOk c n) : 0 < perFrame c := by
  have := h.capLo; unfold perFrame; omega

theorem planDescs_nil {c : Cfg} {s : St} {n : Nat} (h : CfgOk c n) (hp : planDescs c s = []) :
    needDc c s = false ∧ remOf s = 0 ∧ s.subs = [] := by
  simp only [planDescs, List.append_eq_nil_iff, List.map_eq_nil_iff, dcDescs_eq_nil] at hp
  obtain ⟨⟨hd, hl⟩, ht⟩ := hp
  have hr : remOf s = 0 := by
    unfold lrwDescs at hl; split at hl
    · assumption
    · cases hl
  refine ⟨hd, hr, ?_⟩
  rw [tOf_idle hd hr, List.take_eq_nil_iff] at ht
  have := perFrame_pos h
  exact ht.elim (fun h0 => List.eq_nil_of_length_eq_zero (by omega)) id

theorem ceilDiv_mono {a a' : Nat} (b : Nat) (h : a ≤ a') : ceilDiv a b ≤ ceilDiv a' b :=
  Nat.div_le_div_right (by omega)

theorem ceilDiv_pos {a b : Nat} (hb : 0 < b) (ha : 0 < a) : 1 ≤ ceilDiv a b :=
  (Nat.le_div_iff_mul_le hb).2 (by omega)

theorem ceilDiv_step {a b : Nat} (hb : 0 < b) (ha : 0 < a) : ceilDiv (a - min a b) b + 1 ≤ ceilDiv a b := by
  by_cases hab : a ≤ b
  · rw [Nat.min_eq_left hab, Nat.sub_self, show ceilDiv 0 b = 0 from Nat.div_eq_of_lt (by omega)]
    exact ceilDiv_pos hb ha
  · -- `(a - b) + b - 1` is `a - 1`, and adding `b` to a numerator adds one to the quotient
    rw [Nat.min_eq_right (Nat.le_of_not_le hab)]; unfold ceilDiv
    rw [Nat.sub_add_cancel (Nat.le_of_not_le hab), ← Nat.add_div_right _ hb, ← Nat.sub_add_comm ha]
    exact Nat.le_refl _

theorem ceilDiv_le {a b : Nat} (hb : 0 < b) : ceilDiv a b ≤ a := by
  unfold ceilDiv
  rcases Nat.eq_zero_or_pos a with rfl | h
  · rw [Nat.div_eq_of_lt (by omega)]; exact Nat.le_refl _
  · exact Nat.le_of_lt_succ ((Nat.div_lt_iff_lt_mul hb).2 (by
      have : a * 1 ≤ a * b := Nat.mul_le_mul_left a hb
      rw [Nat.succ_mul]; omega))

/-- Frames still needed: image bytes at `cap - 28` per frame, state checks at `perFrame`, plus the first frame of
    the clock variants. -/
def Phi (c : Cfg) (s : St) : Nat :=
  ceilDiv (remOf s) (c.cap - 28) + ceilDiv s.subs.length (perFrame c) + (if needDc c s then 1 else 0)

theorem needDc_after {c : Cfg} {s s' : St} (htr : s'.timeRead = (s.timeRead || needDc c s)) :
    needDc c s' = false := by
  unfold needDc at htr ⊢; rw [htr]; cases c.dc.isSome <;> cases s.timeRead <;> rfl

/-- A pass that sends something needs one frame less afterwards: the clock datagram is not due again, and
    otherwise the LRW, or without one the state checks, had the whole frame. -/
theorem phi_step {c : Cfg} {s s' : St} {n : Nat} (h : CfgOk c n) (hne : planDescs c s ≠ [])
    (hrem : remOf s' = remOf s - (if remOf s = 0 then 0 else kOf c s))
    (hsubs : s'.subs = s.subs.drop (tOf c s))
    (htr : s'.timeRead = (s.timeRead || needDc c s)) :
    Phi c s' + 1 ≤ Phi c s := by
  have hcap := h.capLo
  have hK := perFrame_pos h
  have hd' := needDc_after htr
  have m1 : ceilDiv (remOf s') (c.cap - 28) ≤ ceilDiv (remOf s) (c.cap - 28) :=
    ceilDiv_mono _ (by rw [hrem]; exact Nat.sub_le _ _)
  have m2 : ceilDiv s'.subs.length (perFrame c) ≤ ceilDiv s.subs.length (perFrame c) :=
    ceilDiv_mono _ (by rw [hsubs, List.length_drop]; exact Nat.sub_le _ _)
  unfold Phi
  rw [hd', if_neg Bool.false_ne_true]
  by_cases hd : needDc c s = true
  · rw [if_pos hd]; exact Nat.add_le_add_right (Nat.add_le_add m1 m2) 1
  · have hdf := Bool.eq_false_iff.2 hd
    rw [if_neg hd]
    by_cases hr : remOf s = 0
    · have hpos : 0 < s.subs.length := by
        refine Nat.pos_of_ne_zero fun h0 => hne ?_
        rw [planDescs, (dcDescs_eq_nil c s).2 hdf, lrwDescs, if_pos hr, List.eq_nil_of_length_eq_zero h0, List.take_nil]; rfl
      have := ceilDiv_step hK hpos
      rw [← tOf_idle hdf hr, ← List.length_drop, ← hsubs] at this
      exact (Nat.add_le_add m1 this : _ + (_ + 1) ≤ _)
    · have := ceilDiv_step (a := remOf s) (b := c.cap - 28) (by omega) (Nat.pos_of_ne_zero hr)
      have hk : (if remOf s = 0 then 0 else kOf c s) = min (remOf s) (c.cap - 28) := by
        rw [if_neg hr, kOf_noDc hdf]
      rw [← hk, ← hrem] at this
      have h3 := Nat.add_le_add this m2
      rw [Nat.add_right_comm] at h3
      exact h3

theorem phi_pos {c : Cfg} {s : St} {n : Nat} (h : CfgOk c n) (hne : planDescs c s ≠ []) : 1 ≤ Phi c s :=
  Nat.le_trans (Nat.le_add_left 1 _)
    (phi_step (s' := { s with
        sent := s.sent + (if remOf s = 0 then 0 else kOf c s), subs := s.subs.drop (tOf c s),
        timeRead := s.timeRead || needDc c s })
      h hne (Nat.sub_add_eq ..) rfl rfl)

/-- What `step` does to the state when it sends `fr`. -/
def sentState (s : St) (fr : Frame) (idx' t : Nat) : St :=
  { s with frames := s.frames ++ [fr], idx := idx', subs := s.subs.drop t, checks := s.checks + t }

/-- The frame sent in a pass from state `s`. -/
structure FrameGood (c : Cfg) (s : St) (fr : Frame) : Prop where
  descs : fr.dgrams.map desc = planDescs c s
  nonempty : fr.dgrams ≠ []
  bytes : fr.bytes = encodeFrame fr.dgrams
  size : dgramsSize fr.dgrams ≤ c.cap - 16
  len : fr.bytes.length ≤ c.cap

theorem FrameGood.plan_ne {c : Cfg} {s : St} {fr : Frame} (h : FrameGood c s fr) : planDescs c s ≠ [] :=
  fun e => h.nonempty (List.map_eq_nil_iff.1 (h.descs.trans e))

/-- The receive half of the pass from `s` that sent `fr` and found the answer `r`, with `rs` still to come. -/
def digest (c : Cfg) (s : St) (fr : Frame) (idx' : Nat) (rs : List (List RPdu)) (r : List RPdu) : Step :=
  consume c (needDc c s) (pushedOf c s) (remOf s) { sentState s fr idx' (tOf c s) with resps := rs } r

theorem digest_facts (c : Cfg) (s : St) (fr : Frame) (idx' : Nat) (rs : List (List RPdu)) (r : List RPdu) :
    Consumed c (needDc c s) (pushedOf c s) (remOf s) { sentState s fr idx' (tOf c s) with resps := rs } r
      (digest c s fr idx' rs r) :=
  consume_facts _ _ _ _ _ r fun _ hk => pushedOf_fits hk

theorem step_cases {c : Cfg} {s : St} (h : CfgOk c s.image.length) (hs : s.sent ≤ s.image.length) :
    (step c s = .done s ∧ remOf s = 0 ∧ (c.addrs.length ≤ s.checks ∨ s.subs = []) ∧ needDc c s = false) ∨
    (∃ fr idx', FrameGood c s fr ∧ (step c s).st.frames = s.frames ++ [fr] ∧
      (step c s).st.image.length = s.image.length ∧ (step c s).st.image.drop c.readLen = s.image.drop c.readLen ∧
      ((s.resps = [] ∧ step c s = .fail (sentState s fr idx' (tOf c s)) .timeout) ∨
       (∃ r rs, s.resps = r :: rs ∧ step c s = digest c s fr idx' rs r))) := by
  by_cases htop : (c.dc.isNone && exitCond c (s.image.length - s.sent) s.checks) = true
  · simp only [exitCond, Bool.and_eq_true, beq_iff_eq, decide_eq_true_eq, Option.isNone_iff_eq_none] at htop
    exact .inl ⟨by rw [step, if_pos (by simpa [exitCond] using htop)], htop.2.1, .inl htop.2.2,
      by rw [needDc, htop.1]; rfl⟩
  · obtain ⟨b, e, hb, hacc⟩ := buildFrame_spec h hs
    by_cases hc0 : (b.f.count == 0) = true
    · have hnil : b.acc = [] := List.eq_nil_of_length_eq_zero (by rw [← hb.inv.count]; exact beq_iff_eq.1 hc0)
      obtain ⟨h1, h2, h3⟩ := planDescs_nil h (by rw [← hacc, hnil]; rfl)
      exact .inl ⟨by rw [step, if_neg htop, e]; exact if_pos hc0, h2, .inr h3, h1⟩
    · have hne : b.acc ≠ [] := fun hnil => hc0 (by rw [hb.inv.count, hnil]; rfl)
      have hu := hb.inv.fits
      rw [hb.cap] at hu
      have hg : FrameGood c s ⟨b.f.markSendable.asBytes, b.acc⟩ :=
        ⟨hacc, hne, hb.inv.asBytes, hb.inv.used ▸ hu, by
          have := h.capLo
          show b.f.markSendable.asBytes.length ≤ c.cap
          rw [hb.inv.asBytes_length]; omega⟩
      have hstep : step c s = match s.resps with
          | [] => .fail (sentState s ⟨b.f.markSendable.asBytes, b.acc⟩ b.idx (tOf c s)) .timeout
          | r :: rs => digest c s ⟨b.f.markSendable.asBytes, b.acc⟩ b.idx rs r := by
        rw [step, if_neg htop, e]; dsimp only; rw [if_neg hc0]; rfl
      refine .inr ⟨_, b.idx, hg, ?_⟩
      rw [hstep]
      cases hr : s.resps with
      | nil => exact ⟨rfl, rfl, rfl, .inl ⟨rfl, rfl⟩⟩
      | cons r rs =>
        have hk := (digest_facts c s ⟨b.f.markSendable.asBytes, b.acc⟩ b.idx rs r).kept
        exact ⟨congrArg (·.frames) hk.same, hk.len, hk.drop _ (Nat.min_le_right _ _), .inr ⟨r, rs, rfl, rfl⟩⟩

/-- A pass from `s` sent a frame, got an answer and digested all of it, ending in `s'`. -/
def Advance (c : Cfg) (s s' : St) : Prop :=
  ∃ fr idx' r rs, FrameGood c s fr ∧ s.resps = r :: rs ∧
    (consume c (needDc c s) (pushedOf c s) (remOf s) { sentState s fr idx' (tOf c s) with resps := rs } r
        = .continue s' ∨
     consume c (needDc c s) (pushedOf c s) (remOf s) { sentState s fr idx' (tOf c s) with resps := rs } r
        = .done s')

theorem advance_of_continue {c : Cfg} {s s' : St} (h : CfgOk c s.image.length) (hs : s.sent ≤ s.image.length)
    (hstep : step c s = .continue s') : Advance c s s' := by
  rcases step_cases h hs with ⟨hd, _⟩ | ⟨fr, idx', hg, _, _, _, ⟨_, hf⟩ | ⟨r, rs, hr, hc⟩⟩
  · rw [hd] at hstep; cases hstep
  · rw [hf] at hstep; cases hstep
  · exact ⟨fr, idx', r, rs, hg, hr, .inl (hc.symm.trans hstep)⟩

/-- What a digested pass does to the loop variables, whatever the answer contained. -/
structure Passed (c : Cfg) (s : St) (fr : Frame) (r : List RPdu) (s' : St) : Prop where
  frames : s'.frames = s.frames ++ [fr]
  resps : s.resps = r :: s'.resps
  subs : s'.subs = s.subs.drop (tOf c s)
  checks : s'.checks = s.checks + tOf c s
  len : s'.image.length = s.image.length
  outs : s'.image.drop c.readLen = s.image.drop c.readLen
  sent : s'.sent = s.sent + (if remOf s = 0 then 0 else kOf c s)
  unsent : s'.image.drop s'.sent = s.image.drop s'.sent
  timeRead : s'.timeRead = (s.timeRead || needDc c s)
  time : (needDc c s = true → ∃ p rest, r = p :: rest ∧ s'.time = rd64 p.data) ∧ (needDc c s = false → s'.time = s.time)
  rem : remOf s' = remOf s - (if remOf s = 0 then 0 else kOf c s)

theorem passed {c : Cfg} {s s' : St} {fr : Frame} {idx' : Nat} {r : List RPdu} {rs : List (List RPdu)}
    (hresp : s.resps = r :: rs) (hres : (digest c s fr idx' rs r).Ok s') : Passed c s fr r s' := by
  have hc := digest_facts c s fr idx' rs r
  obtain ⟨⟨hsent, htr, ht1, ht2⟩, _⟩ := hc.ok s' hres
  have hk := hc.kept
  rw [hres.st] at hk
  have hsent' : s'.sent = s.sent + (if remOf s = 0 then 0 else kOf c s) := by
    rw [hsent, pushedOf]; split <;> rfl
  refine ⟨congrArg (·.frames) hk.same, hresp.trans (congrArg (r :: ·.resps) hk.same).symm,
    congrArg (·.subs) hk.same, congrArg (·.checks) hk.same, hk.len, hk.drop _ (Nat.min_le_right _ _), hsent',
    hk.drop _ (hsent ▸ Nat.min_le_left _ _), htr, ⟨ht1, ht2⟩, ?_⟩
  · rw [remOf, hk.len, hsent', Nat.sub_add_eq]; rfl

theorem Advance.passed {c : Cfg} {s s' : St} (ha : Advance c s s') :
    ∃ fr r, FrameGood c s fr ∧ Passed c s fr r s' :=
  let ⟨fr, _, r, _, hg, hresp, hres⟩ := ha
  ⟨fr, r, hg, TxRx.passed hresp hres⟩

theorem done_cases {c : Cfg} {s s' : St} (h : CfgOk c s.image.length) (hs : s.sent ≤ s.image.length)
    (hstep : step c s = .done s') :
    (s' = s ∧ remOf s = 0 ∧ (c.addrs.length ≤ s.checks ∨ s.subs = []) ∧ needDc c s = false) ∨
    (Advance c s s' ∧ remOf s = 0 ∧ c.addrs.length ≤ s'.checks) := by
  rcases step_cases h hs with ⟨hd, h1, h2, h3⟩ | ⟨fr, idx', hg, _, _, _, ⟨_, hf⟩ | ⟨r, rs, hr, hc⟩⟩
  · rw [hd] at hstep; cases hstep; exact .inl ⟨rfl, h1, h2, h3⟩
  · rw [hf] at hstep; cases hstep
  · rw [hc] at hstep
    have := ((digest_facts c s fr idx' rs r).ok s' (.inr hstep)).2 hstep
    exact .inr ⟨⟨fr, idx', r, rs, hg, hr, .inr hstep⟩, this.1, this.2.1⟩

/-- How the loop ends after this pass, if it does. -/
def Step.out : Step → Option (Outcome TxErr Unit)
  | .continue _ => none
  | .done _ => some (.ok ())
  | .fail _ e => some (.err e)
  | .panic _ w => some (.panic w)

theorem Step.out_none {t : Step} (h : t.out = none) : t = .continue t.st := by
  cases t <;> cases h
  rfl

theorem Step.out_ok {t : Step} (h : t.out = some (.ok ())) : t = .done t.st := by
  cases t <;> cases h
  rfl

theorem Step.out_err {t : Step} {e : TxErr} (h : t.out = some (.err e)) : t = .fail t.st e := by
  cases t <;> cases h
  rfl

theorem loop_succ (c : Cfg) (fuel : Nat) (s : St) :
    loop c (fuel + 1) s = match (step c s).out with
      | none => loop c fuel (step c s).st
      | some o => ((step c s).st, o) := by
  rw [loop]; cases step c s <;> rfl

/-- A pass fails only for want of an answer or over what the answer holds: no push is ever refused. -/
theorem step_fail_kind {c : Cfg} {s x : St} {e : TxErr} (h : CfgOk c s.image.length) (hs : s.sent ≤ s.image.length)
    (hst : step c s = .fail x e) : e = .timeout ∨ e = .internal ∨ e = .wireShort := by
  rcases step_cases h hs with ⟨hd, _⟩ | ⟨fr, idx', _, _, _, _, ⟨_, hf⟩ | ⟨r, rs, _, hc⟩⟩
  · rw [hd] at hst; cases hst
  · rw [hf] at hst; cases hst; exact .inl rfl
  · exact .inr ((digest_facts c s fr idx' rs r).failKind x e (hc.symm.trans hst))

end Ec.TxRx
