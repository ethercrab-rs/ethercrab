/-
  Lemmas for C18 (DcSync model): the 64-bit little-endian round trip, the in-range evaluation of the
  start-time expression, and the shape of the register writes of one device / of the device loop.
-/
import EcModel.DcSync

namespace Ec.DcSync
open Ec

theorem rd64_le64 (n : Nat) (h : n < U64) : rd64 (le64 n) = n := by
  have h : n < 18446744073709551616 := h
  rw [rd64, le64, List.drop_left' (le32_length _), rd32_le32_append _ (Nat.mod_lt _ (by decide)),
    ← List.append_nil (le32 (n / 4294967296)), rd32_le32_append _ (by omega)]
  omega

/-- The register image `configure_dc_sync` leaves in one device that wants DC, in write order:
    sync unit deactivated; start time; SYNC0 cycle time; (only for `Sync01`) SYNC1 cycle time;
    activation `0x03` (SYNC0 + cyclic) or `0x07` (SYNC1 + SYNC0 + cyclic). Literal register numbers
    on purpose: the regenerated constants of `Ec.Gen.Dc` must agree with them. -/
def okWrites (start period : Nat) (d : Dev) : List Write :=
  [⟨d.addr, 0x0981, [0]⟩, ⟨d.addr, 0x0990, le64 start⟩, ⟨d.addr, 0x09A0, le64 period⟩] ++
  (match d.sync with
   | .sync01 s1 => [⟨d.addr, 0x09A4, le64 s1⟩, ⟨d.addr, 0x0981, [0x07]⟩]
   | _ => [⟨d.addr, 0x0981, [0x03]⟩])

/-- SYNC1 periods representable in 64 bits (`u64::try_from(sync1_period.as_nanos())` succeeds). -/
def Sync1Fits (d : Dev) : Prop := ∀ s1, d.sync = .sync01 s1 → s1 < U64

theorem startTime_ok (m : Mode) (first period : Nat) (h : first < U64) (hp : 0 < period) :
    startTime m first period = .ok (first / period * period) := by
  have hle : first / period * period ≤ first := Nat.div_mul_le_self _ _
  have hlt : first / period * period < U64 := by omega
  have hp' : period ≠ 0 := by omega
  simp [startTime, divU64, mulU64, hp', hlt]

theorem devBody_ok (m : Mode) (first period start : Nat) (d : Dev)
    (hs : startTime m first period = .ok start) (hf : Sync1Fits d) :
    devBody m first period d = (okWrites start period d, .ok ()) := by
  unfold devBody okWrites
  rw [hs]
  cases hsync : d.sync with
  | disabled => rfl
  | sync0 => rfl
  | sync01 s1 =>
    have : s1 < U64 := hf s1 hsync
    simp [this]
    decide

theorem devBody_addr (m : Mode) (first period : Nat) (d : Dev) :
    ∀ w ∈ (devBody m first period d).1, w.addr = d.addr := by
  unfold devBody
  cases startTime m first period with
  | panic s => simp
  | err e => simp
  | ok st =>
    cases d.sync with
    | disabled => simp
    | sync0 => simp
    | sync01 s1 =>
      by_cases h : s1 < U64 <;> simp [h]

theorem devLoop_ok (m : Mode) (first period start : Nat)
    (hs : startTime m first period = .ok start) (devs : List Dev)
    (hf : ∀ d ∈ devs, Sync1Fits d) :
    devLoop m first period devs = (((devs.filter (fun d => wants d)).flatMap (okWrites start period)), .ok ()) := by
  induction devs with
  | nil => rfl
  | cons d ds ih =>
    have ih' := ih (fun x hx => hf x (List.mem_cons_of_mem _ hx))
    by_cases hw : wants d = true
    · simp only [devLoop, hw, if_true]
      rw [devBody_ok m first period start d hs (hf d (List.mem_cons_self ..)), ih']
      simp [hw]
    · simp only [devLoop, hw]
      rw [ih']
      simp [hw]

theorem devLoop_addr (m : Mode) (first period : Nat) (devs : List Dev) :
    ∀ w ∈ (devLoop m first period devs).1, ∃ d ∈ devs, wants d = true ∧ w.addr = d.addr := by
  induction devs with
  | nil => simp [devLoop]
  | cons d ds ih =>
    intro w hwm
    by_cases hw : wants d = true
    · simp only [devLoop, hw, if_true] at hwm
      have hb := devBody_addr m first period d
      rcases hbody : devBody m first period d with ⟨ws, r⟩
      rw [hbody] at hwm hb
      cases r with
      | ok u =>
        cases u
        simp only [List.mem_append] at hwm
        rcases hwm with h | h
        · exact ⟨d, List.mem_cons_self .., hw, hb w h⟩
        · rcases ih w h with ⟨d', hd', hw', ha⟩
          exact ⟨d', List.mem_cons_of_mem _ hd', hw', ha⟩
      | err e => exact ⟨d, List.mem_cons_self .., hw, hb w hwm⟩
      | panic s => exact ⟨d, List.mem_cons_self .., hw, hb w hwm⟩
    · simp only [devLoop, hw] at hwm
      rcases ih w hwm with ⟨d', hd', hw', ha⟩
      exact ⟨d', List.mem_cons_of_mem _ hd', hw', ha⟩

theorem wants_iff (d : Dev) : wants d = true ↔ d.dcAny = true ∧ d.sync ≠ .disabled := by
  unfold wants; cases d.sync <;> simp

theorem configureDcSync_writes (m : Mode) (refAddr sys delay period shift : Nat) (devs : List Dev) :
    (configureDcSync m refAddr sys delay period shift devs).1 = [] ∨
    (configureDcSync m refAddr sys delay period shift devs).1 = (devLoop m (sys + delay) period devs).1 := by
  unfold configureDcSync
  repeat' split
  all_goals first | exact .inl rfl | (right; simp only [*])

end Ec.DcSync
