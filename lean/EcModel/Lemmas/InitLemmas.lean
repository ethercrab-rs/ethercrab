/- `init` (`EcModel.Init`) loop by loop, then as a whole on a ring of 1..65535 devices. -/
import EcModel.Init
import EcModel.Lemmas.NetLemmas

namespace Ec.Init

open Ec Ec.Net Ec.Gen.Init

theorem cfgAddr_lt (i : Nat) : cfgAddr i < 65536 :=
  Nat.mod_lt _ (by decide)

/-- Adding `0x1000` mod 2^16 is undone by adding `0xF000`. -/
theorem cfgAddr_inv (i : Nat) (hi : i < 65536) : (cfgAddr i + 61440) % 65536 = i := by
  rw [cfgAddr, Nat.mod_add_mod, Nat.add_right_comm]
  exact (Nat.add_mod_left 65536 i).trans (Nat.mod_eq_of_lt hi)

theorem cfgAddr_inj {i j : Nat} (hi : i < 65536) (hj : j < 65536) (h : cfgAddr i = cfgAddr j) : i = j := by
  rw [← cfgAddr_inv i hi, h, cfgAddr_inv j hj]

/-- The station address column after the first `k` iterations of the assignment loop. -/
def assigned (k : Nat) (st0 : List Nat) : List Nat :=
  st0.mapIdx fun p x => if p < k then cfgAddr p else x

theorem assigned_length (k : Nat) (st0 : List Nat) : (assigned k st0).length = st0.length :=
  List.length_mapIdx

theorem assigned_getElem? (k : Nat) (st0 : List Nat) (p : Nat) :
    (assigned k st0)[p]? = if p < k then st0[p]?.map (fun _ => cfgAddr p) else st0[p]? := by
  rw [assigned, List.getElem?_mapIdx]
  by_cases h : p < k <;> simp [h]

theorem assigned_zero (st0 : List Nat) : assigned 0 st0 = st0 :=
  List.ext_getElem? fun p => by rw [assigned_getElem?, if_neg (Nat.not_lt_zero p)]

theorem assigned_all (st0 : List Nat) : assigned st0.length st0 = (List.range st0.length).map cfgAddr := by
  apply List.ext_getElem (by rw [assigned_length, List.length_map, List.length_range])
  intro p hp _
  rw [assigned_length] at hp
  simp [assigned, hp]

theorem assign_step (i : Nat) (st0 : List Nat) :
    writeAt [i] (cfgAddr i) (assigned i st0) = assigned (i + 1) st0 := by
  apply List.ext_getElem?
  intro p
  simp only [writeAt_getElem?, assigned_getElem?, List.mem_singleton]
  by_cases hpi : p = i
  · subst hpi
    rw [if_pos rfl, if_neg (Nat.lt_irrefl p), if_pos (Nat.lt_succ_self p)]
  · rw [if_neg hpi]
    simp only [show p < i + 1 ↔ p < i by omega]

theorem assignLoop_ok (len : Nat) (st0 : List Nat) (hle : len ≤ 65536) (t i : Nat) (log : List Entry1)
    (h : i + t ≤ len) :
    assignLoop len t i (assigned i st0) log =
      (.ok (), assigned (i + t) st0,
        log ++ (List.range' i t).map fun j => (Tok1.apwr j REG_ConfiguredStationAddress, [j])) := by
  induction t generalizing i log with
  | zero => simp [assignLoop]
  | succ t ih =>
    rw [assignLoop, apExecutors_single (Nat.lt_of_lt_of_le (Nat.lt_add_of_pos_right t.succ_pos) h) hle,
      wkc_single, if_neg (by simp), assign_step, ih (i + 1) _ (by rw [Nat.add_assoc, Nat.add_comm 1]; exact h),
      List.range'_succ, List.map_cons, List.append_assoc, Nat.add_assoc, Nat.add_comm 1 t]
    rfl

theorem fpExecutors_assigned {n i : Nat} (hn : n ≤ 65536) (hi : i < n) :
    fpExecutors ((List.range n).map cfgAddr) (cfgAddr i) = [i] := by
  rw [fpExecutors, List.length_map, List.length_range, filter_range_unique _ i n, if_pos hi]
  intro p hp
  rw [List.getElem?_map, List.getElem?_range hp, Option.map_some, beq_iff_eq, Option.some.injEq]
  exact ⟨cfgAddr_inj (Nat.lt_of_lt_of_le hp hn) (Nat.lt_of_lt_of_le hi hn), congrArg cfgAddr⟩

/-- The record `SubDevice::new(i)` should produce: built from device `i`'s data only. -/
def recordOf (infos : List DevInfo) (i : Nat) : Record := ⟨i, cfgAddr i, infos.getD i default⟩

theorem subdeviceNew_own {stations als : List Nat} {infos : List DevInfo} {i : Nat}
    (hex : fpExecutors stations (cfgAddr i) = [i])
    (hal : als[i]?.map (· % 16) = some 1) :
    (subdeviceNew stations als infos i).1 = .ok (recordOf infos i) := by
  simp only [subdeviceNew, hex, readLast_single, hal, wkc_single, ne_eq, not_true_eq_false, if_false,
    recordOf, List.getD_eq_getElem?_getD]

theorem newLoop_result (maxSub n : Nat) (stations als : List Nat) (infos : List DevInfo)
    (hnew : ∀ i, i < n → (subdeviceNew stations als infos i).1 = .ok (recordOf infos i))
    (t i : Nat) (acc : List Record) (log : List Entry2) (h : i + t = n) (hacc : acc.length = i) (hm : i ≤ maxSub) :
    (newLoop maxSub stations als infos t i acc log).1 =
      if n ≤ maxSub then .ok (acc ++ (List.range' i t).map (recordOf infos)) else .err .capSub := by
  induction t generalizing i acc log with
  | zero => rw [newLoop, if_pos (h ▸ hm), List.range'_zero, List.map_nil, List.append_nil]
  | succ t ih =>
    have hin : i < n := h ▸ Nat.lt_add_of_pos_right t.succ_pos
    have hi := hnew i hin
    rw [newLoop]
    rcases hsn : subdeviceNew stations als infos i with ⟨o, l⟩
    obtain rfl : o = _ := hsn ▸ hi
    by_cases hcap : acc.length ≥ maxSub
    · simp only [if_pos hcap, if_neg (Nat.not_le.2 (Nat.lt_of_le_of_lt (hacc ▸ hcap) hin))]
    · simp only [if_neg hcap]
      rw [ih (i + 1) _ _ (by rw [Nat.add_assoc, Nat.add_comm 1]; exact h) (by rw [List.length_append, hacc]; rfl)
        (hacc ▸ Nat.lt_of_not_ge hcap), List.range'_succ, List.map_cons, List.append_assoc]
      rfl

theorem newLoop_assigned (maxSub : Nat) {n : Nat} (infos : List DevInfo) (hn : n ≤ 65535) :
    (newLoop maxSub ((List.range n).map cfgAddr) (List.replicate n 1) infos n 0 [] []).1 =
      if n ≤ maxSub then .ok ((List.range n).map (recordOf infos)) else .err .capSub := by
  have := newLoop_result maxSub n ((List.range n).map cfgAddr) (List.replicate n 1) infos
    (fun i hi => subdeviceNew_own (fpExecutors_assigned (Nat.le_succ_of_le hn) hi) (by simp [hi]))
    n 0 [] [] (Nat.zero_add n) rfl (Nat.zero_le _)
  rwa [List.nil_append, ← List.range_eq_range'] at this

theorem groupLoop_cons_ok {maxSub : Nat} {caps : List Nat} {assign : Record → Option Nat} {r : Record}
    {rs : List Record} {g g' : Groups} (h : groupLoop maxSub caps assign (r :: rs) g = .ok g') :
    ∃ k order, assign r = some k ∧ k < g.members.length ∧
      groupLoop maxSub caps assign rs ⟨g.members.modify k (· ++ [r]), order⟩ = .ok g' := by
  generalize hl : r :: rs = l at h
  revert h
  fun_cases groupLoop maxSub caps assign l g <;> intro h
  case case1 => cases hl
  case case5 hk _ _ _ => cases hl; exact ⟨_, _, ‹_›, Nat.lt_of_not_ge hk, h⟩
  case case7 hk _ _ _ _ => cases hl; exact ⟨_, _, ‹_›, Nat.lt_of_not_ge hk, h⟩
  all_goals cases h

theorem flatten_modify_perm {α : Type} (r : α) {ms : List (List α)} {k : Nat} (h : k < ms.length) :
    (ms.modify k (· ++ [r])).flatten.Perm (ms.flatten ++ [r]) := by
  induction ms generalizing k with
  | nil => cases h
  | cons m ms ih =>
    cases k with
    | zero =>
      rw [List.modify_zero_cons, List.flatten_cons, List.flatten_cons, List.append_assoc, List.append_assoc]
      exact List.Perm.append_left m List.perm_append_comm
    | succ k =>
      rw [List.modify_succ_cons, List.flatten_cons, List.flatten_cons, List.append_assoc]
      exact List.Perm.append_left m (ih (Nat.lt_of_succ_lt_succ h))

theorem modify_length' {α : Type} (f : α → α) (l : List α) (k : Nat) : (l.modify k f).length = l.length :=
  List.length_modify ..

theorem mem_getD_modify {α : Type} {r x : α} {ms : List (List α)} {k k' : Nat}
    (h : x ∈ (ms.modify k (· ++ [r])).getD k' []) : x ∈ ms.getD k' [] ∨ k = k' ∧ x = r := by
  simp only [List.getD_eq_getElem?_getD, List.getElem?_modify] at h ⊢
  cases hg : ms[k']? with
  | none => simp [hg] at h
  | some m =>
    by_cases hkk : k = k'
    · simpa [hg, hkk] using h
    · exact .inl (by simpa [hg, hkk] using h)

theorem groupLoop_perm {maxSub : Nat} {caps : List Nat} {assign : Record → Option Nat} {rs : List Record}
    {g g' : Groups} (h : groupLoop maxSub caps assign rs g = .ok g') :
    g'.members.flatten.Perm (g.members.flatten ++ rs) ∧ g'.members.length = g.members.length := by
  induction rs generalizing g with
  | nil => cases h; simp
  | cons r rs ih =>
    obtain ⟨k, order, _, hk, h⟩ := groupLoop_cons_ok h
    obtain ⟨h1, h2⟩ := ih h
    refine ⟨h1.trans ?_, h2.trans (List.length_modify ..)⟩
    simpa using (flatten_modify_perm r hk).append_right rs

theorem groupLoop_respects {maxSub : Nat} {caps : List Nat} {assign : Record → Option Nat} {rs : List Record}
    {g g' : Groups} (h : groupLoop maxSub caps assign rs g = .ok g')
    (hinv : ∀ k r, r ∈ g.members.getD k [] → assign r = some k) :
    ∀ k r, r ∈ g'.members.getD k [] → assign r = some k := by
  induction rs generalizing g with
  | nil => cases h; exact hinv
  | cons r rs ih =>
    obtain ⟨k, order, ha, _, h⟩ := groupLoop_cons_ok h
    exact ih h fun k' r' hr' => (mem_getD_modify hr').elim (hinv k' r') fun e => e.1 ▸ e.2 ▸ ha

/-- The AL status column of a ring of `n` devices that was reset and partly moved to PRE-OP. -/
def InitOrPreop (n : Nat) (als : List Nat) : Prop := als.length = n ∧ ∀ a ∈ als, a = 1 ∨ a = 2

theorem configureMailboxes_als {stations als : List Nat} {infos : List DevInfo} {r : Record} {als' : List Nat}
    {l : List Entry2} {n : Nat} (h : configureMailboxes stations als infos r = (.ok als', l))
    (hinv : InitOrPreop n als) : InitOrPreop n als' := by
  have : als' = writeAt (fpExecutors stations r.cfg) 2 als := by
    revert h
    fun_cases configureMailboxes <;> intro h
    · cases h
    · cases h
    · exact (Outcome.ok.inj (Prod.mk.inj h).1).symm
  subst this
  exact ⟨(writeAt_length ..).trans hinv.1, fun a ha => (mem_writeAt ha).elim .inr (hinv.2 a)⟩

theorem preopMembers_als {stations : List Nat} {infos : List DevInfo} {rs : List Record} {als : List Nat}
    {log : List Entry2} {als' : List Nat} {log' : List Entry2} {n : Nat}
    (h : preopMembers stations infos rs als log = (.ok als', log')) (hinv : InitOrPreop n als) :
    InitOrPreop n als' := by
  fun_induction preopMembers stations infos rs als log with
  | case1 => cases h; exact hinv
  | case2 _ _ _ _ _ _ hc ih => exact ih h (configureMailboxes_als hc hinv)
  | case3 => cases h
  | case4 => cases h

theorem preopGroups_als {stations : List Nat} {infos : List DevInfo} {members : List (List Record)}
    {ks : List Nat} {als : List Nat} {log : List Entry2} {r als' : List Nat} {log' : List Entry2} {n : Nat}
    (h : preopGroups stations infos members ks als log = (.ok r, als', log')) (hinv : InitOrPreop n als) :
    InitOrPreop n r := by
  fun_induction preopGroups stations infos members ks als log with
  | case1 => cases h; exact hinv
  | case2 _ _ _ _ _ _ hc ih => exact ih h (preopMembers_als hc hinv)
  | case3 => cases h
  | case4 => cases h

theorem foldl_lor_odd (l : List Nat) (acc : Nat) :
    l.foldl Nat.lor acc % 2 = 1 ↔ acc % 2 = 1 ∨ ∃ a ∈ l, a % 2 = 1 := by
  induction l generalizing acc with
  | nil => simp
  | cons a l ih =>
    rw [List.foldl_cons, ih, show Nat.lor acc a = acc ||| a from rfl, Nat.or_mod_two_eq_one]
    simp [or_assoc]

/-- INIT is 1 and PRE-OP is 2: a broadcast read of 2 means nobody is still in INIT. -/
theorem brdOr_preop {als : List Nat} (hinv : ∀ a ∈ als, a = 1 ∨ a = 2) (h : brdOr als % 16 = 2) :
    ∀ a ∈ als, a = 2 := by
  intro a ha
  refine (hinv a ha).resolve_left fun h1 => ?_
  have := (foldl_lor_odd als 0).2 (.inr ⟨a, ha, by rw [h1]⟩)
  rw [brdOr] at h
  omega

/-! ### no function of the model produces a panic outcome: each only forwards one from its callee -/

section NoPanic

variable {maxSub len iters n : Nat} {caps : List Nat} {assign : Record → Option Nat} {stations als : List Nat}
  {infos : List DevInfo} {s : String}

theorem subdeviceNew_no_panic {i : Nat} : (subdeviceNew stations als infos i).1 ≠ .panic s := by
  fun_cases subdeviceNew <;> nofun

theorem newLoop_no_panic {t i : Nat} {acc : List Record} {log : List Entry2} :
    (newLoop maxSub stations als infos t i acc log).1 ≠ .panic s := by
  fun_induction newLoop maxSub stations als infos t i acc log with
  | case3 => assumption
  | case5 _ _ _ _ _ _ h => exact absurd (congrArg Prod.fst h) subdeviceNew_no_panic
  | _ => nofun

theorem assignLoop_no_panic {t i : Nat} {log : List Entry1} : (assignLoop len t i stations log).1 ≠ .panic s := by
  fun_induction assignLoop len t i stations log with
  | case3 => assumption
  | _ => nofun

theorem dcReadLoop_no_panic {rs : List Record} {log : List Entry2} : (dcReadLoop stations rs log).1 ≠ .panic s := by
  fun_induction dcReadLoop stations rs log with
  | case3 => assumption
  | _ => nofun

theorem dcPhase_no_panic {records : List Record} : (dcPhase stations infos records iters).1 ≠ .panic s := by
  fun_cases dcPhase
  case case5 h => exact absurd (congrArg Prod.fst h) dcReadLoop_no_panic
  all_goals nofun

theorem groupLoop_no_panic {rs : List Record} {g : Groups} : groupLoop maxSub caps assign rs g ≠ .panic s := by
  fun_induction groupLoop maxSub caps assign rs g with
  | case5 | case7 => assumption
  | _ => nofun

theorem configureMailboxes_no_panic {r : Record} : (configureMailboxes stations als infos r).1 ≠ .panic s := by
  fun_cases configureMailboxes <;> nofun

theorem preopMembers_no_panic {rs : List Record} {log : List Entry2} :
    (preopMembers stations infos rs als log).1 ≠ .panic s := by
  fun_induction preopMembers stations infos rs als log with
  | case2 => assumption
  | case4 _ _ _ _ _ _ h => exact absurd (congrArg Prod.fst h) configureMailboxes_no_panic
  | _ => nofun

theorem preopGroups_no_panic {members : List (List Record)} {ks : List Nat} {log : List Entry2} :
    (preopGroups stations infos members ks als log).1 ≠ .panic s := by
  fun_induction preopGroups stations infos members ks als log with
  | case2 => assumption
  | case4 _ _ _ _ _ _ h => exact absurd (congrArg Prod.fst h) preopMembers_no_panic
  | _ => nofun

theorem afterAssign_no_panic : (afterAssign maxSub caps assign iters n stations als infos).1 ≠ .panic s := by
  fun_cases afterAssign
  case case2 h => exact absurd (congrArg Prod.fst h) newLoop_no_panic
  case case4 h => exact absurd (congrArg Prod.fst h) dcPhase_no_panic
  case case6 h => exact absurd h groupLoop_no_panic
  case case8 h => exact absurd (congrArg Prod.fst h) preopGroups_no_panic
  all_goals nofun

theorem init_no_panic {ring : List Dev} : (init maxSub caps assign iters ring).result ≠ .panic s := by
  fun_cases init
  case case3 h => exact absurd (congrArg Prod.fst h) assignLoop_no_panic
  case case4 => exact afterAssign_no_panic
  all_goals nofun

end NoPanic

/-- Phase 1 log of a ring of `n` devices. -/
def phase1Log (n : Nat) : List Entry1 :=
  [(Tok1.brd REG_Type, bExecutors n)] ++ resetLog n ++
    (List.range' 0 n).map fun j => (Tok1.apwr j REG_ConfiguredStationAddress, [j])

theorem init_eq {maxSub : Nat} {caps : List Nat} {assign : Record → Option Nat} {iters : Nat} {ring : List Dev}
    (h0 : ring ≠ []) (h : ring.length ≤ 65535) :
    init maxSub caps assign iters ring =
      let n := ring.length
      let r := afterAssign maxSub caps assign iters n ((List.range n).map cfgAddr) (List.replicate n 1)
        (ring.map (·.info))
      ⟨r.1, (List.range n).map cfgAddr, r.2.1, phase1Log n, r.2.2⟩ := by
  have hpos : ring.length ≠ 0 := mt List.length_eq_zero_iff.1 h0
  have hals := writeAt_broadcast 1 (ring.map (·.al))
  have hloop := assignLoop_ok ring.length (ring.map (·.station)) (Nat.le_succ_of_le h) ring.length 0
    ([(Tok1.brd REG_Type, bExecutors ring.length)] ++ resetLog ring.length) (Nat.le_of_eq (Nat.zero_add _))
  have hall := assigned_all (ring.map (·.station))
  rw [List.length_map] at hals hall
  rw [assigned_zero, Nat.zero_add, hall] at hloop
  simp only [init, wkc_bExecutors h, if_neg hpos, hals, hloop, phase1Log]

theorem afterAssign_ok {maxSub : Nat} {caps : List Nat} {assign : Record → Option Nat} {iters n : Nat}
    {stations als : List Nat} {infos : List DevInfo} {gs : List (List Record)} {als' : List Nat} {l : List Entry2}
    (h : afterAssign maxSub caps assign iters n stations als infos = (.ok gs, als', l)) :
    ∃ records l1 g x l3, newLoop maxSub stations als infos n 0 [] [] = (.ok records, l1) ∧
      groupLoop maxSub caps assign records ⟨caps.map fun _ => [], []⟩ = .ok g ∧ gs = g.members ∧
      preopGroups stations infos g.members g.order.reverse als l3 = (.ok als', x) ∧ brdOr als' % 16 = 2 := by
  revert h
  fun_cases afterAssign <;> intro h
  case case11 hb =>
    obtain ⟨rfl, rfl, -⟩ := (by simpa using h : _ ∧ _ ∧ _)
    exact ⟨_, _, _, _, _, ‹_›, ‹_›, rfl, ‹_›, Decidable.not_not.1 hb⟩
  all_goals cases h

theorem emptyGroups_getD (caps : List Nat) (k : Nat) :
    (caps.map fun _ => ([] : List Record)).getD k [] = [] := by
  rw [List.getD_eq_getElem?_getD, List.getElem?_map]
  cases caps[k]? <;> rfl

theorem emptyGroups_flatten (caps : List Nat) : (caps.map fun _ => ([] : List Record)).flatten = [] :=
  List.flatten_eq_nil_iff.2 fun l hl => by obtain ⟨_, _, rfl⟩ := List.mem_map.1 hl; rfl

theorem afterAssign_spec {maxSub : Nat} {caps : List Nat} {assign : Record → Option Nat} {iters n : Nat}
    {infos : List DevInfo} (hn : n ≤ 65535) :
    let r := afterAssign maxSub caps assign iters n ((List.range n).map cfgAddr) (List.replicate n 1) infos
    (maxSub < n → r.1 = .err .capSub) ∧
    (∀ gs, r.1 = .ok gs →
      n ≤ maxSub ∧
      gs.flatten.Perm ((List.range n).map (recordOf infos)) ∧
      gs.length = caps.length ∧
      (∀ k rec, rec ∈ gs.getD k [] → assign rec = some k) ∧
      (∀ a ∈ r.2.1, a = 2) ∧ r.2.1.length = n) := by
  have hnl := newLoop_assigned maxSub infos hn
  generalize hr : afterAssign maxSub caps assign iters n _ _ infos = r
  obtain ⟨o, als', l⟩ := r
  refine ⟨fun hcap => ?_, fun gs hgs => ?_⟩
  · rw [if_neg (Nat.not_le.2 hcap)] at hnl
    rcases hnew : newLoop maxSub ((List.range n).map cfgAddr) (List.replicate n 1) infos n 0 [] [] with ⟨o', l'⟩
    obtain rfl : o' = _ := hnew ▸ hnl
    rw [← hr]; simp only [afterAssign, hnew]
  · obtain rfl : o = _ := hgs
    obtain ⟨records, l1, g, x, l3, hnew, hg, rfl, hp, hb⟩ := afterAssign_ok hr
    rw [hnew] at hnl
    by_cases hcap : n ≤ maxSub
    · rw [if_pos hcap] at hnl
      cases hnl
      obtain ⟨hperm, hlen⟩ := groupLoop_perm hg
      obtain ⟨hl, hpre⟩ := preopGroups_als hp
        ⟨List.length_replicate, fun a ha => .inl (List.eq_of_mem_replicate ha)⟩
      rw [emptyGroups_flatten, List.nil_append] at hperm
      rw [List.length_map] at hlen
      refine ⟨hcap, hperm, hlen, ?_, brdOr_preop hpre hb, hl⟩
      exact groupLoop_respects hg fun k rec hrec => by rw [emptyGroups_getD] at hrec; cases hrec
    · rw [if_neg hcap] at hnl; cases hnl

end Ec.Init
