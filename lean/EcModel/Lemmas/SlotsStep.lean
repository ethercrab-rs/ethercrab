/-
  Step function over API operations for the sequential storage model (`Slots.lean`), reachability,
  the handle list, and the ownership invariant `J` with the ways of re-establishing it.

  `Op` has one constructor per operation token of `Drv/Seq.lean` (`no` aside); `step` is the same dispatch as
  `Drv.Seq.stepOp` after parsing, plus the three side conditions the harness' generator (and Rust's
  ownership) guarantee:
    * `alloc r` / `txNext r` put the new handle into a register that is free (a Rust `let`: storing
      into an occupied register would run the old handle's destructor, which is a separate op here);
    * `reset` needs `&mut PduLoop`, i.e. no handle borrowed from it is alive.
-/
import EcModel.Lemmas.SlotsLemmas

namespace Ec

inductive Op where
  | alloc (r : Nat)
  | push (r : Nat) (c : Cmd) (data : List Nat) (lenOv : Option Nat)
  | rest (r : Nat) (c : Cmd) (bytes : List Nat)
  | mark (r retries timeout : Nat)
  | dropCreated (r : Nat)
  | txNext (r : Nat)
  | txSend (r outcome : Nat)
  | rx (bytes : List Nat)
  | poll (r : Nat)
  | dropFut (r : Nat)
  | first (r code idx : Nat)
  | iter (r maxItems : Nat)
  | dropReceived (r : Nat)
  | viewRead (r : Nat)
  | viewTrim (r ct : Nat)
  | dropView (r : Nat)
  | advance (us : Nat)
  | reset
  | snap

def step (w : World) : Op → World × String
  | .alloc r => if (getH w.2 r).isNone then opAlloc w r else (w, "bad-op")
  | .push r c d l => opPush w r c d l
  | .rest r c b => opRest w r c b
  | .mark r retries timeout => opMark w r retries timeout
  | .dropCreated r => opDropCreated w r
  | .txNext r => if (getH w.2 r).isNone then opTxNext w r else (w, "bad-op")
  | .txSend r o => opTxSend w r o
  | .rx b => opRx w b
  | .poll r => opPoll w r
  | .dropFut r => opDropFut w r
  | .first r code idx => opFirst w r code idx
  | .iter r m => opIter w r m
  | .dropReceived r => opDropReceived w r
  | .viewRead r => opViewRead w r
  | .viewTrim r ct => opViewTrim w r ct
  | .dropView r => opDropView w r
  | .advance us => opAdvance w us
  | .reset => if w.2.isEmpty then opReset w else (w, "bad-op")
  | .snap => opSnap w

def run (w : World) (ops : List Op) : World := ops.foldl (fun w op => (step w op).1) w

/-- Result tokens of a history (what the line protocol prints). -/
def outs (w : World) : List Op → List String
  | [] => []
  | op :: ops => (step w op).2 :: outs (step w op).1 ops

/-- The initial world of a case line: fresh storage, counters preset, no handles. -/
def World.init (n data fi pi : Nat) : World :=
  ({ Sys.init n data with frameIdx := fi, pduIdx := pi }, [])

/-- Reachable from a fresh storage of `n` slots of `data` bytes by some history. -/
def Reach (n data : Nat) (w : World) : Prop := ∃ fi pi ops, w = run (World.init n data fi pi) ops

theorem run_nil (w : World) : run w [] = w := rfl
theorem run_cons (w : World) (op : Op) (ops : List Op) : run w (op :: ops) = run (step w op).1 ops := rfl
theorem run_append (w : World) (a b : List Op) : run w (a ++ b) = run (run w a) b := by
  simp [run, List.foldl_append]

theorem Reach.run {n data : Nat} {w : World} (h : Reach n data w) (ops : List Op) : Reach n data (run w ops) := by
  obtain ⟨fi, pi, ops0, e⟩ := h
  exact ⟨fi, pi, ops0 ++ ops, by rw [run_append, ← e]⟩

theorem Reach.step {n data : Nat} {w : World} (h : Reach n data w) (op : Op) : Reach n data (step w op).1 :=
  h.run [op]

theorem mem_delH {hs : List Hd} {r : Nat} {h : Hd} : h ∈ delH hs r ↔ h ∈ hs ∧ h.reg ≠ r := by
  simp [delH]

theorem mem_putH {hs : List Hd} {x h : Hd} : h ∈ putH hs x ↔ h = x ∨ (h ∈ hs ∧ h.reg ≠ x.reg) := by
  simp [putH, mem_delH]

theorem getH_some {hs : List Hd} {r : Nat} {h : Hd} (e : getH hs r = some h) : h ∈ hs ∧ h.reg = r := by
  unfold getH at e
  exact ⟨List.mem_of_find?_eq_some e, by simpa using List.find?_some e⟩

theorem getH_none {hs : List Hd} {r : Nat} (e : getH hs r = none) : ∀ h ∈ hs, h.reg ≠ r := by
  simpa [getH, List.find?_eq_none] using e

theorem getH_isNone {hs : List Hd} {r : Nat} : (getH hs r).isNone = true ↔ ∀ h ∈ hs, h.reg ≠ r := by
  simp [getH, List.find?_eq_none]

theorem delH_fresh {hs : List Hd} {r : Nat} (h : ∀ x ∈ hs, x.reg ≠ r) : delH hs r = hs := by
  unfold delH
  rw [List.filter_eq_self]
  intro x hx; simpa using h x hx

/-- Registers hold at most one handle each. -/
def Regs (hs : List Hd) : Prop := (hs.map (·.reg)).Nodup

theorem regs_delH {hs : List Hd} (h : Regs hs) (r : Nat) : Regs (delH hs r) := by
  unfold Regs delH at *
  exact h.sublist ((List.filter_sublist).map _)

theorem regs_putH {hs : List Hd} (h : Regs hs) (x : Hd) : Regs (putH hs x) := by
  have h' := regs_delH h x.reg
  unfold Regs putH at *
  simp only [List.map_cons, List.nodup_cons]
  refine ⟨?_, h'⟩
  intro hm
  obtain ⟨y, hy, e⟩ := List.mem_map.mp hm
  exact (mem_delH.mp hy).2 e

theorem regs_inj {hs : List Hd} (h : Regs hs) {a b : Hd} (ha : a ∈ hs) (hb : b ∈ hs) (e : a.reg = b.reg) :
    a = b := by
  induction hs with
  | nil => cases ha
  | cons x xs ih =>
    unfold Regs at h
    simp only [List.map_cons, List.nodup_cons] at h
    rcases List.mem_cons.mp ha with rfl | ha' <;> rcases List.mem_cons.mp hb with rfl | hb'
    · rfl
    · exact absurd (List.mem_map.mpr ⟨b, hb', e.symm⟩) h.1
    · exact absurd (List.mem_map.mpr ⟨a, ha', e⟩) h.1
    · exact ih h.2 ha' hb'

theorem getH_of_mem {hs : List Hd} (h : Regs hs) {a : Hd} (ha : a ∈ hs) : getH hs a.reg = some a := by
  cases e : getH hs a.reg with
  | none => exact absurd rfl (getH_none e a ha)
  | some b =>
    obtain ⟨hb, eb⟩ := getH_some e
    rw [regs_inj h hb ha eb]

theorem getH_putH_self (hs : List Hd) (y : Hd) : getH (putH hs y) y.reg = some y := by
  rw [putH, getH, List.find?_cons_of_pos (by simp)]

theorem getH_delH_self (hs : List Hd) (r : Nat) : getH (delH hs r) r = none := by
  cases e : getH (delH hs r) r with
  | none => rfl
  | some x => exact absurd (getH_some e).2 (mem_delH.mp (getH_some e).1).2

theorem getH_delH_other (hs : List Hd) {r r' : Nat} (hne : r ≠ r') : getH (delH hs r') r = getH hs r := by
  unfold getH delH
  rw [List.find?_filter]
  congr; funext a
  by_cases h : a.reg = r <;> simp [h, hne]

theorem getH_putH_other (hs : List Hd) (y : Hd) {r : Nat} (hne : r ≠ y.reg) :
    getH (putH hs y) r = getH hs r := by
  rw [putH, getH, List.find?_cons_of_neg (by simpa using Ne.symm hne)]; exact getH_delH_other hs hne

/-- Ownership class of a slot state: 0 free, 1 being built, 2 in flight, 3 response being read. -/
def St.cls : St → Nat
  | .none => 0
  | .created => 1
  | .sendable => 2 | .sending => 2 | .sent => 2 | .rxBusy => 2 | .rxDone => 2
  | .rxProcessing => 3

/-- Ownership class of a handle kind; 4 = the TX side's `SendableFrame`, which owns nothing. -/
def HK.cls : HK → Nat
  | .created _ _ => 1
  | .fut _ _ _ _ => 2
  | .received => 3
  | .view _ _ _ => 3
  | .sendable => 4

theorem St.cls_eq_zero {st : St} : st.cls = 0 ↔ st = .none := by cases st <;> simp [St.cls]
theorem St.cls_lt (st : St) : st.cls < 4 := by cases st <;> simp [St.cls]
theorem St.cls_eq_one {st : St} : st.cls = 1 ↔ st = .created := by cases st <;> simp [St.cls]
theorem St.cls_eq_two {st : St} : st.cls = 2 ↔
    st = .rxDone ∨ (st = .sendable ∨ st = .sending ∨ st = .sent ∨ st = .rxBusy) := by
  cases st <;> simp [St.cls]
theorem St.cls_eq_three {st : St} : st.cls = 3 ↔ st = .rxProcessing := by cases st <;> simp [St.cls]

theorem HK.cls_pos (k : HK) : 0 < k.cls := by cases k <;> simp [HK.cls]

/-- **J**: every held slot has exactly one live owner handle of the compatible kind, owner handles
    refer to distinct slots, registers are unique. `SendableFrame` handles (class 4) are non-owning
    and may refer to any slot. -/
structure J (s : Sys) (hs : List Hd) : Prop where
  pos : 0 < s.n
  regs : Regs hs
  distinct : ∀ a ∈ hs, ∀ b ∈ hs, a.kind.cls ≠ 4 → b.kind.cls ≠ 4 → a.slot = b.slot → a = b
  compat : ∀ h ∈ hs, h.kind.cls ≠ 4 → (s.slot h.slot).st.cls = h.kind.cls
  held : ∀ i, (s.slot i).st ≠ .none → ∃ h ∈ hs, h.kind.cls ≠ 4 ∧ h.slot = i

theorem J.of_free {s : Sys} (hn : 0 < s.n) (h : ∀ i, (s.slot i).st = .none) : J s [] :=
  ⟨hn, .nil, fun _ ha => (nomatch ha), fun _ ha => (nomatch ha), fun i hi => absurd (h i) hi⟩

theorem J.owner_held {s : Sys} {hs : List Hd} (hJ : J s hs) {h : Hd} (hm : h ∈ hs) (ho : h.kind.cls ≠ 4) :
    (s.slot h.slot).st ≠ .none := fun hn => by
  have := hJ.compat h hm ho
  rw [St.cls_eq_zero.mpr hn] at this
  exact absurd this.symm (Nat.ne_of_gt h.kind.cls_pos)

theorem J.owner_ne_free {s : Sys} {hs : List Hd} (hJ : J s hs) {h : Hd} (hm : h ∈ hs) (ho : h.kind.cls ≠ 4)
    {i : Nat} (hnone : (s.slot i).st = .none) : h.slot ≠ i :=
  fun es => hJ.owner_held hm ho (es ▸ hnone)

theorem J.created {s : Sys} {hs : List Hd} (hJ : J s hs) {h : Hd} (hm : h ∈ hs) (hk : h.kind.cls = 1) :
    (s.slot h.slot).st = .created :=
  St.cls_eq_one.mp (hk ▸ hJ.compat h hm (by omega))

theorem J.rxProcessing {s : Sys} {hs : List Hd} (hJ : J s hs) {h : Hd} (hm : h ∈ hs) (hk : h.kind.cls = 3) :
    (s.slot h.slot).st = .rxProcessing :=
  St.cls_eq_three.mp (hk ▸ hJ.compat h hm (by omega))

theorem J.owner_lt {s : Sys} {hs : List Hd} (hJ : J s hs) {h : Hd} (hm : h ∈ hs) (ho : h.kind.cls ≠ 4) :
    h.slot < s.n :=
  Decidable.byContradiction fun hn => hJ.owner_ne_free hm ho (by rw [slot_ge _ _ hn]; rfl) rfl

theorem J.congr {s s' : Sys} {hs : List Hd} (hJ : J s hs) (e : s'.slots = s.slots) : J s' hs := by
  refine ⟨by rw [n_congr e]; exact hJ.pos, hJ.regs, hJ.distinct, ?_, ?_⟩
  · intro h hm ho; rw [slot_congr e]; exact hJ.compat h hm ho
  · intro i hi; rw [slot_congr e] at hi; exact hJ.held i hi

theorem J.move {s : Sys} {hs : List Hd} (hJ : J s hs) (k : Nat) (y : Slot)
    (hc : y.st.cls = (s.slot k).st.cls) : J (s.setSlot k y) hs := by
  refine ⟨by rw [n_setSlot]; exact hJ.pos, hJ.regs, hJ.distinct, ?_, ?_⟩
  · intro h hm ho
    rw [slot_setSlot]
    split
    · next hk => rw [hc, ← hk.1]; exact hJ.compat h hm ho
    · exact hJ.compat h hm ho
  · intro i hi
    rw [slot_setSlot] at hi
    split at hi
    · next hk =>
      rw [hk.1]
      exact hJ.held k fun hx => hi (St.cls_eq_zero.mp (by rw [hc, hx]; rfl))
    · exact hJ.held i hi

theorem J.del_owner {s : Sys} {hs : List Hd} (hJ : J s hs) {r : Nat} {h : Hd} (e : getH hs r = some h)
    (ho : h.kind.cls ≠ 4) (y : Slot) (hy : y.st = .none) : J (s.setSlot h.slot y) (delH hs r) := by
  obtain ⟨hm, hr⟩ := getH_some e
  refine ⟨by rw [n_setSlot]; exact hJ.pos, regs_delH hJ.regs r, ?_, ?_, ?_⟩
  · intro a ha b hb
    exact hJ.distinct a (mem_delH.mp ha).1 b (mem_delH.mp hb).1
  · intro a ha hoa
    obtain ⟨ham, har⟩ := mem_delH.mp ha
    rw [slot_setSlot_ne _ _ _ _ fun es => har (hJ.distinct a ham h hm hoa ho es ▸ hr)]
    exact hJ.compat a ham hoa
  · intro i hi
    rw [slot_setSlot] at hi
    split at hi
    · exact absurd hy hi
    · next hk =>
      obtain ⟨a, ham, hoa, hs'⟩ := hJ.held i hi
      refine ⟨a, mem_delH.mpr ⟨ham, ?_⟩, hoa, hs'⟩
      intro har
      have : a = h := regs_inj hJ.regs ham hm (har.trans hr.symm)
      subst this
      exact hk ⟨hs'.symm, hJ.owner_lt hm ho⟩

/-- Only the owner handles matter to `J`: the others come and go freely. -/
theorem J.of_owners {s : Sys} {hs hs' : List Hd} (hJ : J s hs) (hr : Regs hs')
    (h : ∀ x : Hd, x.kind.cls ≠ 4 → (x ∈ hs' ↔ x ∈ hs)) : J s hs' :=
  ⟨hJ.pos, hr, fun a ha b hb hoa hob => hJ.distinct a ((h a hoa).mp ha) b ((h b hob).mp hb) hoa hob,
    fun a ha hoa => hJ.compat a ((h a hoa).mp ha) hoa,
    fun i hi => let ⟨a, ham, hoa, e⟩ := hJ.held i hi; ⟨a, (h a hoa).mpr ham, hoa, e⟩⟩

/-- Register `r` receives the owner handle of slot `k`, which is rewritten to match: whatever `r` held before was
    `k`'s owner (`hrep`), and no other owner refers to `k` (`hoth`). -/
theorem J.put_owner {s : Sys} {hs : List Hd} (hJ : J s hs) (K : HK) (hK : K.cls ≠ 4) (k r : Nat) (y : Slot)
    (hk : k < s.n) (hc : y.st.cls = K.cls)
    (hrep : ∀ h ∈ hs, h.reg = r → h.kind.cls ≠ 4 ∧ h.slot = k)
    (hoth : ∀ h ∈ hs, h.reg ≠ r → h.kind.cls ≠ 4 → h.slot ≠ k) :
    J (s.setSlot k y) (putH hs ⟨r, k, K⟩) := by
  refine ⟨by rw [n_setSlot]; exact hJ.pos, regs_putH hJ.regs _, ?_, ?_, ?_⟩
  · intro a ha b hb hoa hob es
    rcases mem_putH.mp ha with rfl | ⟨ham, har⟩ <;> rcases mem_putH.mp hb with rfl | ⟨hbm, hbr⟩
    · rfl
    · exact absurd es.symm (hoth b hbm hbr hob)
    · exact absurd es (hoth a ham har hoa)
    · exact hJ.distinct a ham b hbm hoa hob es
  · intro a ha hoa
    rcases mem_putH.mp ha with rfl | ⟨ham, har⟩
    · rw [slot_setSlot_eq _ _ _ hk]; exact hc
    · rw [slot_setSlot_ne _ _ _ _ (hoth a ham har hoa)]
      exact hJ.compat a ham hoa
  · intro i hi
    rw [slot_setSlot] at hi
    split at hi
    · next hik => exact ⟨_, mem_putH.mpr (Or.inl rfl), hK, hik.1.symm⟩
    · next hik =>
      obtain ⟨a, ham, hoa, hs'⟩ := hJ.held i hi
      refine ⟨a, mem_putH.mpr (Or.inr ⟨ham, ?_⟩), hoa, hs'⟩
      intro har
      have := (hrep a ham har).2
      exact hik ⟨by omega, hk⟩

end Ec
