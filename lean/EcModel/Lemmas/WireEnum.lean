/-
  Derived enums (C19): structure of what parse_enum produces, and when the generated read inverts the generated write.
-/
import EcModel.Lemmas.WireCodecs

namespace Ec.Wire

/-- The discriminant parse_enum.rs assigns to each declared variant (`discriminant_accum` semantics). -/
def macroDiscs : List VariantDecl → Int → List Int
  | [], _ => []
  | v :: rest, accum =>
    let disc := variantDiscriminant v.disc accum
    disc :: macroDiscs rest (accumAfter v disc)

/-- `parsed.variants` without the error checks. -/
def arms : List VariantDecl → Nat → Int → List VariantMeta
  | [], _, _ => []
  | v :: rest, idx, accum =>
    let disc := variantDiscriminant v.disc accum
    ({ name := idx, discriminant := disc, catchAll := v.catchAll } ::
      v.alternatives.map fun a => { name := idx, discriminant := a, catchAll := false }) ++
      arms rest (idx + 1) (accumAfter v disc)

theorem ok_of_ite_error {ε α : Type} {c : Prop} [Decidable c] {e : ε} {x : Except ε α} {r : α}
    (h : (if c then .error e else x) = .ok r) : x = .ok r := by
  split at h
  · cases h
  · exact h

theorem parseVariants_arms : ∀ (vs : List VariantDecl) (idx : Nat) (accum : Int) (ca df : Option Nat)
    (ms : List VariantMeta) (ca' df' : Option Nat),
    parseVariants vs idx accum ca df = .ok (ms, ca', df') →
    ms = arms vs idx accum ∧ (ca'.isSome = true → ca.isSome = true ∨ ∃ a ∈ ms, a.catchAll = true)
  | [], idx, accum, ca, df, ms, ca', df', h => by
    cases h
    exact ⟨rfl, Or.inl⟩
  | v :: rest, idx, accum, ca, df, ms, ca', df', h => by
    unfold parseVariants at h
    have h := ok_of_ite_error (ok_of_ite_error (ok_of_ite_error (ok_of_ite_error h)))
    dsimp only at h
    cases hr : parseVariants rest (idx + 1) (accumAfter v (variantDiscriminant v.disc accum))
        (if v.catchAll then some idx else ca) (if v.default then some idx else df) with
    | error e => rw [hr] at h; cases h
    | ok q =>
      obtain ⟨ms', ca'', df''⟩ := q
      rw [hr] at h
      cases h
      obtain ⟨ih1, ih2⟩ := parseVariants_arms rest _ _ _ _ _ _ _ hr
      refine ⟨by rw [arms, ih1], fun hca => ?_⟩
      rcases ih2 hca with h | ⟨a, ha, hac⟩
      · by_cases hc : v.catchAll = true
        · exact Or.inr ⟨_, List.mem_cons_self .., hc⟩
        · rw [if_neg hc] at h
          exact Or.inl h
      · exact Or.inr ⟨a, List.mem_cons_of_mem _ (List.mem_append_right _ ha), hac⟩

theorem parseEnum_arms {e : EnumDecl} {m : EnumMeta} (h : parseEnum e = .ok m) :
    m.variants = arms e.variants 0 Gen.WireMacro.accumInit ∧ m.repr = e.repr ∧ m.rustDiscs = rustDiscsFrom e.variants 0 ∧
      (m.catchAll.isSome = true → ∃ a ∈ m.variants, a.catchAll = true) := by
  unfold parseEnum at h
  have h := ok_of_ite_error (ok_of_ite_error h)
  cases hp : parseVariants e.variants 0 Gen.WireMacro.accumInit none none with
  | error err => rw [hp] at h; cases h
  | ok q =>
    obtain ⟨ms, ca, df⟩ := q
    rw [hp] at h
    cases h
    obtain ⟨h1, h2⟩ := parseVariants_arms _ _ _ _ _ _ _ _ hp
    exact ⟨h1, rfl, rfl, fun hc => (h2 hc).resolve_left nofun⟩

theorem matchWriteArms_alts (alts : List Int) (idx j : Nat) (rest : List VariantMeta) (hne : j ≠ idx) :
    matchWriteArms ((alts.map fun a => ({ name := idx, discriminant := a, catchAll := false } : VariantMeta)) ++ rest)
      (.unit j) = matchWriteArms rest (.unit j) := by
  induction alts with
  | nil => rfl
  | cons a alts ih => simp [matchWriteArms, hne, ih]

/-- With a catch-all, the generated `match self` yields the macro's discriminant of the variant. -/
theorem matchWriteArms_unit : ∀ (vs : List VariantDecl) (idx0 : Nat) (accum : Int) (j : Nat) (hj : j < vs.length),
    vs[j].catchAll = false →
    matchWriteArms (arms vs idx0 accum) (.unit (idx0 + j)) = (macroDiscs vs accum)[j]?
  | [], _, _, j, hj, _ => nomatch hj
  | v :: rest, idx0, accum, j, hj, hc => by
    cases j with
    | zero =>
      simp only [List.getElem_cons_zero] at hc
      simp [arms, macroDiscs, matchWriteArms, hc]
    | succ j =>
      simp only [List.getElem_cons_succ] at hc
      have hne : idx0 + (j + 1) ≠ idx0 := by omega
      have ih := matchWriteArms_unit rest (idx0 + 1) (accumAfter v (variantDiscriminant v.disc accum)) j (by simpa using hj) hc
      simp only [arms, macroDiscs, List.cons_append, List.getElem?_cons_succ]
      rw [← ih, show idx0 + 1 + j = idx0 + (j + 1) by omega]
      cases hv : v.catchAll
      · simp only [matchWriteArms, hne, if_false]
        exact matchWriteArms_alts _ _ _ _ hne
      · simp only [matchWriteArms]
        exact matchWriteArms_alts _ _ _ _ hne

theorem matchWriteArms_catchAll (raw : Int) : ∀ (l : List VariantMeta), (∃ a ∈ l, a.catchAll = true) →
    matchWriteArms l (.catchAll raw) = some raw
  | [], h => by simp at h
  | a :: l, h => by
    cases ha : a.catchAll
    · have : ∃ b ∈ l, b.catchAll = true := by
        obtain ⟨b, hb, hbc⟩ := h
        rcases List.mem_cons.mp hb with rfl | hb'
        · rw [ha] at hbc; cases hbc
        · exact ⟨b, hb', hbc⟩
      simp [matchWriteArms, ha, matchWriteArms_catchAll raw l this]
    · simp [matchWriteArms, ha]

theorem rustDiscs_explicit : ∀ (vs : List VariantDecl) (next : Int) (j : Nat) (hj : j < vs.length) (x : Int),
    vs[j].disc = some x → (rustDiscsFrom vs next)[j]? = some x
  | [], _, j, hj, _, _ => nomatch hj
  | v :: rest, next, j, hj, x, hx => by
    cases j with
    | zero => simp only [List.getElem_cons_zero] at hx; simp [rustDiscsFrom, hx]
    | succ j =>
      simp only [List.getElem_cons_succ] at hx
      simp [rustDiscsFrom, rustDiscs_explicit rest _ j (by simpa using hj) x hx]

theorem macroDiscs_explicit : ∀ (vs : List VariantDecl) (accum : Int) (j : Nat) (hj : j < vs.length) (x : Int),
    vs[j].disc = some x → (macroDiscs vs accum)[j]? = some x
  | [], _, j, hj, _, _ => nomatch hj
  | v :: rest, accum, j, hj, x, hx => by
    cases j with
    | zero => simp only [List.getElem_cons_zero] at hx; simp [macroDiscs, hx, variantDiscriminant]
    | succ j =>
      simp only [List.getElem_cons_succ] at hx
      simp [macroDiscs, macroDiscs_explicit rest _ j (by simpa using hj) x hx]

theorem record_mem_arms : ∀ (vs : List VariantDecl) (idx0 : Nat) (accum : Int) (j : Nat) (hj : j < vs.length) (x : Int),
    (macroDiscs vs accum)[j]? = some x →
    ({ name := idx0 + j, discriminant := x, catchAll := vs[j].catchAll } : VariantMeta) ∈ arms vs idx0 accum
  | [], _, _, j, hj, _, _ => nomatch hj
  | v :: rest, idx0, accum, j, hj, x, hx => by
    cases j with
    | zero =>
      simp only [macroDiscs, List.getElem?_cons_zero, Option.some.injEq] at hx
      simp [arms, hx]
    | succ j =>
      simp only [macroDiscs, List.getElem?_cons_succ] at hx
      have := record_mem_arms rest (idx0 + 1) _ j (by simpa using hj) x hx
      simp only [arms, List.cons_append, List.getElem_cons_succ]
      rw [show idx0 + (j + 1) = idx0 + 1 + j by omega]
      exact List.mem_cons_of_mem _ (List.mem_append_right _ this)

theorem matchReadArms_of_mem : ∀ (l : List VariantMeta) (a : VariantMeta), a ∈ l → a.catchAll = false →
    ((l.filter fun b => !b.catchAll).map (·.discriminant)).Nodup → matchReadArms l a.discriminant = some a.name
  | b :: l, a, hmem, hc, hnd => by
    rw [matchReadArms]
    rcases List.mem_cons.mp hmem with rfl | hmem'
    · rw [if_pos ⟨by rw [hc]; rfl, rfl⟩]
    · split
      · rename_i hb
        rw [List.filter_cons, if_pos hb.1, List.map_cons, List.nodup_cons] at hnd
        exact absurd (List.mem_map.mpr ⟨a, List.mem_filter.mpr ⟨hmem', by rw [hc]; rfl⟩, hb.2.symm⟩) hnd.1
      · exact matchReadArms_of_mem l a hmem' hc
          (List.Pairwise.sublist (((List.sublist_cons_self b l).filter _).map _) hnd)

/-- A value of the repr survives `to_le_bytes` / `from_le_bytes`, in the shape `enumRead` computes `raw`. -/
theorem raw_roundtrip (signed : Bool) (size : Nat) (x : Int) (h : reprInRange signed size x) :
    let bs := leBytes size (x % ((256 ^ size : Nat) : Int)).toNat
    (if signed then toSigned size (leVal (bs.take size)) else ((leVal (bs.take size) : Nat) : Int)) = x := by
  intro bs
  have ht : bs.take size = bs := List.take_of_length_le (by simp [bs, leBytes_length])
  rw [ht]
  simp only [bs, leVal_leBytes]
  cases signed with
  | true =>
    simp only [reprInRange, if_true] at h
    simp only [if_true]
    exact toSigned_roundtrip size x h.1 h.2
  | false =>
    simp only [reprInRange, Bool.false_eq_true, if_false] at h
    simp only [Bool.false_eq_true, if_false]
    have e : x % ((256 ^ size : Nat) : Int) = x := Int.emod_eq_of_lt h.1 h.2
    rw [e]
    have : x.toNat % 256 ^ size = x.toNat := Nat.mod_eq_of_lt (by omega)
    rw [this]
    omega

theorem rustDiscsFrom_length : ∀ (vs : List VariantDecl) (next : Int), (rustDiscsFrom vs next).length = vs.length
  | [], _ => rfl
  | v :: rest, next => by simp [rustDiscsFrom, rustDiscsFrom_length rest]

/-- With the constants re-read from parse_enum.rs (`Generated/WireMacro.lean`), the discriminant the macro assigns to each
    declared variant is the one rustc assigns: explicit value, else previous + 1, first 0. -/
theorem macroDiscs_eq_rustDiscs : ∀ (vs : List VariantDecl) (next : Int),
    macroDiscs vs (next - 1) = rustDiscsFrom vs next
  | [], _ => rfl
  | v :: rest, next => by
    cases hd : v.disc with
    | some d =>
      have ih := macroDiscs_eq_rustDiscs rest (d + 1)
      rw [show d + 1 - 1 = d by omega] at ih
      simp [macroDiscs, rustDiscsFrom, variantDiscriminant, accumAfter, Gen.WireMacro.alternativesAdvance, hd, ih]
    | none =>
      have ih := macroDiscs_eq_rustDiscs rest (next + 1)
      rw [show next + 1 - 1 = next by omega] at ih
      have e : next - 1 + 1 = next := by omega
      simp [macroDiscs, rustDiscsFrom, variantDiscriminant, accumAfter, Gen.WireMacro.alternativesAdvance,
        Gen.WireMacro.implicitStep, hd, e, ih]

theorem macro_numbering_is_rustc (vs : List VariantDecl) :
    macroDiscs vs Gen.WireMacro.accumInit = rustDiscsFrom vs 0 :=
  macroDiscs_eq_rustDiscs vs 0

/-- One unit variant. Its discriminant `x` is the one rustc gives it (`E::V as repr`: explicit value, else previous + 1,
    first 0), a value of the repr (rustc refuses anything else). If the values the read side matches on, discriminants and
    alternatives, are pairwise distinct, the generated read returns the variant from what the generated write stored: `x`,
    by the macro's numbering with a catch-all and by rustc's (`*self as repr`) without, which are the same
    (`macro_numbering_is_rustc`). Explicit or implicit discriminant, with or without catch-all / default / alternatives
    elsewhere in the enum. -/
theorem enum_unit_roundtrip {e : EnumDecl} {m : EnumMeta} {size : Nat} (hp : parseEnum e = .ok m)
    (hnd : ((m.variants.filter fun b => !b.catchAll).map (·.discriminant)).Nodup)
    (hr : ∀ x ∈ rustDiscsFrom e.variants 0, reprInRange e.repr.signed size x)
    {idx : Nat} {d : VariantDecl} (hd : e.variants[idx]? = some d) (hc : d.catchAll = false) :
    ∃ bs, enumWrite m size (.unit idx) = .ok bs ∧ enumRead m size bs = .ok (.unit idx) := by
  obtain ⟨hi, rfl⟩ := List.getElem?_eq_some_iff.mp hd
  have hi' : idx < (rustDiscsFrom e.variants 0).length := by rw [rustDiscsFrom_length]; exact hi
  have hx := List.getElem?_eq_getElem hi'
  have hr := hr _ (List.getElem_mem hi')
  generalize (rustDiscsFrom e.variants 0)[idx] = x at hx hr
  obtain ⟨hv, hrepr, hrd, _⟩ := parseEnum_arms hp
  have hmacro := hx
  rw [← macro_numbering_is_rustc] at hmacro
  have hw : enumWriteValue m (.unit idx) = some x := by
    unfold enumWriteValue
    split
    · have := matchWriteArms_unit e.variants 0 Gen.WireMacro.accumInit idx hi hc
      rw [Nat.zero_add] at this
      rw [hv, this, hmacro]
    · rw [hrd]
      exact hx
  refine ⟨leBytes size (x % ((256 ^ size : Nat) : Int)).toNat, by rw [enumWrite, hw], ?_⟩
  have hraw := raw_roundtrip e.repr.signed size x hr
  have hmem := record_mem_arms e.variants 0 Gen.WireMacro.accumInit idx hi x hmacro
  rw [Nat.zero_add, hc, ← hv] at hmem
  rw [enumRead, if_neg (by rw [leBytes_length]; exact Nat.lt_irrefl _)]
  dsimp only at hraw ⊢
  rw [hrepr, hraw, matchReadArms_of_mem m.variants _ hmem rfl hnd]

/-- An injective image of `Int` in `Nat`, and distinctness of `Nat`s as a Boolean sweep: the read arms are
    checked this way because the kernel evaluates `Nat.beq` on literals at once, while deciding `List.Nodup` on `Int`s
    costs several times more. `(l.map f).Nodup → l.Nodup` needs nothing of `f`. -/
def intCode : Int → Nat
  | .ofNat n => 2 * n
  | .negSucc n => 2 * n + 1

def distinct : List Nat → Bool
  | [] => true
  | x :: xs => !xs.contains x && distinct xs

theorem nodup_of_distinct : ∀ {l : List Nat}, distinct l = true → l.Nodup
  | [], _ => List.nodup_nil
  | x :: xs, h => by
    rw [distinct, Bool.and_eq_true, Bool.not_eq_true', ← Bool.not_eq_true, List.contains_iff_mem] at h
    exact List.nodup_cons.mpr ⟨h.1, nodup_of_distinct h.2⟩

instance (s : Bool) (n : Nat) (x : Int) : Decidable (reprInRange s n x) := by
  unfold reprInRange
  infer_instance

/-- Decidable sufficient condition for a derived enum to obey the codec laws: accepted, supported repr, read arms pairwise
    distinct, every variant's discriminant a value of the repr. -/
def enumGood (e : EnumDecl) : Bool :=
  match parseEnum e, e.repr.size with
  | .ok m, some size =>
    distinct ((m.variants.filter fun b => !b.catchAll).map fun b => intCode b.discriminant) &&
    (rustDiscsFrom e.variants 0).all fun x => reprInRange e.repr.signed size x
  | _, _ => false

theorem enumWrite_len {m : EnumMeta} {size : Nat} {v : Val} {bs : List Nat} (h : enumWrite m size v = .ok bs) :
    bs.length = size ∧ AllBytes bs := by
  unfold enumWrite at h
  split at h
  · cases h
  · cases h
    exact ⟨leBytes_length _ _, allBytes_leBytes _ _⟩

theorem enumRead_total (m : EnumMeta) (size : Nat) (buf : List Nat) (why : String) :
    enumRead m size buf ≠ .panic why := by
  unfold enumRead
  split
  · exact nofun
  dsimp only
  split
  · exact nofun
  split
  · exact nofun
  split <;> exact nofun

theorem enumRead_take (m : EnumMeta) (size : Nat) (buf : List Nat) :
    enumRead m size buf = if buf.length < size then .err .readBufferTooShort else enumRead m size (buf.take size) := by
  by_cases h : buf.length < size
  · rw [if_pos h, enumRead, if_pos h]
  · rw [if_neg h, enumRead, enumRead, if_neg h, List.length_take, Nat.min_eq_left (Nat.le_of_not_lt h),
      if_neg (Nat.lt_irrefl _), List.take_take, Nat.min_self]

/-- The catch-all payload round-trips when it is not one of the declared values (a payload equal to a declared
    discriminant reads back as that variant: the value is not canonical). -/
theorem enum_catchAll_roundtrip {e : EnumDecl} {m : EnumMeta} {size : Nat}
    (hp : parseEnum e = .ok m) (hca : m.catchAll.isSome = true) (raw : Int)
    (hr : reprInRange e.repr.signed size raw) (hcanon : matchReadArms m.variants raw = none) :
    ∃ bs, enumWrite m size (.catchAll raw) = .ok bs ∧ enumRead m size bs = .ok (.catchAll raw) := by
  obtain ⟨_, hrepr, _, hex⟩ := parseEnum_arms hp
  have hw : enumWriteValue m (.catchAll raw) = some raw := by
    simp only [enumWriteValue, hca, if_true]
    exact matchWriteArms_catchAll raw _ (hex hca)
  refine ⟨leBytes size (raw % ((256 ^ size : Nat) : Int)).toNat, by rw [enumWrite, hw], ?_⟩
  have hraw := raw_roundtrip e.repr.signed size raw hr
  dsimp only at hraw
  rw [enumRead, if_neg (by rw [leBytes_length]; exact Nat.lt_irrefl _)]
  dsimp only
  rw [hrepr, hraw, hcanon]
  cases hc : m.catchAll with
  | none => rw [hc] at hca; cases hca
  | some _ => rfl

theorem enumCodec_lawful (e : EnumDecl) (h : enumGood e = true) : Lawful (enumCodec e) := by
  unfold enumGood at h
  unfold enumCodec
  split at h
  · rename_i m size hp hs
    simp only [Bool.and_eq_true, List.all_eq_true] at h
    obtain ⟨hnd, hrange⟩ := h
    replace hnd : ((m.variants.filter fun b => !b.catchAll).map (·.discriminant)).Nodup :=
      List.pairwise_map.mpr ((List.pairwise_map.mp (nodup_of_distinct hnd)).imp fun h e => h (congrArg intCode e))
    obtain ⟨_, hrepr, _, _⟩ := parseEnum_arms hp
    simp only [hp, hs]
    refine .of_sized (enumRead m size) (enumRead_take m size) (fun _ _ => enumWrite_len) ?_ (enumRead_total m size)
    intro v hv
    cases v with
    | unit idx =>
      obtain ⟨d, hd, hdc⟩ := hv
      exact enum_unit_roundtrip hp hnd (fun x hx => of_decide_eq_true (hrange x hx)) hd hdc
    | catchAll raw => exact enum_catchAll_roundtrip hp hv.1 raw (hrepr ▸ hv.2.1) hv.2.2
    | _ => cases hv
  · cases h

end Ec.Wire
