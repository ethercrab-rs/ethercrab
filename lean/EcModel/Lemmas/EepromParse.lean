/-
  What the readers return on a window whose content is known (C12): fixed header fields, the items of a
  category, the strings in front of the one wanted; the PDO loop over the encodings of well-formed PDO
  descriptions, below and above the heapless capacity; the 18 bytes of `SiiGeneral`; what `device_name` /
  `device_description` make of `general` and `find_string`.
-/
import EcModel.Lemmas.EepromBasic

namespace Ec.Eeprom
open Ec Ec.EepromSpec

theorem startAt_of_fits (m : Mode) (w n : Nat) (h : 2 * w + 2 * ((n + 1) / 2) ≤ 131072) :
    startAt m w n = ret ⟨2 * w, 2 * w + 2 * ((n + 1) / 2)⟩ := by
  rw [startAt, new_eq, Nat.min_eq_left h]

theorem readAt_ok (m : Mode) (p : Prov) (hcs : 2 ≤ p.cs) (w n : Nat) (h : 2 * w + 2 * ((n + 1) / 2) ≤ 131072)
    {α : Type} (f : List Nat × Range → M α) :
    (bind (startAt m w n) fun r => bind (eofToOverrun (Range.readExact m p r n)) f).1
      = (f (slice p.rd (2 * w) n, ⟨2 * w + n, 2 * w + 2 * ((n + 1) / 2)⟩)).1 := by
  have hre := readExact_ok m p hcs ⟨2 * w, 2 * w + 2 * ((n + 1) / 2)⟩ n h (by simp only; omega)
  rw [startAt_of_fits m w n h, bind_ret, bind_fst_ok _ (eofToOverrun_ok hre.1).1]

theorem nextItem_some {α : Type} (m : Mode) (p : Prov) (hcs : 2 ≤ p.cs) (r : Range) (sz : Nat)
    (parse : List Nat → M α) (a : α) (he : r.endp ≤ 131072) (hfit : r.pos + sz ≤ r.endp)
    (hparse : parse (slice p.rd r.pos sz) = ret a) :
    (nextItem m p r sz parse).1 = .ok (some a, { r with pos := r.pos + sz }) := by
  unfold nextItem
  have h := (readExact_ok m p hcs r sz he hfit).1
  generalize Range.readExact m p r sz = x at h
  obtain ⟨o, c⟩ := x
  subst h
  simp only [addCost, hparse, bind_ret]
  rfl

theorem nextItem_none {α : Type} (m : Mode) (p : Prov) (hcs : 2 ≤ p.cs) (r : Range) (sz : Nat)
    (parse : List Nat → M α) (he : r.endp ≤ 131072) (hsz : 0 < sz) (hfit : ¬ r.pos + sz ≤ r.endp) :
    (nextItem m p r sz parse).1 = .ok (none, r) := by
  unfold nextItem
  have h := (readExact_eof m p hcs r sz he hsz hfit).1
  generalize Range.readExact m p r sz = x at h
  obtain ⟨o, c⟩ := x
  subst h
  rfl

theorem collectLoop_items {α β : Type} (m : Mode) (p : Prov) (hcs : 2 ≤ p.cs) (sz cap capItem : Nat)
    (parse : List Nat → M α) (enc : β → List Nat) (dec : β → α) (slack : Nat) (hslack : slack < sz) :
    ∀ (items : List β) (r : Range) (acc : List α) (fuel : Nat),
      (∀ b ∈ items, (enc b).length = sz ∧ parse (enc b) = ret (dec b)) →
      Holds p.rd r.pos (items.flatMap enc) → r.endp = r.pos + (items.flatMap enc).length + slack →
      r.endp ≤ 131072 → acc.length + items.length ≤ cap → items.length < fuel →
      (collectLoop m p sz cap capItem parse fuel r acc).1 = .ok (acc ++ items.map dec) := by
  intro items
  induction items with
  | nil =>
    intro r acc fuel _ _ hend he _ hfuel
    obtain ⟨f, rfl⟩ : ∃ f, fuel = f + 1 := ⟨fuel - 1, by omega⟩
    simp only [List.flatMap_nil, List.length_nil, Nat.add_zero] at hend
    rw [collectLoop, bind_fst_ok _ (nextItem_none m p hcs r sz parse he (by omega) (by omega)), List.map_nil,
      List.append_nil]
    rfl
  | cons b items ih =>
    intro r acc fuel henc hh hend he hcap hfuel
    obtain ⟨f, rfl⟩ : ∃ f, fuel = f + 1 := ⟨fuel - 1, by omega⟩
    obtain ⟨hsz, hdec⟩ := henc b (by simp)
    simp only [List.flatMap_cons, List.length_append, hsz] at hh hend
    simp only [List.length_cons] at hcap hfuel
    have hb := hh.append
    rw [hsz] at hb
    rw [collectLoop, bind_fst_ok _ (nextItem_some m p hcs r sz parse (dec b) he (by omega)
      (by rw [← hsz, hb.1]; exact hdec))]
    simp only
    rw [if_neg (by omega), ih { r with pos := r.pos + sz } (acc ++ [dec b]) f (fun b' hb' => henc b' (by simp [hb']))
      hb.2 (by simp only; omega) he (by simp only [List.length_append, List.length_singleton]; omega) (by omega),
      List.map_cons, List.append_assoc]
    rfl

theorem items_some {m : Mode} {p : Prov} {cat : Nat} {r : Range} (h : (category m p cat).1 = .ok (some r)) :
    (items m p cat).1 = .ok r := by
  rw [items, bind_fst_ok _ h]; rfl

theorem skip_ok (m : Mode) (r : Range) (k : Nat) (h : r.pos + k < r.endp) :
    (Range.skip m r k).1 = .ok { r with pos := r.pos + k } := by
  rw [Range.skip, if_neg (by omega)]
  rfl

/-- One string of the Strings category: length byte, then the bytes. -/
def encStr (x : List Nat) : List Nat := x.length :: x

theorem skipStrings_enc (m : Mode) (p : Prov) (hcs : 2 ≤ p.cs) :
    ∀ (skipped : List (List Nat)) (r : Range) (rest : List Nat),
      Holds p.rd r.pos (skipped.flatMap encStr ++ rest) → 1 ≤ rest.length →
      r.pos + (skipped.flatMap encStr).length + rest.length ≤ r.endp → r.endp ≤ 131072 →
      (skipStrings m p skipped.length r).1 = .ok { r with pos := r.pos + (skipped.flatMap encStr).length } := by
  intro skipped
  induction skipped with
  | nil => intro r rest _ _ _ _; rfl
  | cons x xs ih =>
    intro r rest hh hrest hfit he
    simp only [List.flatMap_cons, encStr, List.length_append, List.length_cons, List.cons_append,
      List.append_assoc] at hh hfit ⊢
    obtain ⟨hlen, hh⟩ := hh.cons
    rw [skipStrings, bind_fst_ok _ (readByte_ok m p hcs r (by omega) he).1, hlen,
      bind_fst_ok _ (skip_ok m { r with pos := r.pos + 1 } x.length (by simp only; omega)),
      ih { r with pos := r.pos + 1 + x.length } rest hh.append.2 hrest (by simp only; omega) he]
    simp only [Nat.add_assoc, Nat.add_comm 1]

/-- What `SubDeviceEeprom::pdos` stores for a PDO description: index, number of entries, sync manager and the
    SUM of the entries' bit lengths (the real `Pdo` keeps nothing else). -/
def pdoOf (d : PdoDesc) : Pdo := ⟨d.index, d.entries.length, d.sm, d.bitLen⟩

/-- What `SubDeviceEeprom::general` stores for a General description. -/
def generalOf (g : GeneralDesc) : General :=
  { groupIdx := g.groupIdx, imageIdx := g.imageIdx, orderIdx := g.orderIdx, nameIdx := g.nameIdx,
    coeDetails := g.coeDetails, foe := decide (g.foe ≠ 0), eoe := decide (g.eoe ≠ 0), flags := g.flags,
    ebusCurrent := g.ebusCurrent,
    ports := [portKind g.port0, portKind g.port1, portKind g.port2, portKind g.port3],
    physAddr := g.physAddr }

theorem flatMap_length_const {β : Type} (enc : β → List Nat) (sz : Nat) :
    ∀ (l : List β), (∀ b ∈ l, (enc b).length = sz) → (l.flatMap enc).length = sz * l.length := by
  intro l
  induction l with
  | nil => intro _; rfl
  | cons b l ih =>
    intro h
    rw [List.flatMap_cons, List.length_append, List.length_cons, h b (by simp),
      ih fun b' hb' => h b' (by simp [hb']), Nat.mul_succ, Nat.add_comm]

theorem encPdo_length (d : PdoDesc) : (encPdo d).length = 8 + 8 * d.entries.length := by
  rw [encPdo, List.length_append, flatMap_length_const encPdoEntry 8 _ fun _ _ => rfl]; rfl

/-- Bit lengths are bytes, so the sum over at most 255 entries fits a `u16` with room to spare. -/
theorem bitLen_sum_le (es : List PdoEntryDesc) (h : ∀ e ∈ es, e.WF) :
    (es.map fun e => e.bitLen).sum ≤ 255 * es.length := by
  induction es with
  | nil => exact Nat.le_refl _
  | cons e es ih =>
    have h1 := (h e (by simp)).2.2.2.2.1
    have h2 := ih fun e' he' => h e' (by simp [he'])
    simp only [List.map_cons, List.sum_cons, List.length_cons]
    omega

theorem encPdos_length (ds : List PdoDesc) :
    (ds.flatMap encPdo).length % 8 = 0 ∧ 8 * ds.length ≤ (ds.flatMap encPdo).length := by
  induction ds with
  | nil => exact ⟨rfl, Nat.le_refl _⟩
  | cons d ds ih => simp only [List.flatMap_cons, List.length_append, encPdo_length, List.length_cons]; omega

theorem parsePdo_enc (d : PdoDesc) (hi : d.index < 65536) :
    parsePdo (encPdoHdr d) = ret ⟨d.index, d.entries.length, d.sm, 0⟩ := by
  rw [parsePdo, encPdoHdr, List.append_assoc, rd16_le16_append _ hi]
  rfl

theorem parsePdoEntry_enc (e : PdoEntryDesc) : parsePdoEntry (encPdoEntry e) = ret e.bitLen := rfl

theorem pdoEntries_enc (m : Mode) (p : Prov) (hcs : 2 ≤ p.cs) :
    ∀ (es : List PdoEntryDesc) (r : Range) (bits : Nat),
      Holds p.rd r.pos (es.flatMap encPdoEntry) → r.pos + 8 * es.length ≤ r.endp → r.endp ≤ 131072 →
      bits + (es.map fun e => e.bitLen).sum < 65536 →
      (pdoEntries m p es.length r bits).1
        = .ok (bits + (es.map fun e => e.bitLen).sum, { r with pos := r.pos + 8 * es.length }) := by
  intro es
  induction es with
  | nil => intro r bits _ _ _ _; rfl
  | cons e es ih =>
    intro r bits hh hfit he hsum
    simp only [List.map_cons, List.sum_cons, List.length_cons] at hsum hfit ⊢
    have hb := (List.flatMap_cons ▸ hh).append
    rw [pdoEntries, bind_fst_ok _ (nextItem_some m p hcs r 8 parsePdoEntry e.bitLen he (by omega)
      (by rw [show slice p.rd r.pos 8 = encPdoEntry e from hb.1, parsePdoEntry_enc]))]
    simp only
    rw [add16_ok m _ bits e.bitLen (by omega), bind_ret,
      ih { r with pos := r.pos + 8 } (bits + e.bitLen) hb.2 (by simp only; omega) he (by omega)]
    simp only [Nat.add_assoc, Nat.mul_succ, Nat.add_comm 8]

/-- Beyond the capacity it is the push of PDO number `CAP_PDOS + 1` that fails, after that PDO's entries were read. -/
theorem pdoLoop_enc (m : Mode) (p : Prov) (hcs : 2 ≤ p.cs) :
    ∀ (ds : List PdoDesc) (r : Range) (acc : List Pdo) (fuel : Nat),
      (∀ d ∈ ds, d.WF) → Holds p.rd r.pos (ds.flatMap encPdo) →
      r.endp = r.pos + (ds.flatMap encPdo).length → r.endp ≤ 131072 →
      acc.length ≤ Gen.Eeprom.CAP_PDOS → Gen.Eeprom.CAP_PDOS + 1 - acc.length < fuel →
      (pdoLoop m p fuel r acc).1
        = if acc.length + ds.length ≤ Gen.Eeprom.CAP_PDOS then .ok (acc ++ ds.map pdoOf)
          else .err (.capacity 2) := by
  intro ds
  induction ds with
  | nil =>
    intro r acc fuel _ _ hend he hacc hfuel
    obtain ⟨f, rfl⟩ : ∃ f, fuel = f + 1 := ⟨fuel - 1, by omega⟩
    simp only [List.flatMap_nil, List.length_nil, Nat.add_zero] at hend
    rw [pdoLoop, bind_fst_ok _ (nextItem_none m p hcs r 8 parsePdo he (by omega) (by omega)), List.length_nil,
      Nat.add_zero, if_pos hacc, List.map_nil, List.append_nil]
    rfl
  | cons d ds ih =>
    intro r acc fuel hwf hh hend he hacc hfuel
    obtain ⟨f, rfl⟩ : ∃ f, fuel = f + 1 := ⟨fuel - 1, by omega⟩
    obtain ⟨hi, hn, _, _, _, _, hes⟩ := hwf d (by simp)
    have hsum := bitLen_sum_le d.entries hes
    simp only [List.flatMap_cons, List.length_append, encPdo_length, List.length_cons] at hh hend ⊢
    have hb := hh.append
    rw [encPdo_length] at hb
    have hd := (show Holds p.rd r.pos (encPdoHdr d ++ d.entries.flatMap encPdoEntry) from hb.1).append
    rw [pdoLoop, bind_fst_ok _ (nextItem_some m p hcs r 8 parsePdo _ he (by omega)
      (by rw [show slice p.rd r.pos 8 = encPdoHdr d from hd.1, parsePdo_enc d hi]))]
    simp only
    rw [bind_fst_ok _ (pdoEntries_enc m p hcs d.entries { r with pos := r.pos + 8 } 0 hd.2 (by simp only; omega) he
      (by omega))]
    simp only [Nat.zero_add]
    by_cases hcap : acc.length ≥ Gen.Eeprom.CAP_PDOS
    · rw [if_pos hcap, if_neg (by omega)]; rfl
    · rw [if_neg hcap]
      show (pdoLoop m p f _ (acc ++ [pdoOf d])).1 = _
      rw [ih { r with pos := r.pos + 8 + 8 * d.entries.length } (acc ++ [pdoOf d]) f
        (fun d' hd' => hwf d' (by simp [hd'])) (by rw [Nat.add_assoc]; exact hb.2) (by simp only; omega) he
        (by simp only [List.length_append, List.length_singleton]; omega)
        (by simp only [List.length_append, List.length_singleton]; omega)]
      simp only [List.length_append, List.length_singleton, List.map_cons, List.append_assoc, List.singleton_append,
        Nat.add_assoc, Nat.add_comm 1]

theorem portOf_eq_portKind : ∀ v, v < 16 → portOf v = portKind v := by decide

theorem nibbles (a b : Nat) (ha : a < 16) (hb : b < 16) : (a + 16 * b) % 16 = a ∧ (a + 16 * b) / 16 % 16 = b := by
  omega

/-- `SiiGeneral::unpack_from_slice` on the first 18 bytes of an encoded General category. -/
theorem parseGeneral_enc (g : GeneralDesc) (hg : g.WF) :
    parseGeneral ((encGeneral g).take 18) = ret (generalOf g) := by
  obtain ⟨_, _, _, _, _, hcoe, _, _, _, _, _, hfl, heb, hp0, hp1, hp2, hp3, hpa, _⟩ := hg
  have hc := (by decide : ∀ e, e ≤ 63 → fromBits Gen.Eeprom.COE_DETAILS_MASK e = some e) _ hcoe
  have hf := (by decide : ∀ e, e ≤ 31 → fromBits Gen.Eeprom.FLAGS_MASK e = some e) _ hfl
  have e01 := nibbles _ _ hp0 hp1
  have e23 := nibbles _ _ hp2 hp3
  have heb' : g.ebusCurrent % 256 + 256 * (g.ebusCurrent / 256 % 256) = g.ebusCurrent := rd16_le16 _ heb
  have hpa' : g.physAddr % 256 + 256 * (g.physAddr / 256 % 256) = g.physAddr := rd16_le16 _ hpa
  rw [show (encGeneral g).take 18
      = [g.groupIdx, g.imageIdx, g.orderIdx, g.nameIdx, g.reserved4, g.coeDetails, g.foe, g.eoe,
         g.soeChannels, g.ds402Channels, g.sysmanClass, g.flags, g.ebusCurrent % 256, g.ebusCurrent / 256 % 256,
         g.port0 + 16 * g.port1, g.port2 + 16 * g.port3, g.physAddr % 256, g.physAddr / 256 % 256] from rfl,
    parseGeneral]
  simp only [List.getD_cons_zero, List.getD_cons_succ, List.drop_succ_cons, List.drop_zero, rd16_append, hc, hf,
    e01, e23, heb', hpa', portOf_eq_portKind _ hp0, portOf_eq_portKind _ hp1, portOf_eq_portKind _ hp2,
    portOf_eq_portKind _ hp3, generalOf, Nat.pos_iff_ne_zero]

theorem encGeneral_length (g : GeneralDesc) : (encGeneral g).length = 18 + g.tail.length := by
  simp only [encGeneral, le16, List.length_append, List.length_cons, List.length_nil]

theorem ignoreNoCategory_ok {α : Type} {x : M α} {a : α} (h : x.1 = .ok a) :
    (ignoreNoCategory x).1 = .ok (some a) := by
  unfold ignoreNoCategory; rw [h]

theorem ignoreNoCategory_nocat {α : Type} {x : M α} (h : x.1 = .err .noCategory) :
    (ignoreNoCategory x).1 = .ok none := by
  unfold ignoreNoCategory; rw [h]

theorem deviceName_of_general (m : Mode) (p : Prov) (N : Nat) (g : General) (s : Option (List Nat))
    (hg : (general m p).1 = .ok g) (hs : (findString m p N g.orderIdx).1 = .ok s) :
    (deviceName m p N).1 = .ok s := by
  unfold deviceName
  rw [bind_fst_ok _ (ignoreNoCategory_ok hg)]
  simp only
  rw [bind_fst_ok _ (ignoreNoCategory_ok hs)]
  cases s <;> rfl

theorem deviceDescription_of_general (m : Mode) (p : Prov) (N : Nat) (g : General) (s : Option (List Nat))
    (hg : (general m p).1 = .ok g) (hs : (findString m p N g.nameIdx).1 = .ok s) :
    (deviceDescription m p N).1 = .ok s := by
  unfold deviceDescription
  rw [bind_fst_ok _ hg]
  exact hs

theorem findString_zero (m : Mode) (p : Prov) (N : Nat) : findString m p N 0 = ret none := by
  unfold findString; rw [if_pos rfl]

theorem findString_no_strings (m : Mode) (p : Prov) (N idx : Nat)
    (hcat : (category m p Gen.Eeprom.CAT_STRINGS).1 = .ok none) :
    (findString m p N idx).1 = .ok none := by
  unfold findString
  by_cases h0 : idx = 0
  · rw [if_pos h0]; rfl
  · rw [if_neg h0, bind_fst_ok _ hcat]
    rfl

end Ec.Eeprom
