/-
  One request observed along arbitrary histories (C06): which step can have delivered its response, and the
  bookkeeping of its deadlines and retries.
-/
import EcModel.Lemmas.SlotsInv

namespace Ec

theorem rxDone_only_by_rx {v : World} (hJ : J v.1 v.2) (op : Op) (k : Nat) (hop : ∀ b, op ≠ .rx b)
    (h : ((step v op).1.1.slot k).st = .rxDone) : (v.1.slot k).st = .rxDone := by
  rcases step_edge hJ op with ⟨k', y, e, hE, _⟩ | ⟨_, e⟩
  · rw [slot_congr e, slot_setSlot] at h
    split at h
    · next hk =>
      rw [hk.1]
      cases hE with
      | same | push | rest => exact h
      | rxBusy | rxDone => exact absurd rfl (hop _)
      | sent => split at h <;> cases h
      | _ => cases h
    · exact h
  · have := reset_slot_none v.1 k
    rw [← slot_congr e] at this
    rw [this] at h; cases h

theorem rxDone_by_rx (v : World) (b : List Nat) (k : Nat)
    (h : ((step v (.rx b)).1.1.slot k).st = .rxDone) (hold : (v.1.slot k).st ≠ .rxDone) :
    (step v (.rx b)).2 = "processed" ∧ (v.1.slot k).st = .sent := by
  simp only [step, opRx] at h ⊢
  rcases receiveFrame_effect v.1 b with ⟨e, _⟩ | ⟨k', hk', hst, ⟨p, e⟩ | e⟩
  · rw [e] at h; exact absurd h hold
  · rw [e] at h ⊢
    simp only at h
    rw [slot_setSlot] at h
    split at h
    · next hk => exact ⟨rfl, hk.1 ▸ hst⟩
    · exact absurd h hold
  · rw [e] at h
    simp only at h
    rw [slot_setSlot] at h
    split at h
    · simp at h
    · exact absurd h hold

theorem last_change (P : World → Prop) (w : World) (ops : List Op) (h0 : ¬ P w) (h1 : P (run w ops)) :
    ∃ pre op post, ops = pre ++ op :: post ∧ ¬ P (run w pre) ∧ P (step (run w pre) op).1 ∧
      ∀ j, j ≤ post.length → P (run (step (run w pre) op).1 (post.take j)) := by
  induction hn : ops.length generalizing ops with
  | zero =>
    have : ops = [] := List.eq_nil_of_length_eq_zero hn
    subst this; exact absurd h1 h0
  | succ n ih =>
    rcases List.eq_nil_or_concat ops with rfl | ⟨L, b, rfl⟩
    · simp at hn
    · rw [List.concat_eq_append] at hn h1 ⊢
      have hL : L.length = n := by simp at hn; omega
      rw [run_append] at h1
      by_cases hp : P (run w L)
      · obtain ⟨pre, op, post, e, a1, a2, a3⟩ := ih L hp hL
        refine ⟨pre, op, post ++ [b], by rw [e]; simp, a1, a2, ?_⟩
        intro j hj
        by_cases hj' : j ≤ post.length
        · rw [List.take_append_of_le_length hj']; exact a3 j hj'
        · have : j = (post ++ [b]).length := by simp at hj ⊢; omega
          rw [this, List.take_length, run_append]
          have e' : run (step (run w pre) op).1 post = run w L := by
            rw [e, run_append, run_cons]
          rw [e']; exact h1
      · refine ⟨L, b, [], rfl, hp, h1, ?_⟩
        intro j hj
        simp at hj; subst hj
        exact h1

/-- Bytes put on the wire for slot `k` by this step: a `send_blocking` that reports a complete send,
    on a `SendableFrame` of slot `k` (what the closure is given = `as_bytes`). -/
def stepSends (k : Nat) (v : World) : Op → List (List Nat)
  | .txSend t o =>
    if o = 0 then
      match getH v.2 t with
      | some ⟨_, k', .sendable⟩ => if k' = k then [(v.1.slot k).buf.take (16 + (v.1.slot k).used)] else []
      | _ => []
    else []
  | _ => []

/-- The timer of the future in register `r` would report expiry if polled now. -/
def expiredB (v : World) (r : Nat) : Bool :=
  match getH v.2 r with
  | some ⟨_, _, .fut _ D _ a⟩ => a && decide (D ≤ v.1.now)
  | _ => false

def stepExp (r : Nat) (v : World) : Op → Nat
  | .poll r' => if r' = r ∧ expiredB v r = true then 1 else 0
  | _ => 0

def stepPoll (r : Nat) (v : World) : Op → List String
  | .poll r' => if r' = r then [(step v (.poll r')).2] else []
  | _ => []

def sends (k : Nat) : World → List Op → List (List Nat)
  | _, [] => []
  | v, op :: ops => stepSends k v op ++ sends k (step v op).1 ops

def expiries (r : Nat) : World → List Op → Nat
  | _, [] => 0
  | v, op :: ops => stepExp r v op + expiries r (step v op).1 ops

def pollOuts (r : Nat) : World → List Op → List String
  | _, [] => []
  | v, op :: ops => stepPoll r v op ++ pollOuts r (step v op).1 ops

/-- Side conditions of the transmission-count clause, per step: the awaiting future is not dropped;
    no response for this request arrives (`receive_frame` leaves slot `k` alone); and whenever a
    poll finds the deadline expired the TX side has serviced the frame (it is `Sent`). -/
def StepOk (r k : Nat) (v : World) : Op → Prop
  | .dropFut r' => r' ≠ r
  | .rx b => (receiveFrame v.1 b).1.slot k = v.1.slot k
  | .poll r' => r' = r → expiredB v r = true → (v.1.slot k).st = .sent
  | _ => True

def Sched (r k : Nat) : World → List Op → Prop
  | _, [] => True
  | v, op :: ops => StepOk r k v op ∧ Sched r k (step v op).1 ops

/-- 1 while a transmission of slot `k` is out and unanswered (`Sent`): what balances `sends` against `expiries`. -/
def sentB (k : Nat) (v : World) : Nat := if (v.1.slot k).st = .sent then 1 else 0

/-- State of the request in register `r` / slot `k` configured with `R` retries whose frame bytes
    are `B`, after `e` expired deadlines. -/
structure Q (r k R : Nat) (B : List Nat) (e : Nat) (v : World) : Prop where
  fut : ∃ D T a, getH v.2 r = some ⟨r, k, .fut (R - e) D T a⟩
  le : e ≤ R
  bytes : (v.1.slot k).buf.take (16 + (v.1.slot k).used) = B
  st : (v.1.slot k).st = .sendable ∨ (v.1.slot k).st = .sending ∨ (v.1.slot k).st = .sent
  notx : (v.1.slot k).st ≠ .sending → ∀ h ∈ v.2, h.kind = .sendable → h.slot ≠ k
  onetx : (v.1.slot k).st = .sending →
    ∃ τ, (⟨τ, k, .sendable⟩ : Hd) ∈ v.2 ∧ ∀ h ∈ v.2, h.kind = .sendable → h.slot = k → h.reg = τ

/-- `Q` looks at slot `k`, register `r` and the TX-side handles on slot `k` only. -/
theorem Q.frame {r k R e : Nat} {B : List Nat} {v v' : World} (hQ : Q r k R B e v) (hs : v'.1.slot k = v.1.slot k)
    (hg : ∃ D T a, getH v'.2 r = some ⟨r, k, .fut (R - e) D T a⟩)
    (htx : ∀ x : Hd, x.kind = .sendable → x.slot = k → (x ∈ v'.2 ↔ x ∈ v.2)) : Q r k R B e v' := by
  refine ⟨hg, hQ.le, hs ▸ hQ.bytes, hs ▸ hQ.st, ?_, ?_⟩
  · rw [hs]; intro hne h hm hk hsk
    exact hQ.notx hne h ((htx h hk hsk).mp hm) hk hsk
  · rw [hs]; intro he
    obtain ⟨τ, hm, hu⟩ := hQ.onetx he
    exact ⟨τ, (htx _ rfl rfl).mpr hm, fun h hm' hk hsk => hu h ((htx h hk hsk).mp hm') hk hsk⟩

theorem Q.transfer {r k R e : Nat} {B : List Nat} {v v' : World} (hQ : Q r k R B e v)
    (hs : v'.1.slot k = v.1.slot k) (hg : getH v'.2 r = getH v.2 r)
    (htx : ∀ x : Hd, x.kind = .sendable → (x ∈ v'.2 ↔ x ∈ v.2)) : Q r k R B e v' :=
  hQ.frame hs (hg ▸ hQ.fut) (fun x hx _ => htx x hx)

variable {r k R e : Nat} {B : List Nat} {v : World}

theorem expiredB_iff {r' ρ D T : Nat} {a : Bool} (hf : getH v.2 r = some ⟨r', k, .fut ρ D T a⟩) :
    expiredB v r = true ↔ a = true ∧ D ≤ v.1.now := by simp [expiredB, hf]

theorem quiet_of_owner {op : Op} {r' : Nat} (ho : op.ownerReg = some r') (hp : op ≠ .poll r) :
    stepSends k v op = [] ∧ stepExp r v op = 0 ∧ stepPoll r v op = [] := by
  cases op with
  | poll r'' => exact ⟨rfl, if_neg (fun c : r'' = r ∧ _ => hp (c.1 ▸ rfl)), if_neg (fun c : r'' = r => hp (c ▸ rfl))⟩
  | txSend => cases ho
  | _ => exact ⟨rfl, rfl, rfl⟩

/-- What one step contributes to `Q_run`: `Q` moves on by the step's expiry; the slot becomes `Sent` only by a complete
    transmission and leaves `Sent` only by an expiry; a transmission carries `B`; a poll of `r` answers `pending`. -/
def StepConcl (r k R : Nat) (B : List Nat) (e : Nat) (v : World) (op : Op) : Prop :=
  Q r k R B (e + stepExp r v op) (step v op).1 ∧
  sentB k v + (stepSends k v op).length = stepExp r v op + sentB k (step v op).1 ∧
  (∀ x ∈ stepSends k v op, x = B) ∧ (∀ o ∈ stepPoll r v op, o = "pending")

theorem StepConcl.of_frame {op : Op} (hQ : Q r k R B e v)
    (h1 : stepSends k v op = []) (h2 : stepExp r v op = 0) (h3 : stepPoll r v op = [])
    (hs : (step v op).1.1.slot k = v.1.slot k) (hg : getH (step v op).1.2 r = getH v.2 r)
    (htx : ∀ x : Hd, x.kind = .sendable → x.slot = k → (x ∈ (step v op).1.2 ↔ x ∈ v.2)) :
    StepConcl r k R B e v op := by
  refine ⟨h2 ▸ hQ.frame hs (hg ▸ hQ.fut) htx, ?_, h1 ▸ nofun, h3 ▸ nofun⟩
  rw [h1, h2, sentB, sentB, hs, Nat.zero_add]; rfl

theorem StepConcl.of_noop {op : Op} (hQ : Q r k R B e v)
    (h1 : stepSends k v op = []) (h2 : stepExp r v op = 0) (h3 : stepPoll r v op = [])
    (h : (step v op).1 = v) : StepConcl r k R B e v op :=
  StepConcl.of_frame hQ h1 h2 h3 (by rw [h]) (by rw [h]) (by intro x _ _; rw [h])

theorem step_owner_same_noop {ρ D T : Nat} {a : Bool}
    (hf : getH v.2 r = some ⟨r, k, .fut ρ D T a⟩) (op : Op) (ho : op.ownerReg = some r)
    (h1 : op ≠ .poll r) (h2 : op ≠ .dropFut r) : (step v op).1 = v := by
  cases op <;> cases ho
  case poll => exact absurd rfl h1
  case dropFut => exact absurd rfl h2
  all_goals simp [step, opPush, opRest, opMark, opDropCreated, opFirst, opIter, opDropReceived, opViewRead,
    opViewTrim, opDropView, hf]

theorem step_poll_self (hJ : J v.1 v.2) (hQ : Q r k R B e v)
    (hok : StepOk r k v (.poll r)) (hexp : stepExp r v (.poll r) ≤ R - e) : StepConcl r k R B e v (.poll r) := by
  obtain ⟨D, T, a, hf⟩ := hQ.fut
  have hnd : (v.1.slot k).st ≠ .rxDone := by
    rcases hQ.st with h | h | h <;> rw [h] <;> nofun
  -- the poll replaces the future in `r` by a future: the TX-side handles stay
  have htx : ∀ ρ' D' T' a' (x : Hd), x.kind = .sendable → x.slot = k →
      (x ∈ putH v.2 ⟨r, k, .fut ρ' D' T' a'⟩ ↔ x ∈ v.2) := by
    intro ρ' D' T' a' x hx _
    rw [mem_putH]
    constructor
    · rintro (rfl | a)
      · cases hx
      · exact a.1
    · intro hxm
      refine .inr ⟨hxm, fun hxr => ?_⟩
      rw [regs_inj hJ.regs hxm (getH_some hf).1 hxr] at hx
      cases hx
  rcases poll_cases hJ hf with ⟨h, _⟩ | ⟨_, hx, hs⟩ | ⟨_, hx, hr, _⟩ | ⟨_, hx, hr, hs⟩
  · exact absurd h hnd
  · -- not expired
    have e0 : stepExp r v (.poll r) = 0 := if_neg (fun c => hx ((expiredB_iff hf).mp c.2))
    refine ⟨?_, ?_, nofun, by simp [stepPoll, hs]⟩
    · rw [e0, hs]; exact hQ.frame rfl ⟨D, T, true, getH_putH_self _ _⟩ (htx _ _ _ _)
    · rw [e0, hs, Nat.zero_add]; rfl
  · -- expired with no retry left: excluded by the bound on expiries
    rw [stepExp, if_pos ⟨rfl, (expiredB_iff hf).mpr hx⟩, hr] at hexp; cases hexp
  · -- expired, retry: the frame is `Sent` and is queued again
    have hx' := (expiredB_iff hf).mpr hx
    have e1 : stepExp r v (.poll r) = 1 := if_pos ⟨rfl, hx'⟩
    have hsent : (v.1.slot k).st = .sent := hok rfl hx'
    rw [if_pos hsent] at hs
    have hsl : (step v (.poll r)).1.1.slot k = { v.1.slot k with st := .sendable } := by
      rw [hs]; exact slot_setSlot_eq _ _ _ (hJ.owner_lt (getH_some hf).1 (by decide : 2 ≠ 4))
    refine ⟨⟨⟨v.1.now + T, T, true, ?_⟩, by rw [e1] at hexp ⊢; exact Nat.lt_of_sub_pos hexp, hsl ▸ hQ.bytes,
      hsl ▸ .inl rfl, ?_, hsl ▸ nofun⟩, ?_, nofun, by simp [stepPoll, hs]⟩
    · rw [e1, hs, Nat.sub_add_eq]; exact getH_putH_self _ _
    · intro _ h hm hkd hsk
      rw [hs] at hm
      exact hQ.notx (hsent ▸ nofun) h ((htx _ _ _ _ h hkd hsk).mp hm) hkd hsk
    · rw [e1, sentB, sentB, hsl, if_pos hsent]; rfl

theorem step_txNext (hQ : Q r k R B e v) (τ : Nat) : StepConcl r k R B e v (.txNext τ) := by
  obtain ⟨D, T, a, hf⟩ := hQ.fut
  rcases txNext_cases v τ with h | ⟨i, hfr, hin, hsi, _, h⟩
  · exact StepConcl.of_noop hQ rfl rfl rfl h
  have hg : getH (step v (.txNext τ)).1.2 r = getH v.2 r := by
    rw [h]; exact getH_putH_other _ _ (fun e' => hfr _ (getH_some hf).1 e')
  have hmem : ∀ x : Hd, x ∈ (step v (.txNext τ)).1.2 ↔ x = ⟨τ, i, .sendable⟩ ∨ x ∈ v.2 := by
    intro x; rw [h, mem_putH]
    exact ⟨fun a => a.imp_right And.left, fun a => a.imp_right fun a => ⟨a, hfr x a⟩⟩
  by_cases hik : i = k
  · -- the frame itself is claimed: `Sendable → Sending`, one TX-side handle
    subst hik
    have hsl : (step v (.txNext τ)).1.1.slot i = { v.1.slot i with st := .sending } := by
      rw [h]; exact slot_setSlot_eq _ _ _ hin
    refine ⟨⟨⟨D, T, a, hg ▸ hf⟩, hQ.le, hsl ▸ hQ.bytes, hsl ▸ .inr (.inl rfl), hsl ▸ (absurd rfl ·),
      fun _ => ⟨τ, (hmem _).mpr (.inl rfl), fun x hm hkd hsk => ?_⟩⟩, ?_, nofun, nofun⟩
    · rcases (hmem x).mp hm with rfl | hm'
      · rfl
      · exact absurd hsk (hQ.notx (hsi ▸ nofun) x hm' hkd)
    · rw [sentB, sentB, hsl, hsi]; rfl
  · refine StepConcl.of_frame hQ rfl rfl rfl (by rw [h]; exact slot_setSlot_ne _ _ _ _ (Ne.symm hik)) hg ?_
    intro x _ hsk
    rw [hmem]; exact ⟨fun a => a.resolve_left (fun e' => hik (by rw [← hsk, e'])), .inr⟩

theorem step_txSend (hJ : J v.1 v.2) (hQ : Q r k R B e v) (τ o : Nat) : StepConcl r k R B e v (.txSend τ o) := by
  obtain ⟨D, T, a, hf⟩ := hQ.fut
  rcases txSend_cases v τ o with ⟨hno, h⟩ | ⟨k', hh, hcase⟩
  · -- no `SendableFrame` in `τ`: `hno` rules out the one arm of `stepSends` that is not `[]`
    exact StepConcl.of_noop hQ (by simp only [stepSends]; exact ite_self _) rfl rfl h
  have hmτ := (getH_some hh).1
  have hg : getH (delH v.2 τ) r = getH v.2 r :=
    getH_delH_other _ (fun e' => by rw [e', hh] at hf; cases hf)
  have hhs : (step v (.txSend τ o)).1.2 = delH v.2 τ := by
    rcases hcase with ⟨_, h⟩ | ⟨_, h⟩ <;> rw [h]
  by_cases hkk : k' = k
  · subst hkk
    have hsends : stepSends k' v (.txSend τ o) =
        if o = 0 then [(v.1.slot k').buf.take (16 + (v.1.slot k').used)] else [] := by
      simp [stepSends, hh]
    rcases hcase with ⟨hs, h⟩ | ⟨hs, _⟩
    · -- the live claim completes (`Sent`), or fails and is released (`Sendable`); its handle is consumed
      obtain ⟨τ0, _, hu⟩ := hQ.onetx hs
      have hsl : (step v (.txSend τ o)).1.1.slot k' =
          { v.1.slot k' with st := if o = 0 then St.sent else St.sendable } := by
        rw [h]; exact slot_setSlot_eq _ _ _ (hJ.owner_lt (getH_some hf).1 (by decide : 2 ≠ 4))
      refine ⟨⟨⟨D, T, a, by rw [hhs, hg]; exact hf⟩, hQ.le, hsl ▸ hQ.bytes, ?_, fun _ x hm hkd hsk => ?_, ?_⟩,
        ?_, ?_, nofun⟩
      · rw [hsl]; split
        · exact .inr (.inr rfl)
        · exact .inl rfl
      · rw [hhs] at hm
        exact (mem_delH.mp hm).2 ((hu x (mem_delH.mp hm).1 hkd hsk).trans (hu _ hmτ rfl rfl).symm)
      · rw [hsl]; split <;> nofun
      · rw [hsends, sentB, sentB, hsl, hs]; by_cases ho : o = 0 <;> simp [ho, stepExp]
      · rw [hsends]; intro x hx
        split at hx
        · exact List.mem_singleton.mp hx ▸ hQ.bytes
        · cases hx
    · exact absurd rfl (hQ.notx hs _ hmτ rfl)
  · -- a frame of another slot
    refine StepConcl.of_frame hQ (by simp [stepSends, hh, hkk]) rfl rfl ?_ (by rw [hhs, hg]) ?_
    · rcases hcase with ⟨_, h⟩ | ⟨_, h⟩ <;> rw [h]
      exact slot_setSlot_ne _ _ _ _ (Ne.symm hkk)
    · intro x hx hsk
      rw [hhs, mem_delH]
      refine ⟨And.left, fun hm => ⟨hm, fun e' => hkk ?_⟩⟩
      rw [← hsk, regs_inj hJ.regs hm hmτ e']

theorem Q_step (hJ : J v.1 v.2) (hQ : Q r k R B e v) (op : Op)
    (hok : StepOk r k v op) (hexp : stepExp r v op ≤ R - e) : StepConcl r k R B e v op := by
  obtain ⟨D, T, a, hf⟩ := hQ.fut
  cases ho : op.ownerReg with
  | some r' =>
    by_cases hr : r' = r
    · subst hr
      by_cases h1 : op = .poll r'
      · subst h1; exact step_poll_self hJ hQ hok hexp
      · by_cases h2 : op = .dropFut r'
        · subst h2; exact absurd rfl hok
        · obtain ⟨q1, q2, q3⟩ := quiet_of_owner (k := k) (v := v) ho h1
          exact StepConcl.of_noop hQ q1 q2 q3 (step_owner_same_noop hf op ho h1 h2)
    · -- an operation on another request's handle: the frame lemma
      have hsh := (step_ownerShape hJ op r' ho).1
      obtain ⟨f1, f3⟩ := hsh.frame hJ (getH_some hf).1 (by decide : 2 ≠ 4) (Ne.symm hr)
      obtain ⟨q1, q2, q3⟩ := quiet_of_owner (k := k) (v := v) ho
        (fun (e' : op = .poll r) => hr (by subst e'; exact (Option.some.inj ho).symm))
      exact StepConcl.of_frame hQ q1 q2 q3 f1 (hsh.getH_other (Ne.symm hr)) (fun x hx _ => f3 x hx)
  | none =>
    cases op <;> simp [Op.ownerReg] at ho
    · exact step_txNext hQ _
    · exact step_txSend hJ hQ _ _
    · exact StepConcl.of_frame hQ rfl rfl rfl hok rfl (fun _ _ _ => Iff.rfl)
    · exact StepConcl.of_frame hQ rfl rfl rfl rfl rfl (fun _ _ _ => Iff.rfl)
    · refine StepConcl.of_noop hQ rfl rfl rfl ?_
      have : v.2 ≠ [] := fun e' => by have := (getH_some hf).1; rw [e'] at this; cases this
      simp [step, this]
    · exact StepConcl.of_noop hQ rfl rfl rfl rfl

theorem expiries_le_length (r : Nat) (v : World) (ops : List Op) : expiries r v ops ≤ ops.length := by
  induction ops generalizing v with
  | nil => exact Nat.le_refl 0
  | cons op ops ih =>
    simp only [expiries, List.length_cons]
    have : stepExp r v op ≤ 1 := by
      cases op with
      | poll r' => simp only [stepExp]; split <;> decide
      | _ => exact Nat.zero_le 1
    have := ih (step v op).1
    omega

theorem Q_run (hJ : J v.1 v.2) (hQ : Q r k R B e v) (ops : List Op)
    (hs : Sched r k v ops) (hexp : expiries r v ops ≤ R - e) :
    Q r k R B (e + expiries r v ops) (run v ops) ∧
    sentB k v + (sends k v ops).length = expiries r v ops + sentB k (run v ops) ∧
    (∀ x ∈ sends k v ops, x = B) ∧ (∀ o ∈ pollOuts r v ops, o = "pending") := by
  induction ops generalizing v e with
  | nil => exact ⟨hQ, (Nat.zero_add _).symm, nofun, nofun⟩
  | cons op ops ih =>
    simp only [expiries] at hexp
    obtain ⟨c1, c2, c3, c4⟩ := Q_step hJ hQ op hs.1 (Nat.le_trans (Nat.le_add_right _ _) hexp)
    obtain ⟨d1, d2, d3, d4⟩ := ih (J_step hJ op) c1 hs.2
      (Nat.sub_add_eq .. ▸ Nat.le_sub_of_add_le (Nat.add_comm .. ▸ hexp))
    refine ⟨Nat.add_assoc .. ▸ d1, ?_, fun x hx => ?_, fun o ho => ?_⟩
    · show _ + List.length (stepSends k v op ++ _) = (stepExp r v op + _) + _
      rw [List.length_append, ← Nat.add_assoc, c2, Nat.add_assoc, d2, ← Nat.add_assoc]; rfl
    · simp only [sends, List.mem_append] at hx
      exact hx.elim (c3 x) (d3 x)
    · simp only [pollOuts, List.mem_append] at ho
      exact ho.elim (c4 o) (d4 o)

/-- The bytes `send_blocking` hands to the network for slot `k` (`SendableFrame::as_bytes`). -/
def frameBytes (w : World) (k : Nat) : List Nat := (w.1.slot k).buf.take (16 + (w.1.slot k).used)

/-- The request in register `r` / slot `k` has just been marked sendable with `R` retries, and no
    `SendableFrame` of an earlier, abandoned request still points at the slot. -/
structure Fresh (w : World) (r k R : Nat) : Prop where
  fut : ∃ D T a, getH w.2 r = some ⟨r, k, .fut R D T a⟩
  st : (w.1.slot k).st = .sendable
  notx : ∀ h ∈ w.2, h.kind = .sendable → h.slot ≠ k

theorem Fresh.toQ {w : World} {r k R : Nat} (h : Fresh w r k R) : Q r k R (frameBytes w k) 0 w :=
  ⟨h.fut, Nat.zero_le _, rfl, .inl h.st, fun _ => h.notx, h.st ▸ nofun⟩

end Ec
