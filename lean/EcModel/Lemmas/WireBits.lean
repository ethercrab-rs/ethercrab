/-
  Ground facts of the wire model (C19): byte lists (`AllBytes`), `bitAt` under the list operations the generated code
  uses, `leBytes`/`leVal`, the mask-and-shift arithmetic of the single-byte fields, and `bindO`.
-/
import EcModel.Wire

namespace Ec.Wire

theorem allBytes_nil : AllBytes [] := by intro x h; cases h

theorem allBytes_cons {a : Nat} {l : List Nat} : AllBytes (a :: l) ↔ a < 256 ∧ AllBytes l := by
  simp [AllBytes]

theorem allBytes_append {a b : List Nat} : AllBytes (a ++ b) ↔ AllBytes a ∧ AllBytes b := by
  simp [AllBytes, or_imp, forall_and]

theorem allBytes_zeros (n : Nat) : AllBytes (zeros n) := by
  intro x h; simp [zeros] at h; omega

theorem allBytes_take {l : List Nat} (n : Nat) (h : AllBytes l) : AllBytes (l.take n) :=
  fun x hx => h x (List.mem_of_mem_take hx)

theorem allBytes_drop {l : List Nat} (n : Nat) (h : AllBytes l) : AllBytes (l.drop n) :=
  fun x hx => h x (List.mem_of_mem_drop hx)

theorem allBytes_getD {l : List Nat} (h : AllBytes l) (i : Nat) : l.getD i 0 < 256 := by
  rw [List.getD_eq_getElem?_getD]
  cases hi : l[i]? with
  | none => simp
  | some x => simp; exact h x (List.mem_of_getElem? hi)

theorem allBytes_set {l : List Nat} (h : AllBytes l) (i x : Nat) (hx : x < 256) : AllBytes (l.set i x) := by
  intro y hy
  rcases List.mem_or_eq_of_mem_set hy with h1 | h1
  · exact h y h1
  · omega

theorem testBit_byte_ge {a i : Nat} (ha : a < 256) (hi : 8 ≤ i) : a.testBit i = false := by
  apply Nat.testBit_lt_two_pow
  calc a < 2 ^ 8 := by omega
    _ ≤ 2 ^ i := Nat.pow_le_pow_right (by omega) hi

theorem byte_ext {a b : Nat} (ha : a < 256) (hb : b < 256)
    (h : ∀ i, i < 8 → a.testBit i = b.testBit i) : a = b := by
  apply Nat.eq_of_testBit_eq
  intro i
  by_cases hi : i < 8
  · exact h i hi
  · rw [testBit_byte_ge ha (by omega), testBit_byte_ge hb (by omega)]

theorem bitAt_def (buf : List Nat) (k : Nat) : bitAt buf k = (buf.getD (k / 8) 0).testBit (k % 8) := rfl

theorem bitAt_of_le {buf : List Nat} {k : Nat} (h : 8 * buf.length ≤ k) : bitAt buf k = false := by
  have : buf.length ≤ k / 8 := (Nat.le_div_iff_mul_le (by decide)).mpr (by omega)
  simp [bitAt, List.getD_eq_getElem?_getD, List.getElem?_eq_none this]

theorem bitAt_nil (k : Nat) : bitAt [] k = false := bitAt_of_le (Nat.zero_le _)

theorem bitAt_zeros (n k : Nat) : bitAt (zeros n) k = false := by
  simp only [bitAt, zeros, List.getD_eq_getElem?_getD]
  by_cases h : k / 8 < n
  · simp [h]
  · simp [h]

theorem bitAt_cons (x : Nat) (l : List Nat) (k : Nat) :
    bitAt (x :: l) k = if k < 8 then x.testBit k else bitAt l (k - 8) := by
  unfold bitAt
  split
  · rename_i h
    rw [Nat.div_eq_of_lt h, Nat.mod_eq_of_lt h]; rfl
  · rename_i h
    obtain ⟨j, rfl⟩ := Nat.exists_eq_add_of_le (Nat.le_of_not_lt h)
    rw [Nat.add_sub_cancel_left, Nat.add_div_left _ (by decide), Nat.add_mod_left]; rfl

theorem bitAt_mul_add (buf : List Nat) (a : Nat) {i : Nat} (hi : i < 8) :
    bitAt buf (8 * a + i) = (buf.getD a 0).testBit i := by
  rw [bitAt, Nat.mul_add_div (by decide), Nat.div_eq_of_lt hi, Nat.add_zero, Nat.mul_add_mod, Nat.mod_eq_of_lt hi]

theorem bitAt_singleton (x k : Nat) (hk : k < 8) : bitAt [x] k = x.testBit k := by
  rw [bitAt_cons, if_pos hk]

theorem bitAt_set {buf : List Nat} {b : Nat} (x k : Nat) (hb : b < buf.length) :
    bitAt (buf.set b x) k = if k / 8 = b then x.testBit (k % 8) else bitAt buf k := by
  simp only [bitAt, List.getD_eq_getElem?_getD, List.getElem?_set]
  by_cases h : k / 8 = b
  · subst h; simp [hb]
  · have : ¬ b = k / 8 := fun e => h e.symm
    simp [h, this]

theorem bitAt_append (a b : List Nat) (k : Nat) :
    bitAt (a ++ b) k = if k < 8 * a.length then bitAt a k else bitAt b (k - 8 * a.length) := by
  unfold bitAt
  split
  · rename_i h
    rw [List.getD_eq_getElem?_getD, List.getD_eq_getElem?_getD,
      List.getElem?_append_left (Nat.div_lt_of_lt_mul h)]
  · rename_i h
    obtain ⟨j, rfl⟩ := Nat.exists_eq_add_of_le (Nat.le_of_not_lt h)
    rw [Nat.add_sub_cancel_left, Nat.mul_add_div (by decide), Nat.mul_add_mod, List.getD_eq_getElem?_getD,
      List.getD_eq_getElem?_getD, List.getElem?_append_right (Nat.le_add_right ..), Nat.add_sub_cancel_left]

theorem bitAt_append_zero (a : List Nat) {z : List Nat} (hz : ∀ j, bitAt z j = false) (k : Nat) :
    bitAt (a ++ z) k = bitAt a k := by
  rw [bitAt_append]
  split
  · rfl
  · rename_i h
    rw [hz, bitAt_of_le (by omega)]

theorem bitAt_drop (buf : List Nat) (n k : Nat) : bitAt (buf.drop n) k = bitAt buf (8 * n + k) := by
  unfold bitAt
  rw [Nat.mul_add_div (by decide), Nat.mul_add_mod, List.getD_eq_getElem?_getD, List.getD_eq_getElem?_getD,
    List.getElem?_drop]

theorem bitAt_take (buf : List Nat) (n k : Nat) :
    bitAt (buf.take n) k = (decide (k < 8 * n) && bitAt buf k) := by
  have e : k / 8 < n ↔ k < 8 * n := by rw [Nat.div_lt_iff_lt_mul (by decide), Nat.mul_comm]
  unfold bitAt
  rw [List.getD_eq_getElem?_getD, List.getD_eq_getElem?_getD, List.getElem?_take]
  by_cases h : k < 8 * n
  · rw [if_pos (e.mpr h), decide_eq_true h, Bool.true_and]
  · rw [if_neg (mt e.mp h), decide_eq_false h, Bool.false_and]; exact Nat.zero_testBit _

theorem bitAt_slice (buf : List Nat) (a b k : Nat) :
    bitAt (slice buf a b) k = (decide (k < 8 * (b - a)) && bitAt buf (8 * a + k)) := by
  simp [slice, bitAt_take, bitAt_drop]

theorem slice_length {buf : List Nat} {a b : Nat} (hb : b ≤ buf.length) : (slice buf a b).length = b - a := by
  simp [slice]; omega

theorem slice_drop (buf : List Nat) (k a w : Nat) : slice (buf.drop k) a (a + w) = slice buf (k + a) (k + a + w) := by
  simp only [slice, List.drop_drop]
  congr 1 <;> omega

theorem bytes_ext : ∀ {l1 l2 : List Nat}, l1.length = l2.length → AllBytes l1 → AllBytes l2 →
    (∀ k, bitAt l1 k = bitAt l2 k) → l1 = l2
  | [], [], _, _, _, _ => rfl
  | [], _ :: _, h, _, _, _ => nomatch h
  | _ :: _, [], h, _, _, _ => nomatch h
  | a :: l1, b :: l2, hl, h1, h2, hb => by
    rw [allBytes_cons] at h1 h2
    have hab : a = b := byte_ext h1.1 h2.1 fun i hi => by
      have := hb i
      rwa [bitAt_cons, bitAt_cons, if_pos hi, if_pos hi] at this
    have htl : l1 = l2 := bytes_ext (Nat.succ.inj hl) h1.2 h2.2 fun k => by
      have := hb (8 + k)
      have h8 : ¬ 8 + k < 8 := Nat.not_lt.mpr (Nat.le_add_right ..)
      rwa [bitAt_cons, bitAt_cons, if_neg h8, if_neg h8, Nat.add_sub_cancel_left] at this
    rw [hab, htl]

theorem leBytes_length (n x : Nat) : (leBytes n x).length = n := by
  induction n generalizing x with
  | zero => rfl
  | succ n ih => simp [leBytes, ih]

theorem allBytes_leBytes (n x : Nat) : AllBytes (leBytes n x) := by
  induction n generalizing x with
  | zero => exact allBytes_nil
  | succ n ih => rw [leBytes, allBytes_cons]; exact ⟨by omega, ih _⟩

theorem leVal_leBytes (n x : Nat) : leVal (leBytes n x) = x % 256 ^ n := by
  induction n generalizing x with
  | zero => simp [leBytes, leVal, Nat.mod_one]
  | succ n ih =>
    rw [leBytes, leVal, ih, Nat.pow_succ, Nat.mul_comm (256 ^ n) 256, Nat.mod_mul]

theorem leVal_lt : ∀ {l : List Nat}, AllBytes l → leVal l < 256 ^ l.length
  | [], _ => by simp [leVal]
  | a :: l, h => by
    rw [allBytes_cons] at h
    have ih := leVal_lt h.2
    simp only [leVal, List.length_cons, Nat.pow_succ]
    omega

theorem leBytes_leVal : ∀ {l : List Nat}, AllBytes l → leBytes l.length (leVal l) = l
  | [], _ => rfl
  | a :: l, h => by
    rw [allBytes_cons] at h
    have ih := leBytes_leVal h.2
    simp only [List.length_cons, leBytes, leVal]
    have h1 : (a + 256 * leVal l) % 256 = a := by omega
    have h2 : (a + 256 * leVal l) / 256 = leVal l := by omega
    rw [h1, h2, ih]

/-- `leVal` numbers bits the way `bitAt` does: bit `k` of the little-endian number is bit `k % 8` of byte `k / 8`. -/
theorem testBit_leVal : ∀ {l : List Nat}, AllBytes l → ∀ k, (leVal l).testBit k = bitAt l k
  | [], _, k => by rw [leVal, Nat.zero_testBit, bitAt_nil]
  | a :: l, h, k => by
    rw [allBytes_cons] at h
    rw [leVal, Nat.add_comm, show (256 : Nat) = 2 ^ 8 from rfl, Nat.testBit_two_pow_mul_add _ h.1, bitAt_cons,
      testBit_leVal h.2]

theorem bitAt_leBytes (n x k : Nat) : bitAt (leBytes n x) k = (decide (k < 8 * n) && x.testBit k) := by
  rw [← testBit_leVal (allBytes_leBytes n x), leVal_leBytes, show (256 : Nat) = 2 ^ 8 from rfl, ← Nat.pow_mul,
    Nat.testBit_mod_two_pow]

theorem testBit_mask (w off i : Nat) :
    ((2 ^ w - 1) <<< off).testBit i = (decide (off ≤ i) && decide (i - off < w)) := by
  simp [Nat.testBit_shiftLeft, Nat.testBit_two_pow_sub_one]

/-- Bits of `((x << off) as u8) & mask`. -/
theorem testBit_shl_mask (x w off i : Nat) (h : off + w ≤ 8) :
    (((x <<< off) % 256) &&& ((2 ^ w - 1) <<< off)).testBit i
      = (decide (off ≤ i) && decide (i < off + w) && x.testBit (i - off)) := by
  have : (256 : Nat) = 2 ^ 8 := by decide
  rw [this, Nat.testBit_and, Nat.testBit_mod_two_pow, testBit_mask, Nat.testBit_shiftLeft]
  by_cases h1 : off ≤ i <;> by_cases h2 : i < off + w <;> simp [h1, h2]
  · have a : i < 8 := by omega
    have b : i - off < w := by omega
    simp [a, b]
  · intros; omega

/-- Bits of `(b & mask) >> off`. -/
theorem testBit_mask_shr (b w off j : Nat) :
    ((b &&& ((2 ^ w - 1) <<< off)) >>> off).testBit j = (decide (j < w) && b.testBit (off + j)) := by
  rw [Nat.testBit_shiftRight, Nat.testBit_and, testBit_mask]
  by_cases h : j < w <;> simp [h]

theorem mod_and_lt_256 (x m : Nat) : ((x % 256) &&& m) < 256 :=
  Nat.lt_of_le_of_lt Nat.and_le_left (Nat.mod_lt _ (by omega))

theorem or_lt_256 {a b : Nat} (ha : a < 256) (hb : b < 256) : a ||| b < 256 :=
  Nat.or_lt_two_pow (n := 8) ha hb

theorem toNat_emod_natCast (i m : Nat) : (((i : Int) % ((m : Nat) : Int))).toNat = i % m := by
  omega

theorem bindO_eq_ok {α β : Type} {x : Out α} {f : α → Out β} {b : β} :
    bindO x f = .ok b ↔ ∃ a, x = .ok a ∧ f a = .ok b := by
  cases x <;> simp [bindO]

theorem bindO_eq_err {α β : Type} {x : Out α} {f : α → Out β} {e : WireError} :
    bindO x f = .err e ↔ x = .err e ∨ ∃ a, x = .ok a ∧ f a = .err e := by
  cases x <;> simp [bindO]

theorem bindO_ok {α β : Type} (a : α) (f : α → Out β) : bindO (.ok a) f = f a := rfl

/-- Two results combined (`?` twice, then `Ok(g(a, b))`): both were `Ok`. -/
theorem bindO₂_eq_ok {α β γ : Type} {x : Out α} {y : Out β} {g : α → β → γ} {r : γ}
    (h : (bindO x fun a => bindO y fun b => .ok (g a b)) = .ok r) : ∃ a b, x = .ok a ∧ y = .ok b ∧ r = g a b := by
  obtain ⟨a, ha, h⟩ := bindO_eq_ok.mp h
  obtain ⟨b, hb, h⟩ := bindO_eq_ok.mp h
  exact ⟨a, b, ha, hb, (Outcome.ok.inj h).symm⟩

theorem bindO_ne_panic {α β : Type} {x : Out α} {f : α → Out β} (hx : ∀ w, x ≠ .panic w) (hf : ∀ a w, f a ≠ .panic w)
    (w : String) : bindO x f ≠ .panic w := by
  cases x with
  | ok a => exact hf a w
  | err e => simp [bindO]
  | panic w' => exact absurd rfl (hx w')

theorem bindO_ok_ne_panic {α β : Type} {x : Out α} {g : α → β} (hx : ∀ w, x ≠ .panic w) (w : String) :
    (bindO x fun a => .ok (g a)) ≠ .panic w :=
  bindO_ne_panic (f := fun a => .ok (g a)) hx (fun _ _ => nofun) w

end Ec.Wire
