/-
  What a program counter of the micro-step model (`Micro.lean`) stands for: the claim it carries, the
  register and handle role it needs, the buffer it is about to access; and what the local prelude
  `Micro.begin` does.
-/
import EcModel.Micro

namespace Ec.Micro

/-- The five kinds of party of the slot protocol (`Lifecycle.Tok`). -/
inductive Role where
  | creator   -- `CreatedFrame`: may write the buffer
  | fut       -- `ReceiveFrameFut`: the waiting owner, NOT inside
  | tx        -- `SendableFrame`: may read the buffer
  | rx        -- `ReceivingFrame`: may write the buffer
  | reader    -- `ReceivedFrame` / `ReceivedPdu`: may read the buffer
  deriving DecidableEq, Repr

def roleOf : HK → Role
  | .created _ _ => .creator
  | .fut _ _ _ _ => .fut
  | .sendable => .tx
  | .received => .reader
  | .view _ _ _ => .reader

@[simp] theorem roleOf_created (a : Nat) (b : Option Nat) : roleOf (.created a b) = .creator := rfl
@[simp] theorem roleOf_fut (a b c : Nat) (d : Bool) : roleOf (.fut a b c d) = .fut := rfl
@[simp] theorem roleOf_sendable : roleOf .sendable = .tx := rfl
@[simp] theorem roleOf_received : roleOf .received = .reader := rfl
@[simp] theorem roleOf_view (a b c : Nat) : roleOf (.view a b c) = .reader := rfl

/-- Claim carried by the program counter alone (no handle exists yet / at all):
    `alloc_frame` between the successful `None → Created` compare-exchange and the construction of the
    `CreatedFrame`; `receive_frame` between `claim_receiving` and `mark_received` (or the hand-back
    `RxBusy → Sent` after the marker re-check failed, or an error return). -/
def Pc.claim : Pc → Option (Nat × Role)
  | .alWaker _ k => some (k, .creator)
  | .alFirst _ k => some (k, .creator)
  | .alBuf _ k => some (k, .creator)
  | .rxVerify k _ _ => some (k, .rx)
  | .rxUnclaim k => some (k, .rx)
  | .rxCopy k _ => some (k, .rx)
  | .rxMark k => some (k, .rx)
  | _ => none

/-- Register (and role of the handle in it) the operation in progress works on. -/
def Pc.needs : Pc → Option (Nat × Role)
  | .puFetch r _ _ _ _ => some (r, .creator)
  | .puWrite r _ _ _ _ _ => some (r, .creator)
  | .puFirst r _ _ _ => some (r, .creator)
  | .puPatch r _ _ => some (r, .creator)
  | .mkHdr r _ _ => some (r, .creator)
  | .mkStore r _ _ => some (r, .creator)
  | .dcCas r => some (r, .creator)
  | .mkDrop r => some (r, .fut)
  | .poWaker r => some (r, .fut)
  | .poCas r => some (r, .fut)
  | .poRelease r => some (r, .fut)
  | .poRetry r _ _ => some (r, .fut)
  | .dfStore r => some (r, .fut)
  | .tsRead r _ => some (r, .tx)
  | .tsMark r _ _ => some (r, .tx)
  | .fpRead r _ _ => some (r, .reader)
  | .rfClear r _ => some (r, .reader)
  | .rfCas r _ => some (r, .reader)
  | .itNext r _ _ _ => some (r, .reader)
  | .itRead r _ _ _ _ _ _ => some (r, .reader)
  | .vrRead r => some (r, .reader)
  | _ => none

/-- While an operation is in progress, the register it works on holds a handle of the role it needs
    (registers are thread-local; `begin` checked the kind), and `alloc_frame`'s candidate index is in
    range. -/
def PcOk (n : Nat) (t : Thread) : Prop :=
  (match t.pc.needs with
   | some (r, ρ) => ∃ h, getH t.regs r = some h ∧ roleOf h.kind = ρ
   | none => True) ∧
  (match t.pc with
   | .alCas _ _ idx => idx < n
   | _ => True)

/-- The statuses on which `poll` goes on waiting (`okWas` in `Micro.stepThread`); on any other it answers
    `invalidframestate`. -/
def okWas (a : St) : Prop := a = .sendable ∨ a = .sending ∨ a = .sent ∨ a = .rxBusy

/-- The status a retrying `poll` remembered (`was`) is one the future can be in. -/
def WasOk (t : Thread) : Prop :=
  match t.pc with
  | .poRetry _ was _ => okWas was
  | _ => True

/-- The slot whose `buf` the step about to be taken by `t` reads or writes (`none`: the step touches
    no buffer). One line per buffer access of `Micro.stepThread`:
    `alBuf` (FrameBox::init), `puWrite` (push), `puPatch` (more-follows flag), `mkHdr` (EtherCAT header),
    `tsRead` (the bytes sent), `rxCopy` (response copied in), `fpRead`/`itNext`/`itRead`/`vrRead`
    (response read). -/
def bufAccess (t : Thread) : Option Nat :=
  match t.pc with
  | .alBuf _ k => some k
  | .puWrite r _ _ _ _ _ =>
    (match getH t.regs r with
     | some ⟨_, k, .created _ _⟩ => some k
     | _ => none)
  | .puPatch r _ _ => some (slotOf t r)
  | .mkHdr r _ _ => some (slotOf t r)
  | .tsRead r _ => some (slotOf t r)
  | .rxCopy k _ => some k
  | .fpRead r _ _ => some (slotOf t r)
  | .itNext r _ _ _ => some (slotOf t r)
  | .itRead r _ _ _ _ _ _ => some (slotOf t r)
  | .vrRead r =>
    (match getH t.regs r with
     | some ⟨_, k, .view _ _ _⟩ => some k
     | _ => none)
  | _ => none

/-- What `Micro.begin` can turn a thread into: nothing happens (empty program); an operation starts
    or is answered at once, with the registers as they were; or `vt` replaces a view by a view. -/
inductive Begun (t : Thread) : Thread → Prop
  | same : Begun t t
  | op (prog' : List String) (pc' : Pc) (outs' : List String) (hc : pc'.claim = none)
      (hp : ∀ n, PcOk n ⟨prog', pc', t.regs, outs'⟩) (hw : WasOk ⟨prog', pc', t.regs, outs'⟩) :
      Begun t ⟨prog', pc', t.regs, outs'⟩
  | trim (prog' outs' : List String) {r : Nat} {h : Hd} (e : getH t.regs r = some h) (K : HK)
      (hK : roleOf K = roleOf h.kind) : Begun t ⟨prog', .idle, putH t.regs ⟨r, h.slot, K⟩, outs'⟩

theorem begin_spec (s : Sys) (t : Thread) : (begin s t).1 = s ∧ Begun t (begin s t).2 := by
  unfold begin
  split
  · exact ⟨rfl, .same⟩
  · repeat' (first | split | dsimp only)
    all_goals first
      | exact ⟨rfl, .op _ _ _ rfl (fun _ => ⟨trivial, trivial⟩) trivial⟩
      | (refine ⟨rfl, .op _ _ _ rfl (fun _ => ⟨⟨?_, ?_, ?_⟩, trivial⟩) trivial⟩
         rotate_left
         assumption
         rfl)
      | (rename_i heq
         exact ⟨rfl, .trim _ _ heq _ rfl⟩)

end Ec.Micro
