/-
  C08: the machine arithmetic of `EcModel.Config`. Per operation: its value in the overflow-checking build
  (`_ok`), that the wrapping build agrees unless the checking build panics (`Agree`), bounds under which no build
  panics (`NoPanic`). Then the updates of the register file, and `physAt` on ranges without holes (`Contig`).
-/
import EcModel.Config

namespace Ec.Config
open Ec

section
variable {α β : Type} {x y : Out α} {Q Q' : α → Prop}

theorem bind_eq_ok {f : α → Out β} {b : β} : bind x f = .ok b ↔ ∃ a, x = .ok a ∧ f a = .ok b := by
  cases x <;> simp [bind]

/-- `y` is what `x` is, unless `x` is a panic: how the wrapping build relates to the overflow-checking one. -/
def Agree (x y : Out α) : Prop := (∀ w, x ≠ .panic w) → y = x

theorem Agree.refl : Agree x x := fun _ => Eq.refl x

theorem Agree.ok {a : α} (h : Agree x y) (hx : x = .ok a) : y = .ok a := by
  subst hx; exact h (fun w e => by cases e)

theorem Agree.bind {x' : Out α} {g g' : α → Out β} (hx : Agree x x') (hg : ∀ a, Agree (g a) (g' a)) :
    Agree (bind x g) (bind x' g') := by
  cases x with
  | ok a => rw [hx (fun w e => by cases e)]; exact hg a
  | err e => rw [hx (fun w e => by cases e)]; exact Agree.refl
  | panic w => intro h; exact absurd rfl (h w)

/-- `x` is not a panic, and a value it returns satisfies `Q`. -/
def NoPanic (x : Out α) (Q : α → Prop) : Prop :=
  match x with
  | .ok a => Q a
  | .err _ => True
  | .panic _ => False

theorem NoPanic.ne_panic (h : NoPanic x Q) (w : String) : x ≠ .panic w := by
  intro e; subst e; exact h

theorem NoPanic.post {a : α} (h : NoPanic x Q) (e : x = .ok a) : Q a := by
  subst e; exact h

theorem NoPanic.mono (hx : NoPanic x Q) (h : ∀ a, Q a → Q' a) : NoPanic x Q' := by
  cases x with
  | ok a => exact h a hx
  | err e => trivial
  | panic w => exact hx

theorem NoPanic.bind {g : α → Out β} {R : β → Prop} (hx : NoPanic x Q) (hg : ∀ a, Q a → NoPanic (g a) R) :
    NoPanic (bind x g) R := by
  cases x with
  | ok a => exact hg a hx
  | err e => trivial
  | panic w => exact hx.elim

theorem Agree.total {f : Mode → Out α} (ha : ∀ m, Agree (f .checked) (f m)) (hn : NoPanic (f .checked) Q) :
    (∀ m w, f m ≠ .panic w) ∧ ∀ m, f m = f .checked :=
  have h := fun m => ha m hn.ne_panic
  ⟨fun m w => by rw [h m]; exact hn.ne_panic w, h⟩

end

theorem arith_checked_ok {w : String} {e b v : Nat} :
    arith .checked w e b = .ok v ↔ e < b ∧ v = e := by
  unfold arith
  split <;> simp [*, eq_comm]

theorem arith_agree {w : String} {e b : Nat} (m : Mode) : Agree (arith .checked w e b) (arith m w e b) := by
  unfold arith
  split
  · exact Agree.refl
  · exact fun h => absurd rfl (h _)

theorem arith_noPanic {w : String} {e b : Nat} (m : Mode) (h : e < b) : NoPanic (arith m w e b) (· = e) := by
  unfold arith; rw [if_pos h]; exact rfl

theorem add64_ok {a b v : Nat} : add64 .checked a b = .ok v ↔ a + b < 18446744073709551616 ∧ v = a + b :=
  arith_checked_ok

theorem mul64_ok {a b v : Nat} : mul64 .checked a b = .ok v ↔ a * b < 18446744073709551616 ∧ v = a * b :=
  arith_checked_ok

theorem add32_ok {a b v : Nat} : add32 .checked a b = .ok v ↔ a + b < 4294967296 ∧ v = a + b :=
  arith_checked_ok

theorem increment_ok {off bytes v : Nat} :
    increment .checked off bytes = .ok v ↔ off + bytes < 4294967296 ∧ v = off + bytes :=
  arith_checked_ok

theorem subWrap_ok {bd a b v : Nat} : subWrap .checked bd a b = .ok v ↔ b ≤ a ∧ v = a - b := by
  unfold subWrap
  split <;> simp [*, eq_comm]

theorem subWrap_agree {bd a b : Nat} (m : Mode) : Agree (subWrap .checked bd a b) (subWrap m bd a b) := by
  unfold subWrap
  split
  · exact Agree.refl
  · exact fun h => absurd rfl (h _)

theorem subWrap_noPanic {bd a b : Nat} (m : Mode) (h : b ≤ a) : NoPanic (subWrap m bd a b) (· = a - b) := by
  unfold subWrap; rw [if_pos h]; exact rfl

theorem divCeil8_eq (bits : Nat) : divCeil8 bits = (bits + 7) / 8 := by
  unfold divCeil8
  split <;> omega

theorem lenBytes_cases (bits : Nat) :
    ((bits + 7) / 8 < 65536 ∧ lenBytes bits = .ok ((bits + 7) / 8)) ∨
    (65536 ≤ (bits + 7) / 8 ∧ lenBytes bits = .err .intConv) := by
  unfold lenBytes U16
  rw [divCeil8_eq]
  by_cases h : (bits + 7) / 8 < 65536
  · exact .inl ⟨h, if_pos h⟩
  · exact .inr ⟨Nat.le_of_not_lt h, if_neg h⟩

theorem lenBytes_ok {bits v : Nat} : lenBytes bits = .ok v ↔ (bits + 7) / 8 < 65536 ∧ v = (bits + 7) / 8 := by
  rcases lenBytes_cases bits with ⟨h, e⟩ | ⟨h, e⟩ <;> rw [e]
  · simp [h, eq_comm]
  · simp; omega

theorem lenBytes_noPanic (bits : Nat) : NoPanic (lenBytes bits) (fun v => v = (bits + 7) / 8 ∧ v < 65536) := by
  rcases lenBytes_cases bits with ⟨h, e⟩ | ⟨_, e⟩ <;> rw [e]
  · exact ⟨rfl, h⟩
  · trivial

theorem extendLen_ok {a b v : Nat} : extendLen a b = .ok v ↔ a + b < 65536 ∧ v = a + b := by
  unfold extendLen U16
  split <;> simp [*, eq_comm]

/-- `PdiOffset::increment_byte_aligned` with `div_ceil` (since the repair of c08/pdo-bit-length-u16-overflow):
    the rounding cannot overflow; only the `u32` address can. -/
theorem incrementByteAligned_ok {off bits v : Nat} :
    incrementByteAligned .checked off bits = .ok v ↔
      off + (bits + 7) / 8 < 4294967296 ∧ v = off + (bits + 7) / 8 := by
  unfold incrementByteAligned
  rw [divCeil8_eq]
  exact increment_ok

theorem incrementByteAligned_mode (m : Mode) {off bits v : Nat} (h : incrementByteAligned .checked off bits = .ok v) :
    incrementByteAligned m off bits = .ok v :=
  (arith_agree m).ok h

theorem natSum_append (a b : List Nat) : natSum (a ++ b) = natSum a + natSum b := by
  induction a with
  | nil => simp [natSum]
  | cons x xs ih => simp [natSum, ih]; omega

theorem natSum_le_bound {l : List Nat} {B : Nat} (h : ∀ x ∈ l, x ≤ B) : natSum l ≤ B * l.length := by
  induction l with
  | nil => simp [natSum]
  | cons x rest ih =>
    have h1 := h x (by simp)
    have h2 := ih (fun y hy => h y (by simp [hy]))
    simp only [natSum, List.length_cons, Nat.mul_add, Nat.mul_one]
    omega

/-! Room below `B` for `n` steps of at most `K`. The step size is a variable: `omega` exhausts its recursion
    depth when it has to eliminate a variable with a large literal coefficient. -/

section
variable {off v x K n N B : Nat}

theorem mul_len_lt (hn : n ≤ N) (hB : off + K * N < B) : off + K * n < B := by
  have := Nat.mul_le_mul_left K hn
  omega

theorem room_skip (h : off + (K * n + K) < B) : off + K * n < B := by omega

theorem room_step (hv : v ≤ K) (h : off + (K * n + K) < B) : off + v + K * n < B := by omega

theorem room_one (hv : v ≤ K) (h : off + (K * n + K) < B) : v < B := by omega

theorem within_skip (h : x ≤ off + K * n) : x ≤ off + (K * n + K) := by omega

theorem within_step (hv : v ≤ K) (h : x ≤ off + v + K * n) : x ≤ off + (K * n + K) := by omega

end

theorem oversamplingOf_lt {os : List (Nat × Nat)} (h : ∀ p ∈ os, p.2 < 65536) (i : Nat) :
    oversamplingOf os i < 65536 := by
  unfold oversamplingOf
  split
  · rename_i p hp
    exact h p (List.mem_of_find?_eq_some hp)
  · omega

theorem sumMappings_ok {acc v : Nat} {l : List Nat} (h : sumMappings .checked acc l = .ok v) :
    v = acc + natSum l := by
  induction l generalizing acc with
  | nil => simp [sumMappings] at h; simp [natSum, h]
  | cons b rest ih =>
    simp only [sumMappings, bind_eq_ok, add64_ok] at h
    obtain ⟨_, ⟨_, rfl⟩, h⟩ := h
    rw [ih h, natSum, Nat.add_assoc]

theorem sumMappings_agree (m : Mode) {l : List Nat} {acc : Nat} :
    Agree (sumMappings .checked acc l) (sumMappings m acc l) := by
  induction l generalizing acc with
  | nil => exact Agree.refl
  | cons b rest ih => exact (arith_agree m).bind fun _ => ih

theorem sumMappings_noPanic (m : Mode) (l : List Nat) (acc : Nat) (hacc : acc + 255 * l.length < 18446744073709551616)
    (hb : ∀ b ∈ l, b < 256) : NoPanic (sumMappings m acc l) (· = acc + natSum l) := by
  induction l generalizing acc with
  | nil => exact rfl
  | cons b rest ih =>
    simp only [List.length_cons, Nat.mul_add, Nat.mul_one] at hacc
    have hr := room_step (Nat.le_of_lt_succ (hb b (by simp))) hacc
    refine (arith_noPanic m (Nat.lt_of_le_of_lt (Nat.le_add_right _ _) hr)).bind ?_
    rintro _ rfl
    exact (ih _ hr fun y hy => hb y (by simp [hy])).mono fun v hv => by rw [hv, natSum, Nat.add_assoc]

theorem coeSmBitLen_ok {os : List (Nat × Nat)} {acc v : Nat} {l : List CoePdo}
    (h : coeSmBitLen .checked os acc l = .ok v) : v = acc + coeBitsSpec os l := by
  induction l generalizing acc with
  | nil => simp [coeSmBitLen] at h; simp [coeBitsSpec, natSum, h]
  | cons p rest ih =>
    simp only [coeSmBitLen, bind_eq_ok, add64_ok, mul64_ok] at h
    obtain ⟨pl, h1, _, ⟨_, rfl⟩, _, ⟨_, rfl⟩, h⟩ := h
    rw [ih h, sumMappings_ok h1]
    simp only [coeBitsSpec, List.map, natSum, Nat.zero_add]
    omega

theorem coeSmBitLen_agree (m : Mode) {os : List (Nat × Nat)} {l : List CoePdo} {acc : Nat} :
    Agree (coeSmBitLen .checked os acc l) (coeSmBitLen m os acc l) := by
  induction l generalizing acc with
  | nil => exact Agree.refl
  | cons p rest ih =>
    exact (sumMappings_agree m).bind fun _ => (arith_agree m).bind fun _ => (arith_agree m).bind fun _ => ih

/-- At most 255 mappings of at most 255 bits, times an oversampling factor below 2¹⁶. -/
theorem coeSmBitLen_noPanic (m : Mode) {os : List (Nat × Nat)} (hos : ∀ p ∈ os, p.2 < 65536)
    (l : List CoePdo) (acc : Nat) (hacc : acc + 65025 * 65535 * l.length < 18446744073709551616)
    (hp : ∀ p ∈ l, p.mappings.length ≤ 255 ∧ ∀ b ∈ p.mappings, b < 256) :
    NoPanic (coeSmBitLen m os acc l) (fun _ => True) := by
  induction l generalizing acc with
  | nil => trivial
  | cons p rest ih =>
    obtain ⟨hl, hb⟩ := hp p (by simp)
    simp only [List.length_cons, Nat.mul_add, Nat.mul_one] at hacc
    refine (sumMappings_noPanic m _ 0 (mul_len_lt hl (by decide)) hb).bind ?_
    rintro _ rfl
    have hmul : (0 + natSum p.mappings) * oversamplingOf os p.index ≤ 65025 * 65535 :=
      Nat.mul_le_mul
        (Nat.le_trans (Nat.zero_add _ ▸ natSum_le_bound fun x hx => Nat.le_of_lt_succ (hb x hx))
          (Nat.mul_le_mul_left 255 hl))
        (Nat.le_of_lt_succ (oversamplingOf_lt hos p.index))
    have hr := room_step hmul hacc
    refine (arith_noPanic m (room_one hmul hacc)).bind ?_
    rintro _ rfl
    refine (arith_noPanic m (Nat.lt_of_le_of_lt (Nat.le_add_right _ _) hr)).bind ?_
    rintro _ rfl
    exact ih _ hr fun y hy => hp y (by simp [hy])

theorem eepromSmBitLen_ok {os : List (Nat × Nat)} {i acc v : Nat} {l : List Pdo}
    (h : eepromSmBitLen .checked os i acc l = .ok v) : v = acc + eepromBitsSpec os i l := by
  induction l generalizing acc with
  | nil => simp [eepromSmBitLen] at h; simp [eepromBitsSpec, natSum, h]
  | cons p rest ih =>
    simp only [eepromSmBitLen] at h
    simp only [eepromBitsSpec] at ih ⊢
    by_cases hp : p.sm = i
    · simp only [if_pos hp, bind_eq_ok, add64_ok, mul64_ok] at h
      obtain ⟨_, ⟨_, rfl⟩, _, ⟨_, rfl⟩, h⟩ := h
      rw [ih h]
      simp [List.filter, hp, natSum]; omega
    · rw [if_neg hp] at h
      rw [ih h]
      simp [List.filter, show (p.sm == i) = false by simp [hp]]

theorem eepromSmBitLen_agree (m : Mode) {os : List (Nat × Nat)} {i : Nat} {l : List Pdo} {acc : Nat} :
    Agree (eepromSmBitLen .checked os i acc l) (eepromSmBitLen m os i acc l) := by
  induction l generalizing acc with
  | nil => exact Agree.refl
  | cons p rest ih =>
    simp only [eepromSmBitLen]
    split
    · exact (arith_agree m).bind fun _ => (arith_agree m).bind fun _ => ih
    · exact ih

theorem eepromSmBitLen_noPanic (m : Mode) {os : List (Nat × Nat)} (hos : ∀ p ∈ os, p.2 < 65536) (i : Nat)
    (l : List Pdo) (acc : Nat) (hacc : acc + 65535 * 65535 * l.length < 18446744073709551616)
    (hp : ∀ p ∈ l, p.bitLen < 65536) : NoPanic (eepromSmBitLen m os i acc l) (fun _ => True) := by
  induction l generalizing acc with
  | nil => trivial
  | cons p rest ih =>
    simp only [eepromSmBitLen]
    simp only [List.length_cons, Nat.mul_add, Nat.mul_one] at hacc
    have hrest : ∀ y ∈ rest, y.bitLen < 65536 := fun y hy => hp y (by simp [hy])
    split
    · have hmul : p.bitLen * oversamplingOf os p.index ≤ 65535 * 65535 :=
        Nat.mul_le_mul (Nat.le_of_lt_succ (hp p (by simp))) (Nat.le_of_lt_succ (oversamplingOf_lt hos p.index))
      have hr := room_step hmul hacc
      refine (arith_noPanic m (room_one hmul hacc)).bind ?_
      rintro _ rfl
      refine (arith_noPanic m (Nat.lt_of_le_of_lt (Nat.le_add_right _ _) hr)).bind ?_
      rintro _ rfl
      exact ih _ hr hrest
    · exact ih _ (room_skip hacc) hrest

@[simp] theorem setFmmu_fmmu_same (r : Regs) (i : Nat) (f : Fmmu) : (r.setFmmu i f).fmmu i = f := by
  simp [Regs.setFmmu]

theorem setFmmu_fmmu_other (r : Regs) {i j : Nat} (f : Fmmu) (h : j ≠ i) : (r.setFmmu i f).fmmu j = r.fmmu j := by
  simp [Regs.setFmmu, h]

@[simp] theorem setFmmu_sm (r : Regs) (i : Nat) (f : Fmmu) : (r.setFmmu i f).sm = r.sm := rfl

@[simp] theorem setSm_fmmu (r : Regs) (i : Nat) (s : SmReg) : (r.setSm i s).fmmu = r.fmmu := rfl

@[simp] theorem setSm_sm_same (r : Regs) (i : Nat) (s : SmReg) : (r.setSm i s).sm i = s := by
  simp [Regs.setSm]

theorem setSm_sm_other (r : Regs) {i j : Nat} (s : SmReg) (h : j ≠ i) : (r.setSm i s).sm j = r.sm j := by
  simp [Regs.setSm, h]

def rangesLen (ws : List (Nat × Nat)) : Nat := natSum (ws.map (·.2))

theorem rangesLen_cons (s n : Nat) (ws : List (Nat × Nat)) : rangesLen ((s, n) :: ws) = n + rangesLen ws := rfl

theorem physAt_some_lt {ws : List (Nat × Nat)} {k p : Nat} (h : physAt ws k = some p) : k < rangesLen ws := by
  induction ws generalizing k with
  | nil => simp [physAt] at h
  | cons w rest ih =>
    obtain ⟨s, n⟩ := w
    rw [rangesLen_cons]
    simp only [physAt] at h
    split at h
    · omega
    · have := ih h; omega

theorem physAt_isSome_of_lt {ws : List (Nat × Nat)} {k : Nat} (h : k < rangesLen ws) : ∃ p, physAt ws k = some p := by
  induction ws generalizing k with
  | nil => simp [rangesLen, natSum] at h
  | cons w rest ih =>
    obtain ⟨s, n⟩ := w
    rw [rangesLen_cons] at h
    simp only [physAt]
    split
    · exact ⟨_, rfl⟩
    · exact ih (by omega)

/-- The ranges follow each other without holes, the next non-empty one starting at `s`
    (empty ranges may sit anywhere). -/
def Contig : Nat → List (Nat × Nat) → Prop
  | _, [] => True
  | s, (st, n) :: rest => if n = 0 then Contig s rest else st = s ∧ Contig (s + n) rest

instance Contig.dec : (s : Nat) → (ws : List (Nat × Nat)) → Decidable (Contig s ws)
  | _, [] => isTrue trivial
  | s, (st, n) :: rest =>
    if h : n = 0 then
      match Contig.dec s rest with
      | isTrue hc => isTrue (by simp only [Contig, h, if_true]; exact hc)
      | isFalse hc => isFalse (by simp only [Contig, h, if_true]; exact hc)
    else
      match Contig.dec (s + n) rest with
      | isTrue hc =>
        if hs : st = s then isTrue (by simp only [Contig, h, if_false]; exact ⟨hs, hc⟩)
        else isFalse (by simp only [Contig, h, if_false]; exact fun x => hs x.1)
      | isFalse hc => isFalse (by simp only [Contig, h, if_false]; exact fun x => hc x.2)

theorem physAt_contig {s : Nat} {ws : List (Nat × Nat)} {k : Nat} (hc : Contig s ws) (hk : k < rangesLen ws) :
    physAt ws k = some (s + k) := by
  induction ws generalizing s k with
  | nil => simp [rangesLen, natSum] at hk
  | cons w rest ih =>
    obtain ⟨st, n⟩ := w
    rw [rangesLen_cons] at hk
    simp only [Contig] at hc
    simp only [physAt]
    split at hc
    · subst n
      simpa using ih hc (by omega)
    · obtain ⟨rfl, hc⟩ := hc
      split
      · rfl
      · rw [ih hc (by omega)]
        congr 1; omega

end Ec.Config
