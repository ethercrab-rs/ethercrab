/-
  Ownership / mutual-exclusion invariant stated DIRECTLY on the micro-step model (`Micro.lean`): who
  is inside a slot's buffer as a function of program counter and registers, token counts, the
  invariant `MInv`, the excluded window `AbandonInsideStep`, and the facts about counts and sums over
  the thread list the proofs use. What a step does to statuses and claims is in `MicroEffect.lean`;
  preservation, schedules and the corollaries in `MicroInvMain.lean`; the headline statements in
  `Props/C02Micro.lean`.

  Modelling facts used (all stated explicitly where they matter):
    * `n ≥ 1` slots (`MInv.pos`);
    * wrong-kind operations are `bad-op` no-ops (this is what `Micro.begin` does; kept as the
      invariant `PcOk`: while an operation is in progress its register holds a handle of the kind it
      needs);
    * `al r` / `tn r` may name an OCCUPIED register: `putH` then replaces the old handle, i.e. the old
      handle's claim disappears without its destructor running. This is HANDLED, not excluded: the
      invariant bounds the number of claims from above (`≤`), and losing a claim only lowers counts.
      (Only the converse direction "every non-free slot has an owner", which exclusion does not need,
      requires fresh registers: `MOwned` in `MicroInvMain.lean`, hypothesis `¬ ClobberStep`.)
-/
import EcModel.Lemmas.MicroPc
import EcModel.Lemmas.SlotsStep

namespace Ec.Micro

/-- Thread `t` holds a claim of role `ρ` on slot `k`: by its program counter or by a handle in one of
    its registers. -/
def Holds (t : Thread) (k : Nat) (ρ : Role) : Prop :=
  t.pc.claim = some (k, ρ) ∨ ∃ h ∈ t.regs, h.slot = k ∧ roleOf h.kind = ρ

/-- Thread `t` is INSIDE slot `k`'s buffer (has the right to read or write it). -/
def Inside (t : Thread) (k : Nat) : Prop :=
  Holds t k .creator ∨ Holds t k .tx ∨ Holds t k .rx ∨ Holds t k .reader

/-- Thread `t` OWNS slot `k` (is responsible for returning it). -/
def Owner (t : Thread) (k : Nat) : Prop :=
  Holds t k .creator ∨ Holds t k .fut ∨ Holds t k .reader

/-- A claim of role `ρ'` on slot `k'`, counted at slot `k` and role `ρ`. -/
def one (k' : Nat) (ρ' : Role) (k : Nat) (ρ : Role) : Nat := if k' = k ∧ ρ' = ρ then 1 else 0

def hcount (hs : List Hd) (k : Nat) (ρ : Role) : Nat := (hs.map (fun h => one h.slot (roleOf h.kind) k ρ)).sum

def pcount (pc : Pc) (k : Nat) (ρ : Role) : Nat :=
  match pc.claim with
  | some (k', ρ') => one k' ρ' k ρ
  | none => 0

def tcount (t : Thread) (k : Nat) (ρ : Role) : Nat := pcount t.pc k ρ + hcount t.regs k ρ

def wcount (ts : List Thread) (k : Nat) (ρ : Role) : Nat := (ts.map (fun t => tcount t k ρ)).sum

def cap (st : St) (ρ : Role) : Nat :=
  match st with
  | .none => 0
  | .created => if ρ = .creator then 1 else 0
  | .sendable => if ρ = .fut then 1 else 0
  | .sending => if ρ = .fut ∨ ρ = .tx then 1 else 0
  | .sent => if ρ = .fut then 1 else 0
  | .rxBusy => if ρ = .fut ∨ ρ = .rx then 1 else 0
  | .rxDone => if ρ = .fut then 1 else 0
  | .rxProcessing => if ρ = .reader then 1 else 0

/-- **The ownership invariant of the micro-step model.** For every slot and every role, the number
    of claims (program counters and registers of all threads) is bounded by what the slot's status
    admits: `None` ⇒ nobody; `Created` ⇒ at most one creator and nobody else; `Sendable|Sent|RxDone` ⇒
    at most the awaiting future; `Sending` ⇒ future + at most one TX; `RxBusy` ⇒ future + at most one
    RX; `RxProcessing` ⇒ at most one reader. -/
structure MInv (w : MWorld) : Prop where
  pos : 0 < w.sys.n
  regs : ∀ t ∈ w.threads, Regs t.regs
  pcok : ∀ t ∈ w.threads, PcOk w.sys.n t
  slots : ∀ k ρ, wcount w.threads k ρ ≤ cap (w.sys.slot k).st ρ

/-- The step `tid` is about to take abandons a request (drop of the future, or final timeout) while
    the TX side holds the frame (`Sending`) or an RX thread is inside it (`RxBusy` and a thread between
    `claim_receiving` and `mark_received`). This is the window C02 excludes and C06 covers. -/
def AbandonInsideStep (w : MWorld) (tid : Nat) : Prop :=
  ∃ t r, w.threads[tid]? = some t ∧ (t.pc = .dfStore r ∨ t.pc = .poRelease r) ∧
    ((w.sys.slot (slotOf t r)).st = .sending ∨
     ((w.sys.slot (slotOf t r)).st = .rxBusy ∧ ∃ t' ∈ w.threads, Holds t' (slotOf t r) .rx))

section
variable {α : Type} {l : List α} (f : α → Nat)

theorem le_sum_of_mem {a : α} (hm : a ∈ l) : f a ≤ (l.map f).sum := by
  induction l with
  | nil => cases hm
  | cons x xs ih =>
    simp only [List.map_cons, List.sum_cons]
    rcases List.mem_cons.mp hm with rfl | h'
    · omega
    · have := ih h'; omega

theorem sum_pos_iff : 0 < (l.map f).sum ↔ ∃ a ∈ l, 0 < f a := by
  induction l with
  | nil => simp
  | cons x xs ih =>
    simp only [List.map_cons, List.sum_cons, List.mem_cons, exists_eq_or_imp, ← ih]
    omega

theorem sum_set {i : Nat} {a : α} (h : l[i]? = some a) (a' : α) :
    ((l.set i a').map f).sum + f a = (l.map f).sum + f a' := by
  induction l generalizing i with
  | nil => simp at h
  | cons x xs ih =>
    cases i with
    | zero =>
      simp only [List.getElem?_cons_zero, Option.some.injEq] at h
      subst h
      simp only [List.set_cons_zero, List.map_cons, List.sum_cons]; omega
    | succ i =>
      simp only [List.getElem?_cons_succ] at h
      have := ih h
      simp only [List.set_cons_succ, List.map_cons, List.sum_cons]; omega

theorem sum_two {i j : Nat} {a b : α} (hij : i < j) (ha : l[i]? = some a) (hb : l[j]? = some b) :
    f a + f b ≤ (l.map f).sum := by
  induction l generalizing i j with
  | nil => simp at ha
  | cons x xs ih =>
    cases j with
    | zero => exact absurd hij (Nat.not_lt_zero _)
    | succ j =>
      simp only [List.getElem?_cons_succ] at hb
      simp only [List.map_cons, List.sum_cons]
      cases i with
      | zero =>
        simp only [List.getElem?_cons_zero, Option.some.injEq] at ha
        subst ha
        exact Nat.add_le_add_left (le_sum_of_mem f (List.mem_of_getElem? hb)) _
      | succ i =>
        simp only [List.getElem?_cons_succ] at ha
        exact Nat.le_trans (ih (Nat.lt_of_succ_lt_succ hij) ha hb) (Nat.le_add_left _ _)

theorem eq_of_sum_le_one (h : (l.map f).sum ≤ 1) {i j : Nat} {a b : α} (ha : l[i]? = some a)
    (hb : l[j]? = some b) (hfa : 0 < f a) (hfb : 0 < f b) : i = j := by
  have two : ∀ {i j a b}, i < j → l[i]? = some a → l[j]? = some b → 0 < f a → 0 < f b → False :=
    fun hij ha hb _ _ => by have := sum_two f hij ha hb; omega
  rcases Nat.lt_trichotomy i j with hij | hij | hij
  · exact (two hij ha hb hfa hfb).elim
  · exact hij
  · exact (two hij hb ha hfb hfa).elim

end

theorem sum_map_add {α : Type} (l : List α) (f g : α → Nat) :
    (l.map (fun a => f a + g a)).sum = (l.map f).sum + (l.map g).sum := by
  induction l with
  | nil => rfl
  | cons x xs ih => simp only [List.map_cons, List.sum_cons, ih]; omega

theorem forall_mem_set {α : Type} {l : List α} {P : α → Prop} (h : ∀ a ∈ l, P a) {a' : α} (h' : P a')
    (i : Nat) : ∀ a ∈ l.set i a', P a :=
  fun a ha => (List.mem_or_eq_of_mem_set ha).elim (h a) fun e => e ▸ h'

@[simp] theorem one_self (k : Nat) (ρ : Role) : one k ρ k ρ = 1 := by simp [one]

theorem one_le (k' : Nat) (ρ' : Role) (k : Nat) (ρ : Role) : one k' ρ' k ρ ≤ 1 := by
  unfold one; split <;> omega

theorem one_ne_slot {k' k : Nat} (h : k ≠ k') (ρ' ρ : Role) : one k' ρ' k ρ = 0 := by
  simp [one]; intro e; exact absurd e.symm h

@[simp] theorem hcount_nil (k : Nat) (ρ : Role) : hcount [] k ρ = 0 := rfl

theorem hcount_cons (h : Hd) (hs : List Hd) (k : Nat) (ρ : Role) :
    hcount (h :: hs) k ρ = one h.slot (roleOf h.kind) k ρ + hcount hs k ρ := by
  simp [hcount]

theorem hcount_delH_le (hs : List Hd) (r k : Nat) (ρ : Role) : hcount (delH hs r) k ρ ≤ hcount hs k ρ := by
  induction hs with
  | nil => simp [delH]
  | cons x xs ih =>
    simp only [delH, List.filter_cons] at ih ⊢
    split
    · simp only [hcount_cons]; omega
    · simp only [hcount_cons]; omega

theorem delH_of_none {hs : List Hd} {r : Nat} (e : getH hs r = none) : delH hs r = hs := by
  have := getH_none e
  simp only [delH, List.filter_eq_self]
  intro h hm; simpa using this h hm

theorem hcount_delH_some {hs : List Hd} (hr : Regs hs) {r : Nat} {h : Hd} (e : getH hs r = some h)
    (k : Nat) (ρ : Role) :
    hcount hs k ρ = one h.slot (roleOf h.kind) k ρ + hcount (delH hs r) k ρ := by
  induction hs with
  | nil => cases e
  | cons x xs ih =>
    obtain ⟨hx, hr'⟩ := List.nodup_cons.mp hr
    simp only [getH, List.find?_cons] at e
    simp only [delH, List.filter_cons, hcount_cons]
    split at e
    · next hxr =>
      -- `x` is the handle in `r`; no other handle is, so nothing else is removed
      cases e
      have hxr' : h.reg = r := beq_iff_eq.mp hxr
      have : xs.filter (fun y => y.reg != r) = xs :=
        List.filter_eq_self.mpr fun y hy => bne_iff_ne.mpr fun c =>
          hx (List.mem_map.mpr ⟨y, hy, c.trans hxr'.symm⟩)
      simp only [hxr', bne_self_eq_false, Bool.false_eq_true, if_false, this]
    · next hxr =>
      have := ih hr' e
      simp only [delH] at this
      simp only [bne, hxr, Bool.not_false, if_true, hcount_cons, this]
      omega

theorem hcount_putH (hs : List Hd) (x : Hd) (k : Nat) (ρ : Role) :
    hcount (putH hs x) k ρ = one x.slot (roleOf x.kind) k ρ + hcount (delH hs x.reg) k ρ := by
  simp [putH, hcount_cons]

theorem one_pos_iff (k' : Nat) (ρ' : Role) (k : Nat) (ρ : Role) : 0 < one k' ρ' k ρ ↔ k' = k ∧ ρ' = ρ := by
  unfold one; split <;> simp [*]

theorem hcount_pos_iff (hs : List Hd) (k : Nat) (ρ : Role) :
    0 < hcount hs k ρ ↔ ∃ h ∈ hs, h.slot = k ∧ roleOf h.kind = ρ := by
  simp only [hcount, sum_pos_iff, one_pos_iff]

theorem pcount_pos_iff (pc : Pc) (k : Nat) (ρ : Role) : 0 < pcount pc k ρ ↔ pc.claim = some (k, ρ) := by
  unfold pcount
  split <;> simp [*, one_pos_iff]

theorem tcount_pos_iff (t : Thread) (k : Nat) (ρ : Role) : 0 < tcount t k ρ ↔ Holds t k ρ := by
  unfold tcount Holds
  rw [← pcount_pos_iff, ← hcount_pos_iff]
  omega

/-- World after thread `tid` took the step with result `p`. -/
@[reducible] def next (w : MWorld) (tid : Nat) (p : Sys × Thread) : MWorld := ⟨p.1, w.threads.set tid p.2⟩

theorem st_ne_none_lt {s : Sys} {k : Nat} (h : (s.slot k).st ≠ .none) : k < s.n := by
  by_cases hk : k < s.n
  · exact hk
  · rw [slot_ge _ _ hk] at h; simp [dummySlot] at h

theorem st_setSlot_same (s : Sys) (k₀ : Nat) (y : Slot) (hy : y.st = (s.slot k₀).st) (k : Nat) :
    ((s.setSlot k₀ y).slot k).st = (s.slot k).st := by
  rw [slot_setSlot]
  split
  · next h => rw [h.1]; exact hy
  · rfl

theorem cap_none (ρ : Role) : cap .none ρ = 0 := rfl

theorem cap_le_one (st : St) (ρ : Role) : cap st ρ ≤ 1 := by cases st <;> cases ρ <;> decide

/-- Whoever holds a claim finds the status one that admits it; so the slot exists. -/
theorem MInv.holder {w : MWorld} (hI : MInv w) {t : Thread} (hm : t ∈ w.threads) {k : Nat} {ρ : Role}
    (hh : Holds t k ρ) : 0 < cap (w.sys.slot k).st ρ ∧ k < w.sys.n := by
  have h0 := (tcount_pos_iff t k ρ).mpr hh
  have h1 : tcount t k ρ ≤ wcount w.threads k ρ := le_sum_of_mem (fun t => tcount t k ρ) hm
  have h2 := hI.slots k ρ
  have h3 : 0 < cap (w.sys.slot k).st ρ := by omega
  refine ⟨h3, st_ne_none_lt ?_⟩
  intro e; rw [e, cap_none] at h3; omega

theorem cap_pos {a : St} {ρ : Role} (h : 0 < cap a ρ) :
    match (generalizing := false) ρ with
    | .creator => a = .created
    | .fut => a = .sendable ∨ a = .sending ∨ a = .sent ∨ a = .rxBusy ∨ a = .rxDone
    | .tx => a = .sending
    | .rx => a = .rxBusy
    | .reader => a = .rxProcessing := by
  cases ρ <;> cases a <;> first | exact absurd h (by decide) | (clear h; decide)

theorem holds_of_get {t : Thread} {r : Nat} {h : Hd} (e : getH t.regs r = some h) :
    Holds t h.slot (roleOf h.kind) := Or.inr ⟨h, (getH_some e).1, rfl, rfl⟩

theorem wcount_zero {ts : List Thread} {k : Nat} {ρ : Role} (h : ∀ t ∈ ts, ¬ Holds t k ρ) :
    wcount ts k ρ = 0 := by
  refine Nat.eq_zero_of_not_pos fun hp => ?_
  obtain ⟨t, hm, hp⟩ := (sum_pos_iff fun t => tcount t k ρ).mp hp
  exact h t hm ((tcount_pos_iff t k ρ).mp hp)

end Ec.Micro
