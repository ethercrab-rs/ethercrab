/-
  What each API operation does, and what follows for the ownership invariant `J`.

  Under `J` every operation changes at most one slot, along one edge of the `FrameState` machine (`Edge`: the
  transition sites of `SlotsSites.lean` as the model takes them — `Sent → RxDone` in one step, `RxBusy → Sent`
  never — and the pushes, which leave the state alone), or — `reset` — clears every state (`step_edge`). The thirteen
  operations that act through an owner handle also say what becomes of that handle (`OwnerShape`,
  `step_ownerShape`). From the two: `J` is preserved (`J_step`), and an operation leaves the slots, handles and
  registers of the owners it does not act on alone (`OwnerShape.frame`, `step_frame_owner`).
-/
import EcModel.Lemmas.SlotsStep

namespace Ec

/-- The register of the owner handle an operation acts through (`alloc`: the register that receives it). -/
def Op.ownerReg : Op → Option Nat
  | .alloc r => some r
  | .push r _ _ _ => some r
  | .rest r _ _ => some r
  | .mark r _ _ => some r
  | .dropCreated r => some r
  | .poll r => some r
  | .dropFut r => some r
  | .first r _ _ => some r
  | .iter r _ => some r
  | .dropReceived r => some r
  | .viewRead r => some r
  | .viewTrim r _ => some r
  | .dropView r => some r
  | _ => none

/-- The register an operation acts on (`none` for `rx`, `advance`, `reset`, `snap`). -/
def Op.reg : Op → Option Nat
  | .txNext r => some r
  | .txSend r _ => some r
  | op => op.ownerReg

theorem Op.reg_of_ownerReg {op : Op} {r : Nat} (h : op.ownerReg = some r) : op.reg = some r := by
  cases op with
  | txNext | txSend => cases h
  | _ => exact h

/-- Operations that draw a datagram index from the shared counter, or restart it. -/
def Op.draws : Op → Prop
  | .push .. | .rest .. | .reset => True
  | _ => False

/-- `Edge op x y`: operation `op` may take a slot from `x` to `y`. -/
inductive Edge : Op → Slot → Slot → Prop
  | same (op x) : Edge op x x
  | claim (r data x) : x.st = .none → Edge (.alloc r) x (freshSlot data)
  | push (r c d l f i x) : x.st = .created → Edge (.push r c d l) x (frameSlot x f (some i))
  | rest (r c b f i x) : x.st = .created → Edge (.rest r c b) x (frameSlot x f (some i))
  | mark (r a b buf x) : x.st = .created → Edge (.mark r a b) x { x with buf := buf, st := .sendable }
  | dropCreated (r x) : x.st = .created → Edge (.dropCreated r) x { x with st := .none }
  | claimSending (τ x) : x.st = .sendable → Edge (.txNext τ) x { x with st := .sending }
  | sent (τ o x) : x.st = .sending → Edge (.txSend τ o) x { x with st := if o = 0 then .sent else .sendable }
  | rxBusy (b x) : x.st = .sent → Edge (.rx b) x { x with st := .rxBusy }
  | rxDone (b p x) : x.st = .sent → Edge (.rx b) x { x with st := .rxDone, buf := setRange x.buf 16 p }
  | ready (r x) : x.st = .rxDone → Edge (.poll r) x { x with st := .rxProcessing }
  | retry (r x) : x.st = .sent → Edge (.poll r) x { x with st := .sendable }
  | timeout (r x) : x.st.cls = 2 → Edge (.poll r) x { x with st := .none }
  | dropFut (r x) : x.st.cls = 2 → Edge (.dropFut r) x { x with st := .none }
  | dropReceived (op r x) : op.ownerReg = some r → x.st = .rxProcessing →
      Edge op x { x with first := Gen.FIRST_PDU_EMPTY, st := .none }

/-- What an operation on the owner handle in register `r` does to the handle and to its slot. -/
inductive OwnerShape (v : World) (op : Op) (r : Nat) : World → Prop
  | same (v' : World) : v'.1.slots = v.1.slots → v'.2 = v.2 → OwnerShape v op r v'
  | upd (v' : World) (h : Hd) (K : HK) (y : Slot) : getH v.2 r = some h → h.kind.cls ≠ 4 →
      v'.1.slots = (v.1.setSlot h.slot y).slots → v'.2 = putH v.2 ⟨r, h.slot, K⟩ →
      Edge op (v.1.slot h.slot) y → y.st.cls = K.cls → OwnerShape v op r v'
  | del (v' : World) (h : Hd) (y : Slot) : getH v.2 r = some h → h.kind.cls ≠ 4 →
      v'.1.slots = (v.1.setSlot h.slot y).slots → v'.2 = delH v.2 r →
      Edge op (v.1.slot h.slot) y → y.st = .none → OwnerShape v op r v'
  | new (v' : World) (i : Nat) (y : Slot) : (∀ h ∈ v.2, h.reg ≠ r) → i < v.1.n → (v.1.slot i).st = .none →
      v'.1.slots = (v.1.setSlot i y).slots → v'.2 = putH v.2 ⟨r, i, .created 0 none⟩ →
      Edge op (v.1.slot i) y → y.st.cls = 1 → OwnerShape v op r v'

theorem OwnerShape.rekind {v : World} {op : Op} {r : Nat} {h : Hd} (hJ : J v.1 v.2) (e : getH v.2 r = some h)
    (ho : h.kind.cls ≠ 4) (K : HK) (hK : K.cls = h.kind.cls) : OwnerShape v op r (v.1, putH v.2 ⟨r, h.slot, K⟩) :=
  .upd _ h K (v.1.slot h.slot) e ho (by rw [setSlot_self]) rfl (.same _ _)
    ((hJ.compat h (getH_some e).1 ho).trans hK.symm)

/-- `ReceiveFrameFut::poll`, case by case. The timer is looked at only when the response is not there; under
    `J` the slot is in one of the in-flight states, so the `invalidframestate` arms of `opPoll` are dead. -/
theorem poll_cases {w : World} (hJ : J w.1 w.2) {r reg k ρ D T : Nat} {a : Bool}
    (hf : getH w.2 r = some ⟨reg, k, .fut ρ D T a⟩) :
    ((w.1.slot k).st = .rxDone ∧
      step w (.poll r) = ((w.1.setSlot k { w.1.slot k with st := .rxProcessing }, putH w.2 ⟨r, k, .received⟩), "ready.ok")) ∨
    ((w.1.slot k).st ≠ .rxDone ∧ ¬ (a = true ∧ D ≤ w.1.now) ∧
      step w (.poll r) = ((w.1, putH w.2 ⟨r, k, .fut ρ D T true⟩), "pending")) ∨
    ((w.1.slot k).st ≠ .rxDone ∧ (a = true ∧ D ≤ w.1.now) ∧ ρ = 0 ∧
      step w (.poll r) = ((w.1.setSlot k { w.1.slot k with st := .none }, delH w.2 r), "ready.err.timeout")) ∨
    ((w.1.slot k).st ≠ .rxDone ∧ (a = true ∧ D ≤ w.1.now) ∧ ρ ≠ 0 ∧
      step w (.poll r) = ((if (w.1.slot k).st = .sent then w.1.setSlot k { w.1.slot k with st := .sendable } else w.1,
        putH w.2 ⟨r, k, .fut (ρ - 1) (w.1.now + T) T true⟩), "pending")) := by
  by_cases hd : (w.1.slot k).st = .rxDone
  · left; exact ⟨hd, by simp [step, opPoll, hf, hd]⟩
  · right
    have hok := (St.cls_eq_two.mp (hJ.compat _ (getH_some hf).1 (by decide : 2 ≠ 4))).resolve_left hd
    by_cases hx : a = true ∧ D ≤ w.1.now
    · right
      by_cases hr : ρ = 0
      · left; exact ⟨hd, hx, hr, by simp [step, opPoll, hf, hd, hx, hr]⟩
      · right; exact ⟨hd, hx, hr, by simp [step, opPoll, hf, hd, hx, hr, hok]⟩
    · left; exact ⟨hd, hx, by simp [step, opPoll, hf, hd, hx, hok]⟩

theorem opFirst_cases {w : World} {r reg k : Nat} (hh : getH w.2 r = some ⟨reg, k, .received⟩) (code idx : Nat) :
    (∃ off len wkc more, parsePduAt ((w.1.slot k).buf.drop 16) 0 = .ok off len wkc code idx more ∧
      opFirst w r code idx = ((w.1, putH w.2 ⟨r, k, .view (16 + off) len wkc⟩), s!"ok.{len}.{wkc}")) ∨
    (∃ tok, tok ≠ "panic.drop" ∧ opFirst w r code idx =
      (((dropReceived w.1 k).1, delH w.2 r), if (dropReceived w.1 k).2 then tok else "panic.drop")) := by
  simp only [opFirst, hh]
  split
  · exact .inr ⟨_, by simp, rfl⟩
  · exact .inr ⟨_, by simp, rfl⟩
  · exact .inr ⟨_, by simp, rfl⟩
  · next off len wkc c i more hp =>
    by_cases hc : c = code
    · by_cases hi : i = idx
      · subst hc hi; exact .inl ⟨off, len, wkc, more, hp, by rw [if_neg (fun h => h rfl), if_neg (fun h => h rfl)]⟩
      · exact .inr ⟨s!"err.invalidindex.{i}", append_ne_of_not_prefix (by simp [toString]),
          by rw [if_neg (fun h => h hc), if_pos hi]⟩
    · exact .inr ⟨"err.decode", by simp, by rw [if_pos hc]⟩

theorem step_ownerShape {v : World} (hJ : J v.1 v.2) (op : Op) (r : Nat) (h : op.ownerReg = some r) :
    OwnerShape v op r (step v op).1 ∧ (¬ op.draws → (step v op).1.1.pduIdx = v.1.pduIdx) := by
  have keep : OwnerShape v op r v ∧ (¬ op.draws → v.1.pduIdx = v.1.pduIdx) := ⟨.same _ rfl rfl, fun _ => rfl⟩
  have cls : ∀ {reg k : Nat} {K : HK}, getH v.2 r = some ⟨reg, k, K⟩ → K.cls ≠ 4 → (v.1.slot k).st.cls = K.cls :=
    fun e ho => hJ.compat _ (getH_some e).1 ho
  -- `Drop for ReceivedFrame` by the owner of the slot: the compare-exchange from `RxProcessing` succeeds
  have drop : ∀ {reg k : Nat} {K : HK}, getH v.2 r = some ⟨reg, k, K⟩ → K.cls = 3 →
      OwnerShape v op r ((dropReceived v.1 k).1, delH v.2 r) ∧
      (¬ op.draws → (dropReceived v.1 k).1.pduIdx = v.1.pduIdx) := by
    intro reg k K e hk
    have ho : K.cls ≠ 4 := by omega
    have hst := St.cls_eq_three.mp (hk ▸ cls e ho)
    rw [dropReceived_eq hst]
    exact ⟨.del _ _ _ e ho rfl rfl (.dropReceived _ _ _ h hst) rfl, fun _ => rfl⟩
  cases op <;> cases h
  case alloc =>
    simp only [step]; split
    · next hfree =>
      unfold opAlloc; split
      · next s' i e =>
        obtain ⟨hi, hnone, f, rfl⟩ := allocLoop_some hJ.pos e
        exact ⟨.new _ i _ (getH_isNone.mp hfree) hi hnone rfl rfl (.claim _ _ _ hnone) rfl, fun _ => rfl⟩
      · next s' e => obtain ⟨f, rfl⟩ := allocLoop_none e; exact ⟨.same _ rfl rfl, fun _ => rfl⟩
    · exact keep
  case push =>
    simp only [step]; unfold opPush; split
    · next e =>
      have hc := cls e (by decide : 1 ≠ 4)
      dsimp only; split
      · exact ⟨.upd _ _ (.created _ _) _ e nofun rfl rfl (.push _ _ _ _ _ _ _ (St.cls_eq_one.mp hc)) hc,
          fun h => absurd trivial h⟩
      · exact ⟨.same _ rfl rfl, fun h => absurd trivial h⟩
    · exact keep
  case rest =>
    simp only [step]; unfold opRest; split
    · next e =>
      have hc := cls e (by decide : 1 ≠ 4)
      dsimp only; split
      · exact ⟨.upd _ _ (.created _ _) (frameSlot _ _ _) e nofun (by split <;> rfl) rfl
          (.rest _ _ _ _ _ _ (St.cls_eq_one.mp hc)) hc, fun h => absurd trivial h⟩
      · exact ⟨.same _ (by split <;> rfl) rfl, fun h => absurd trivial h⟩
      · exact ⟨.same _ (by split <;> rfl) rfl, fun h => absurd trivial h⟩
    · exact keep
  case mark =>
    simp only [step]; unfold opMark; split
    · next e =>
      exact ⟨.upd _ _ (.fut _ _ _ _) _ e nofun rfl rfl
        (.mark _ _ _ _ _ (St.cls_eq_one.mp (cls e (by decide : 1 ≠ 4)))) rfl, fun _ => rfl⟩
    · exact keep
  case dropCreated =>
    simp only [step]; unfold opDropCreated; split
    · next e =>
      have hst := St.cls_eq_one.mp (cls e (by decide : 1 ≠ 4))
      dsimp only; rw [if_pos hst]
      exact ⟨.del _ _ _ e nofun rfl rfl (.dropCreated _ _ hst) rfl, fun _ => rfl⟩
    · exact keep
  case poll =>
    by_cases hf : ∃ reg k ρ D T a, getH v.2 r = some ⟨reg, k, .fut ρ D T a⟩
    · obtain ⟨reg, k, ρ, D, T, a, hf⟩ := hf
      have hc := cls hf (by decide : 2 ≠ 4)
      rcases poll_cases hJ hf with ⟨hd, e⟩ | ⟨_, _, e⟩ | ⟨_, _, _, e⟩ | ⟨_, _, _, e⟩ <;> rw [e]
      · exact ⟨.upd _ _ .received _ hf nofun rfl rfl (.ready _ _ hd) rfl, fun _ => rfl⟩
      · exact ⟨.rekind hJ hf nofun _ rfl, fun _ => rfl⟩
      · exact ⟨.del _ _ _ hf nofun rfl rfl (.timeout _ _ hc) rfl, fun _ => rfl⟩
      · dsimp only; split
        · next hs => exact ⟨.upd _ _ (.fut _ _ _ _) _ hf nofun rfl rfl (.retry _ _ hs) rfl, fun _ => rfl⟩
        · exact ⟨.rekind hJ hf nofun _ rfl, fun _ => rfl⟩
    · simp only [step]; unfold opPoll; split
      · next reg k ρ D T a e => exact absurd ⟨reg, k, ρ, D, T, a, e⟩ hf
      · exact keep
  case dropFut =>
    simp only [step]; unfold opDropFut; split
    · next e => exact ⟨.del _ _ _ e nofun rfl rfl (.dropFut _ _ (cls e (by decide : 2 ≠ 4))) rfl, fun _ => rfl⟩
    · exact keep
  case first =>
    simp only [step]
    by_cases hf : ∃ reg k, getH v.2 r = some ⟨reg, k, .received⟩
    · obtain ⟨reg, k, hg⟩ := hf
      rcases opFirst_cases hg _ _ with ⟨_, _, _, _, _, e⟩ | ⟨_, _, e⟩ <;> rw [e]
      · exact ⟨.rekind hJ hg nofun _ rfl, fun _ => rfl⟩
      · exact drop hg rfl
    · unfold opFirst; split
      · next reg k e => exact absurd ⟨reg, k, e⟩ hf
      · exact keep
  case iter =>
    simp only [step]; unfold opIter; split
    · next e => exact drop e rfl
    · exact keep
  case dropReceived =>
    simp only [step]; unfold opDropReceived; split
    · next e => exact drop e rfl
    · exact keep
  case viewRead => simp only [step]; unfold opViewRead; split <;> exact keep
  case viewTrim =>
    simp only [step]; unfold opViewTrim; split
    · next e => exact ⟨.rekind hJ e nofun _ rfl, fun _ => rfl⟩
    · exact keep
  case dropView =>
    simp only [step]; unfold opDropView; split
    · next e => exact drop e rfl
    · exact keep

theorem txNext_cases (v : World) (τ : Nat) :
    (step v (.txNext τ)).1 = v ∨
    ∃ i, (∀ h ∈ v.2, h.reg ≠ τ) ∧ i < v.1.n ∧ (v.1.slot i).st = .sendable ∧
      (∀ j, j < i → (v.1.slot j).st ≠ .sendable) ∧
      (step v (.txNext τ)).1 = (v.1.setSlot i { v.1.slot i with st := .sending }, putH v.2 ⟨τ, i, .sendable⟩) := by
  simp only [step]
  split
  · next hfree =>
    unfold opTxNext
    split
    · left; rfl
    · split
      · next i hi =>
        obtain ⟨hin, hp, hprev⟩ := findIdx_some_slot hi
        right
        refine ⟨i, getH_isNone.mp hfree, hin, by simpa using hp, ?_, rfl⟩
        intro j hj; simpa using hprev j hj
      · left; rfl
  · left; rfl

theorem txSend_cases (v : World) (τ o : Nat) :
    ((∀ reg k', getH v.2 τ ≠ some ⟨reg, k', .sendable⟩) ∧ (step v (.txSend τ o)).1 = v) ∨
    ∃ k', getH v.2 τ = some ⟨τ, k', .sendable⟩ ∧
      (((v.1.slot k').st = .sending ∧ (step v (.txSend τ o)).1 =
          (v.1.setSlot k' { v.1.slot k' with st := if o = 0 then St.sent else St.sendable }, delH v.2 τ)) ∨
       ((v.1.slot k').st ≠ .sending ∧ (step v (.txSend τ o)).1 = (v.1, delH v.2 τ))) := by
  simp only [step]
  unfold opTxSend
  split
  · next reg k' e =>
    right
    have hr : reg = τ := (getH_some e).2
    subst hr
    refine ⟨k', e, ?_⟩
    simp only
    split
    · next hs => left; exact ⟨hs, rfl⟩
    · next hs => right; exact ⟨hs, rfl⟩
  · next hne =>
    left
    exact ⟨fun reg k' e => hne reg k' e, rfl⟩

theorem step_edge {v : World} (hJ : J v.1 v.2) (op : Op) :
    (∃ k y, (step v op).1.1.slots = (v.1.setSlot k y).slots ∧ Edge op (v.1.slot k) y ∧
      (¬ op.draws → (step v op).1.1.pduIdx = v.1.pduIdx)) ∨
    (op = .reset ∧ (step v op).1.1.slots = v.1.slots.map (fun x => { x with st := .none })) := by
  have keep : ∃ k y, v.1.slots = (v.1.setSlot k y).slots ∧ Edge op (v.1.slot k) y ∧
      (¬ op.draws → v.1.pduIdx = v.1.pduIdx) := ⟨0, _, by rw [setSlot_self], .same _ _, fun _ => rfl⟩
  cases ho : op.ownerReg with
  | some r =>
    obtain ⟨hs, hp⟩ := step_ownerShape hJ op r ho
    cases hs with
    | same e _ => exact .inl ⟨0, _, by rw [setSlot_self]; exact e, .same _ _, hp⟩
    | upd h K y _ _ e _ hE _ => exact .inl ⟨_, y, e, hE, hp⟩
    | del h y _ _ e _ hE _ => exact .inl ⟨_, y, e, hE, hp⟩
    | new i y _ _ _ e _ hE _ => exact .inl ⟨i, y, e, hE, hp⟩
  | none =>
    cases op <;> cases ho
    · next τ =>
      left
      rcases txNext_cases v τ with e | ⟨i, _, _, hsi, _, e⟩ <;> rw [e]
      · exact keep
      · exact ⟨i, _, rfl, .claimSending _ _ hsi, fun _ => rfl⟩
    · next τ o =>
      left
      rcases txSend_cases v τ o with ⟨_, e⟩ | ⟨k', _, ⟨hs, e⟩ | ⟨_, e⟩⟩ <;> rw [e]
      · exact keep
      · exact ⟨k', _, rfl, .sent _ _ _ hs, fun _ => rfl⟩
      · exact keep
    · next b =>
      left; simp only [step, opRx]
      rcases receiveFrame_effect v.1 b with ⟨e, _⟩ | ⟨k', _, hst, ⟨p, e⟩ | e⟩ <;> rw [e]
      · exact keep
      · exact ⟨k', _, rfl, .rxDone _ _ _ hst, fun _ => rfl⟩
      · exact ⟨k', _, rfl, .rxBusy _ _ hst, fun _ => rfl⟩
    · exact .inl keep
    · simp only [step]; split
      · exact .inr ⟨trivial, rfl⟩
      · exact .inl keep
    · exact .inl keep

theorem J_of_ownerShape {v v' : World} {op : Op} {r : Nat} (hJ : J v.1 v.2) (hs : OwnerShape v op r v') : J v'.1 v'.2 := by
  cases hs with
  | same e1 e2 => rw [e2]; exact hJ.congr e1
  | upd h K y e ho e1 e2 _ hc =>
    obtain ⟨hm, hr⟩ := getH_some e
    rw [e2]
    exact (hJ.put_owner K (by have := y.st.cls_lt; omega) h.slot r y (hJ.owner_lt hm ho) hc
      (fun a ham har => by rw [regs_inj hJ.regs ham hm (har.trans hr.symm)]; exact ⟨ho, rfl⟩)
      fun a ham har hoa es => har (hJ.distinct a ham h hm hoa ho es ▸ hr)).congr e1
  | del h y e ho e1 e2 _ hy =>
    rw [e2]
    exact (hJ.del_owner e ho y hy).congr e1
  | new i y hf hi hnone e1 e2 _ hy =>
    rw [e2]
    exact (hJ.put_owner (.created 0 none) (by decide) i r y hi hy (fun h hm hr => absurd hr (hf h hm))
      fun h hm _ ho => hJ.owner_ne_free hm ho hnone).congr e1

theorem J_step {w : World} (hJ : J w.1 w.2) (op : Op) : J (step w op).1.1 (step w op).1.2 := by
  cases ho : op.ownerReg with
  | some r => exact J_of_ownerShape hJ (step_ownerShape hJ op r ho).1
  | none =>
    cases op <;> cases ho
    · next τ =>
      rcases txNext_cases w τ with h | ⟨i, hf, _, hst, _, h⟩ <;> rw [h]
      · exact hJ
      · -- `Sendable → Sending` stays in class 2, and the handle put into `τ` is a TX-side one: the owners stay
        exact (hJ.move i _ (by rw [hst]; rfl)).of_owners (regs_putH hJ.regs _) fun x hx => by
          rw [mem_putH]
          exact ⟨fun h => h.elim (fun ex => absurd (ex ▸ rfl) hx) (·.1), fun h => .inr ⟨h, hf x h⟩⟩
    · next τ o =>
      -- dropping the TX-side handle in `τ` removes no owner
      have del : ∀ {s : Sys} {k : Nat}, J s w.2 → getH w.2 τ = some ⟨τ, k, .sendable⟩ → J s (delH w.2 τ) :=
        fun hJ e =>
        hJ.of_owners (regs_delH hJ.regs τ) fun x hx => by
          rw [mem_delH]
          exact ⟨(·.1), fun hm => ⟨hm, fun hxr =>
            hx (regs_inj hJ.regs hm (getH_some e).1 (hxr.trans (getH_some e).2.symm) ▸ rfl)⟩⟩
      rcases txSend_cases w τ o with ⟨_, h⟩ | ⟨k, e, ⟨hst, h⟩ | ⟨_, h⟩⟩ <;> rw [h]
      · exact hJ
      · exact del (hJ.move k _ (by rw [hst]; dsimp only; split <;> rfl)) e
      · exact del hJ e
    · next b =>
      simp only [step, opRx]
      rcases receiveFrame_effect w.1 b with ⟨h, _⟩ | ⟨k, _, hst, ⟨p, h⟩ | h⟩ <;> rw [h]
      · exact hJ
      · exact hJ.move k _ (by rw [hst]; rfl)
      · exact hJ.move k _ (by rw [hst]; rfl)
    · exact hJ.congr rfl
    · simp only [step]
      split
      · next he =>
        simp only [List.isEmpty_iff] at he
        simp only [opReset, he]
        exact .of_free (by simpa [Sys.n] using hJ.pos) (reset_slot_none w.1)
      · exact hJ
    · exact hJ

theorem J_run {w : World} (hJ : J w.1 w.2) (ops : List Op) : J (run w ops).1 (run w ops).2 := by
  induction ops generalizing w with
  | nil => exact hJ
  | cons op ops ih => exact ih (J_step hJ op)

theorem init_slot (n data fi pi i : Nat) : ((World.init n data fi pi).1.slot i).st = .none := by
  simp only [World.init, Sys.init, Sys.slot, List.getD_eq_getElem?_getD, List.getElem?_replicate]
  split <;> rfl

theorem J_init (n data fi pi : Nat) (hn : 0 < n) : J (World.init n data fi pi).1 (World.init n data fi pi).2 :=
  .of_free (by simpa [World.init, Sys.init, Sys.n] using hn) (init_slot n data fi pi)

theorem J_reach {n data : Nat} {w : World} (hn : 0 < n) (h : Reach n data w) : J w.1 w.2 := by
  obtain ⟨fi, pi, ops, rfl⟩ := h
  exact J_run (J_init n data fi pi hn) ops

theorem n_step {w : World} (hJ : J w.1 w.2) (op : Op) : (step w op).1.1.n = w.1.n := by
  rcases step_edge hJ op with ⟨k, y, e, _⟩ | ⟨_, e⟩
  · rw [n_congr e, n_setSlot]
  · simp [Sys.n, e]

theorem n_run {w : World} (hJ : J w.1 w.2) (ops : List Op) : (run w ops).1.n = w.1.n := by
  induction ops generalizing w with
  | nil => rfl
  | cons op ops ih => rw [run_cons, ih (J_step hJ op), n_step hJ]

theorem Reach.n_eq {n data : Nat} {w : World} (hn : 0 < n) (h : Reach n data w) : w.1.n = n := by
  obtain ⟨fi, pi, ops, rfl⟩ := h
  rw [n_run (J_init n data fi pi hn)]; simp [World.init, Sys.init, Sys.n]

/-- An operation on the owner handle in `r'` leaves another owner's slot alone, and the TX-side handles. -/
theorem OwnerShape.frame {v v' : World} {op : Op} {r' : Nat} (hs : OwnerShape v op r' v') (hJ : J v.1 v.2)
    {h : Hd} (hm : h ∈ v.2) (ho : h.kind.cls ≠ 4) (hne : h.reg ≠ r') :
    v'.1.slot h.slot = v.1.slot h.slot ∧ (∀ x : Hd, x.kind = .sendable → (x ∈ v'.2 ↔ x ∈ v.2)) := by
  -- the handle in `r'` is another owner, so it holds another slot, and it is no TX-side handle
  have hsl : ∀ {h' : Hd}, getH v.2 r' = some h' → h'.kind.cls ≠ 4 → h.slot ≠ h'.slot := fun e ho' es =>
    hne (hJ.distinct h hm _ (getH_some e).1 ho ho' es ▸ (getH_some e).2)
  have htx : ∀ {h' : Hd}, getH v.2 r' = some h' → h'.kind.cls ≠ 4 → ∀ x ∈ v.2, x.kind = .sendable → x.reg ≠ r' :=
    fun e ho' x hxm hx hxr =>
      ho' (by rw [← regs_inj hJ.regs hxm (getH_some e).1 (hxr.trans (getH_some e).2.symm), hx]; rfl)
  cases hs with
  | same e1 e2 => exact ⟨slot_congr e1 _, fun x _ => by rw [e2]⟩
  | upd h' K y e ho' e1 e2 _ hK =>
    refine ⟨by rw [slot_congr e1, slot_setSlot_ne _ _ _ _ (hsl e ho')], fun x hx => ?_⟩
    rw [e2, mem_putH]
    refine ⟨fun hx' => hx'.elim (fun ex => ?_) (·.1), fun hxm => .inr ⟨hxm, htx e ho' x hxm hx⟩⟩
    have := y.st.cls_lt
    rw [ex] at hx
    dsimp only at hx
    rw [hx] at hK
    exact absurd hK (Nat.ne_of_lt this)
  | del h' y e ho' e1 e2 _ _ =>
    refine ⟨by rw [slot_congr e1, slot_setSlot_ne _ _ _ _ (hsl e ho')], fun x hx => ?_⟩
    rw [e2, mem_delH]
    exact ⟨(·.1), fun hxm => ⟨hxm, htx e ho' x hxm hx⟩⟩
  | new i y hfree hi hnone e1 e2 _ _ =>
    refine ⟨by rw [slot_congr e1, slot_setSlot_ne _ _ _ _ (hJ.owner_ne_free hm ho hnone)], fun x hx => ?_⟩
    rw [e2, mem_putH]
    exact ⟨fun hx' => hx'.elim (fun ex => by rw [ex] at hx; cases hx) (·.1), fun hxm => .inr ⟨hxm, hfree x hxm⟩⟩

theorem OwnerShape.getH_other {v v' : World} {op : Op} {r' : Nat} (hs : OwnerShape v op r' v')
    {r : Nat} (hne : r ≠ r') : getH v'.2 r = getH v.2 r := by
  cases hs with
  | same _ e2 => rw [e2]
  | upd _ _ _ _ _ _ e2 => rw [e2]; exact getH_putH_other _ _ hne
  | del _ _ _ _ _ e2 => rw [e2]; exact getH_delH_other _ hne
  | new _ _ _ _ _ _ e2 => rw [e2]; exact getH_putH_other _ _ hne

theorem getH_step_other {v : World} (hJ : J v.1 v.2) (op : Op) {ρ : Nat} (hop : op.reg ≠ some ρ) :
    getH (step v op).1.2 ρ = getH v.2 ρ := by
  cases ho : op.ownerReg with
  | some r' => exact (step_ownerShape hJ op r' ho).1.getH_other (fun e => hop (e ▸ Op.reg_of_ownerReg ho))
  | none =>
    cases op with
    | txNext τ =>
      rcases txNext_cases v τ with e | ⟨_, _, _, _, _, e⟩ <;> rw [e]
      exact getH_putH_other _ _ (fun e' => hop (e' ▸ rfl))
    | txSend τ o =>
      rcases txSend_cases v τ o with ⟨_, e⟩ | ⟨_, _, ⟨_, e⟩ | ⟨_, e⟩⟩ <;> rw [e] <;>
        exact getH_delH_other _ (fun e' => hop (e' ▸ rfl))
    | reset => simp only [step]; split <;> rfl
    | rx | advance | snap => rfl
    | _ => cases ho

/-- **Owner frame lemma**: in a world satisfying `J`, an operation that does not act on the register
    of an owner handle `h` leaves `h`'s slot (state, marker, length, every byte) and `h` itself
    untouched — provided the slot is not one the TX or RX side may move (`Sendable`, `Sending`,
    `Sent`), which is the case for `Created` and `RxProcessing` slots. -/
theorem step_frame_owner {v : World} (hJ : J v.1 v.2) {h : Hd} (hm : h ∈ v.2) (ho : h.kind.cls ≠ 4)
    (hq : (v.1.slot h.slot).st ≠ .sendable ∧ (v.1.slot h.slot).st ≠ .sending ∧ (v.1.slot h.slot).st ≠ .sent)
    (op : Op) (hop : op.reg ≠ some h.reg) :
    (step v op).1.1.slot h.slot = v.1.slot h.slot ∧ getH (step v op).1.2 h.reg = some h := by
  refine ⟨?_, (getH_step_other hJ op hop).trans (getH_of_mem hJ.regs hm)⟩
  cases ho' : op.ownerReg with
  | some r' =>
    exact ((step_ownerShape hJ op r' ho').1.frame hJ hm ho (fun e => hop (e ▸ Op.reg_of_ownerReg ho'))).1
  | none =>
    -- the TX and RX side move only `Sendable`, `Sending` and `Sent` slots
    rcases step_edge hJ op with ⟨k', y, e, hE, _⟩ | ⟨rfl, _⟩
    · rw [slot_congr e, slot_setSlot]
      split
      · next hk =>
        rw [hk.1] at hq
        cases hE with
        | same => exact hk.1 ▸ rfl
        | claimSending _ _ hs => exact absurd hs hq.1
        | sent _ _ _ hs => exact absurd hs hq.2.1
        | rxBusy _ _ hs | rxDone _ _ _ hs => exact absurd hs hq.2.2
        | dropReceived _ _ _ hr => rw [ho'] at hr; cases hr
        | _ => cases ho'
      · rfl
    · -- reset is disabled while a handle is alive
      have : v.2 ≠ [] := fun e' => by rw [e'] at hm; cases hm
      simp [step, this]

end Ec
