/-
  Lemmas for C17: the delays on pure chains. What the loop computes on a chain-shaped device
  list (`chainFold`), and that on a symmetric physical chain this is the true delay (`chainTruth`).
-/
import EcModel.Lemmas.DcTree
namespace Ec.Dc
open Ec Ec.DcSpec

/-- `ports.total_propagation_time().unwrap_or(0)` -/
def Dev.prop (d : Dev) : Nat := d.ports.totalPropTime.getD 0

/-- Delays along a chain: every DC device adds half the difference between its upstream
    neighbour's loop time and its own (saturating at `u32::MAX`). -/
def chainFold : Nat → Nat → List Dev → List Nat
  | _, _, [] => []
  | prevProp, accum, d :: ds =>
    if d.dc then
      Nat.min (accum + (prevProp - d.prop) / 2) U32_MAX ::
        chainFold d.prop (Nat.min (accum + (prevProp - d.prop) / 2) U32_MAX) ds
    else d.delay :: chainFold d.prop accum ds

/-- The accumulator after, and the delay of, a device behind a neighbour with loop time `prevProp`. -/
def chainAcc (prevProp accum : Nat) (d : Dev) : Nat :=
  if d.dc then Nat.min (accum + (prevProp - d.prop) / 2) U32_MAX else accum
def chainDelay (prevProp accum : Nat) (d : Dev) : Nat :=
  if d.dc then chainAcc prevProp accum d else d.delay

theorem chainFold_cons (pl acc : Nat) (d : Dev) (ds : List Dev) :
    chainFold pl acc (d :: ds) = chainDelay pl acc d :: chainFold d.prop (chainAcc pl acc d) ds := by
  rw [chainFold]
  unfold chainDelay chainAcc
  split <;> rfl

theorem devStep_passthrough (m : Mode) (sd par : Dev) (ps : List Dev) (accum : Nat) (pi : Nat)
    (hsd : Good sd) (hp : sd.parent = some pi) (hfind : ps.find? (fun p => p.index == pi) = some par)
    (hass : ∃ k, par.ports.assignedTo sd.index = some k)
    (hpt : par.ports.topology = .ok .passthrough) :
    devStep m sd ps accum
      = .ok ({ sd with delay := chainDelay par.prop accum sd }, chainAcc par.prop accum sd) := by
  unfold devStep chainDelay chainAcc
  split
  · unfold configureOffsets
    rcases topology_ok sd.ports hsd.1 with ⟨t, ht⟩
    rcases entryPort_ok sd.ports hsd.1 with ⟨e, he, _⟩
    rcases hass with ⟨k, hk⟩
    simp only [ht, hp, Option.bind_some, hfind, hk, he, hpt, isChildOf, Dev.prop]
  · rfl

theorem devStep_first (m : Mode) (sd : Dev) (ps : List Dev) (accum : Nat) (hsd : Good sd)
    (hp : sd.parent = none) : devStep m sd ps accum = .ok (sd, accum) := by
  unfold devStep
  split
  · unfold configureOffsets
    rcases topology_ok sd.ports hsd.1 with ⟨t, ht⟩
    simp only [ht, hp, Option.bind_none]
  · rfl

theorem chain_step (m : Mode) (pre : List Dev) (prev sd : Dev) (k : Nat) (accum : Nat) (rest : List Dev)
    (hidx : Indexed 0 (pre ++ [prev])) (hsdi : sd.index = pre.length + 1)
    (hprev : Good2 prev) (hpt : prev.ports.topology = .ok .passthrough) (hk : FirstFree prev.ports k)
    (hsd : Good sd) :
    assignLoop m (pre ++ [prev]) accum (sd :: rest) =
      assignLoop m
        (pre ++ [{ prev with ports := prev.ports.setDownstream k (some sd.index) }] ++
          [{ sd with parent := some prev.index, delay := chainDelay prev.prop accum sd }])
        (chainAcc prev.prop accum sd) rest := by
  have h2 := (indexed_append pre [prev] 0).1 hidx
  have hpi : prev.index = 0 + pre.length := h2.2.1
  have hpre : ∀ x ∈ pre, x.index ≠ prev.index := fun x hx => by
    have := indexed_mem pre 0 h2.1 x hx; omega
  have hfp : findParent (pre ++ [prev]) = .ok (some prev.index) :=
    List.append_nil (pre ++ [prev]) ▸ findParent_phase pre [] prev .passthrough hpt (fun _ h => by cases h)
      (fun _ h => by cases h) (by decide) (fun h => absurd rfl h)
  have hass : assignStep (pre ++ [prev]) (some prev.index) sd.index
      = .ok (pre ++ [{ prev with ports := prev.ports.setDownstream k (some sd.index) }]) := by
    simpa [assignStep] using assignOnParent_phase pre [] prev k sd.index hpre (by omega) hprev.2 hk
  obtain ⟨par, hfind, hk'⟩ := assignStep_parent hass
  have hf : (pre ++ [{ prev with ports := prev.ports.setDownstream k (some sd.index) }]).find?
      (fun p => p.index == prev.index) = some { prev with ports := prev.ports.setDownstream k (some sd.index) } :=
    List.find?_eq_some_iff_append.2 ⟨beq_self_eq_true _, pre, [], rfl, fun x hx => by simpa using hpre x hx⟩
  cases hfind.symm.trans hf
  have hc := devStep_passthrough m { sd with parent := some prev.index } _ _ accum prev.index hsd rfl hfind hk'
    (by rw [topology_setDownstream]; exact hpt)
  rw [show Dev.prop { prev with ports := prev.ports.setDownstream k (some sd.index) } = prev.prop by
    simp only [Dev.prop, totalPropTime_setDownstream]] at hc
  simp only [assignLoop_cons, hfp, andThen, hass, hc]
  rfl

/-- A pure chain as the MainDevice sees it: every device but the last is a passthrough whose
    downstream slot is still unassigned; all have port 0 as entry port. -/
def ChainDevs : List Dev → Prop
  | [] => True
  | [d] => Good2 d
  | d :: d' :: ds =>
    Good2 d ∧ d.ports.topology = .ok .passthrough ∧ (∃ k, FirstFree d.ports k) ∧ ChainDevs (d' :: ds)

theorem chainDevs_ports (d d' : Dev) (ds : List Dev) (hp : d'.ports = d.ports) (h : ChainDevs (d :: ds)) :
    ChainDevs (d' :: ds) := by
  cases ds <;> simpa only [ChainDevs, Good2, Good, hp] using h

theorem chainDevs_all (d : Dev) (ds : List Dev) (h : ChainDevs (d :: ds)) : ∀ x ∈ d :: ds, Good2 x := by
  induction ds generalizing d with
  | nil => intro x hx; cases List.mem_singleton.1 hx; exact h
  | cons y ys ih =>
    intro x hx
    rcases List.mem_cons.1 hx with rfl | hx
    · exact h.1
    · exact ih y h.2.2.2 x hx

theorem chain_loop (m : Mode) (rest : List Dev) :
    ∀ (pre : List Dev) (prev : Dev) (accum : Nat),
    Indexed 0 (pre ++ [prev]) → Indexed (pre.length + 1) rest → ChainDevs (prev :: rest) →
    ∃ out, assignLoop m (pre ++ [prev]) accum rest = .ok out ∧
      out.map (·.delay) = pre.map (·.delay) ++ [prev.delay] ++ chainFold prev.prop accum rest := by
  induction rest with
  | nil => exact fun pre prev accum _ _ _ => ⟨pre ++ [prev], rfl, by simp [chainFold]⟩
  | cons sd rest ih =>
    intro pre prev accum hidx hrest hchain
    rcases hchain with ⟨hprev, hpt, ⟨k, hk⟩, hchain'⟩
    rcases hrest with ⟨hsdi, hrest'⟩
    rw [chain_step m pre prev sd k accum rest hidx hsdi hprev hpt hk (chainDevs_all sd rest hchain' sd (List.mem_cons_self ..)).1,
      chainFold_cons]
    have hidx' : Indexed 0 (pre ++ [{ prev with ports := prev.ports.setDownstream k (some sd.index) }] ++
        [{ sd with parent := some prev.index, delay := chainDelay prev.prop accum sd }]) := by
      rw [indexed_append] at hidx ⊢
      rw [indexed_append]
      exact ⟨⟨hidx.1, hidx.2⟩, by simp [Indexed, hsdi]⟩
    rcases ih _ _ (chainAcc prev.prop accum sd) hidx' (by simpa using hrest')
      (chainDevs_ports sd _ rest rfl hchain') with ⟨out, ho, hd⟩
    exact ⟨out, ho, by rw [hd]; simp [Dev.prop]⟩

/-- `c` is the one downstream subtree of a chain device, on whichever port (`.none`: line end). -/
def OnlyChild (c c3 c1 c2 : Tree) : Prop :=
  (c3 = c ∧ c1 = .none ∧ c2 = .none) ∨ (c3 = .none ∧ c1 = c ∧ c2 = .none) ∨ (c3 = .none ∧ c1 = .none ∧ c2 = c)

theorem noJunction_onlyChild (p : Params) (c3 c1 c2 : Tree) (h : NoJunction (.node p c3 c1 c2)) :
    ∃ c, OnlyChild c c3 c1 c2 ∧ NoJunction c := by
  rcases h with ⟨hk, h3, h1, h2⟩
  match c3, c1, c2, hk, h3, h1, h2 with
  | c, .none, .none, _, h, _, _ => exact ⟨c, .inl ⟨rfl, rfl, rfl⟩, h⟩
  | .none, c, .none, _, _, h, _ => exact ⟨c, .inr (.inl ⟨rfl, rfl, rfl⟩), h⟩
  | .none, .none, c, _, _, _, h => exact ⟨c, .inr (.inr ⟨rfl, rfl, rfl⟩), h⟩
  | .node .., .node .., _, hk, _, _, _ | .node .., _, .node .., hk, _, _, _ | _, .node .., .node .., hk, _, _, _ =>
    simp only [Tree.isNode, Bool.toNat_true] at hk; omega

theorem chain_induction {P : Tree → Prop} (h0 : P .none)
    (hs : ∀ p c3 c1 c2 c, OnlyChild c c3 c1 c2 → NoJunction c → P c → P (.node p c3 c1 c2)) :
    ∀ T, NoJunction T → P T := by
  intro T
  induction T with
  | none => exact fun _ => h0
  | node p c3 c1 c2 ih3 ih1 ih2 =>
    intro hj
    obtain ⟨c, hc, hjc⟩ := noJunction_onlyChild p c3 c1 c2 hj
    refine hs p c3 c1 c2 c hc hjc ?_
    rcases hc with ⟨rfl, -, -⟩ | ⟨-, rfl, -⟩ | ⟨-, -, rfl⟩
    · exact ih3 hjc
    · exact ih1 hjc
    · exact ih2 hjc

/-- Loop time of a chain device: from the frame's arrival at port 0 to its return at the one
    downstream port (0 for the line end). -/
def loopT : Tree → Nat → Nat
  | .none, _ => 0
  | .node p c3 c1 c2, tin =>
    if c3.isNode then ret3 p c3 tin - tin
    else if c1.isNode then ret1 p c3 c1 tin - tin
    else if c2.isNode then ret2 p c3 c1 c2 tin - tin
    else 0

/-- A chain device seen from its one downstream subtree `c`, which the frame enters at
    `tin + p.pd + c.link`: whichever port carries `c`, everything reads the same. -/
theorem chain_node {c c3 c1 c2 : Tree} (h : OnlyChild c c3 c1 c2) (p : Params) (b tin : Nat) :
    devsOf (.node p c3 c1 c2) b tin = rootDev p c3 c1 c2 b tin :: devsOf c (b + 1) (tin + p.pd + c.link) ∧
    (∀ ref, chainTruth (.node p c3 c1 c2) ref tin = (if p.dc = 0 then 0 else tin - ref.getD tin) ::
        chainTruth c (if p.dc = 0 then ref else some (ref.getD tin)) (tin + p.pd + c.link)) ∧
    loopT (.node p c3 c1 c2) tin = (if c.isNode then leave c (tin + p.pd + c.link) + c.link - tin else 0) ∧
    leave (.node p c3 c1 c2) tin = (if c.isNode then leave c (tin + p.pd + c.link) + c.link + p.fd else tin + p.pd) ∧
    retDelay (.node p c3 c1 c2) = (if c.isNode then p.fd else p.pd) ∧
    (NoWrap (.node p c3 c1 c2) tin → NoWrap c (tin + p.pd + c.link)) ∧
    (Symmetric (.node p c3 c1 c2) → (c.isNode = true → p.pd = retDelay c) ∧ Symmetric c) := by
  rcases h with ⟨rfl, rfl, rfl⟩ | ⟨rfl, rfl, rfl⟩ | ⟨rfl, rfl, rfl⟩ <;>
    simp [devsOf_node, devsOf_none, chainTruth, loopT, leave, retDelay, NoWrap, Symmetric, ret3, ret1, ret2,
      out3, out1, isNode_none, link_none, size_none, visit_snd]

theorem tree_none_of_not_node (T : Tree) (h : ¬ T.isNode = true) : T = .none := by
  cases T with
  | none => rfl
  | node _ _ _ _ => exact absurd rfl h

theorem leave_chain {c c3 c1 c2 : Tree} (h : OnlyChild c c3 c1 c2) (p : Params) (t : Nat) :
    leave (.node p c3 c1 c2) t = t + loopT (.node p c3 c1 c2) t + retDelay (.node p c3 c1 c2) := by
  obtain ⟨-, -, hl, hv, hr, -⟩ := chain_node h p 0 t
  have := leave_ge c (t + p.pd + c.link)
  rw [hl, hv, hr]
  split <;> omega

theorem rootDev_delay (p : Params) (c3 c1 c2 : Tree) (b tin : Nat) : (rootDev p c3 c1 c2 b tin).delay = 0 := rfl

theorem rootDev_dc (p : Params) (c3 c1 c2 : Tree) (b tin : Nat) (hdc : p.dc ≠ 0) :
    (rootDev p c3 c1 c2 b tin).dc = true := by
  simp only [rootDev, mkReport, hdc, if_false, devOfReport]

theorem rootDev_nondc (p : Params) (c3 c1 c2 : Tree) (b tin : Nat) (hdc : p.dc = 0) :
    (rootDev p c3 c1 c2 b tin).dc = false ∧ (rootDev p c3 c1 c2 b tin).prop = 0 := by
  simp only [rootDev, mkReport, hdc, if_true, devOfReport, Ports.ofNumbered, Dev.prop, Ports.totalPropTime,
    Ports.toList, true_and]
  cases c3.isNode <;> cases c1.isNode <;> cases c2.isNode <;> rfl

theorem spanOf_pair (a b : Nat) (h : a ≤ b) : (spanOf [a, b]).getD 0 = b - a := by
  simp only [spanOf, List.foldl, Nat.max_eq_right h, Nat.min_eq_left h]
  split <;> simp <;> omega

/-- Loop time the code reads off the latched port times of a DC chain device = physical loop time. -/
theorem rootDev_prop {c c3 c1 c2 : Tree} (h : OnlyChild c c3 c1 c2) (p : Params) (b tin : Nat) (hdc : p.dc ≠ 0)
    (hw : RootNoWrap p c3 c1 c2 tin) :
    (rootDev p c3 c1 c2 b tin).prop = loopT (.node p c3 c1 c2) tin := by
  rcases ret_ge_of p c3 c1 c2 tin (leave_ge c3) (leave_ge c1) (leave_ge c2) with ⟨g3, g1, g2, _⟩
  rcases hw hdc with ⟨w3, w1, w2⟩
  simp only [rootDev, mkReport, hdc, if_false, devOfReport, Ports.ofNumbered, Dev.prop, Ports.totalPropTime,
    Ports.toList, loopT]
  by_cases hc : c.isNode = true
  · rcases h with ⟨rfl, rfl, rfl⟩ | ⟨rfl, rfl, rfl⟩ | ⟨rfl, rfl, rfl⟩ <;>
      simp only [hc, isNode_none, if_true, List.filter, List.map]
    · rw [local32_add p tin _ g3 (w3 hc), spanOf_pair _ _ (Nat.le_add_right _ _), Nat.add_sub_cancel_left]
    · rw [local32_add p tin _ g1 (w1 hc), spanOf_pair _ _ (Nat.le_add_right _ _), Nat.add_sub_cancel_left]; rfl
    · rw [local32_add p tin _ g2 (w2 hc), spanOf_pair _ _ (Nat.le_add_right _ _), Nat.add_sub_cancel_left]; rfl
  · cases tree_none_of_not_node c hc
    obtain ⟨rfl, rfl, rfl⟩ : c3 = .none ∧ c1 = .none ∧ c2 = .none := by
      rcases h with ⟨rfl, rfl, rfl⟩ | ⟨rfl, rfl, rfl⟩ | ⟨rfl, rfl, rfl⟩ <;> exact ⟨rfl, rfl, rfl⟩
    simp [isNode_none, spanOf]

theorem rootDev_passthrough {c c3 c1 c2 : Tree} (h : OnlyChild c c3 c1 c2) (hc : c.isNode = true)
    (p : Params) (b tin : Nat) :
    (rootDev p c3 c1 c2 b tin).ports.topology = .ok .passthrough ∧
    ∃ k, FirstFree (rootDev p c3 c1 c2 b tin).ports k := by
  obtain ⟨t0, t1, t2, t3, hp⟩ : ∃ t0 t1 t2 t3, (rootDev p c3 c1 c2 b tin).ports =
      ⟨⟨true, t0, none⟩, ⟨c3.isNode, t1, none⟩, ⟨c1.isNode, t2, none⟩, ⟨c2.isNode, t3, none⟩⟩ := by
    unfold rootDev mkReport; split <;> exact ⟨_, _, _, _, rfl⟩
  rw [hp]
  cases c with
  | none => cases hc
  | node _ _ _ _ =>
    rcases h with ⟨rfl, rfl, rfl⟩ | ⟨rfl, rfl, rfl⟩ | ⟨rfl, rfl, rfl⟩
    · exact ⟨rfl, 1, .inl ⟨rfl, rfl, rfl⟩⟩
    · exact ⟨rfl, 2, .inr (.inl ⟨rfl, rfl, rfl, fun h => by cases h⟩)⟩
    · exact ⟨rfl, 3, .inr (.inr ⟨rfl, rfl, rfl, fun h => (by cases h), fun h => by cases h⟩)⟩

theorem devsOf_chain (S : Tree) (hj : NoJunction S) : ∀ b tin, NoWrap S tin → ChainDevs (devsOf S b tin) := by
  refine chain_induction (P := fun S => ∀ b tin, NoWrap S tin → ChainDevs (devsOf S b tin))
    (fun _ _ _ => trivial) ?_ S hj
  intro p c3 c1 c2 c hc hjc ih b tin hw
  obtain ⟨hdevs, -, -, -, -, hwc, -⟩ := chain_node hc p b tin
  have hg := rootDev_good p c3 c1 c2 b tin ((noWrap_node p c3 c1 c2 tin).1 hw).1
  have hih := ih (b + 1) _ (hwc hw)
  rw [hdevs]
  cases c with
  | none => exact hg
  | node p' a b' d =>
    rw [devsOf_node] at hih ⊢
    have hp := rootDev_passthrough hc rfl p b tin
    exact ⟨hg, hp.1, hp.2, hih⟩

/-- On a symmetric chain, half the difference of the loop times of two neighbours is the one-way
    delay between them: what the downstream neighbour `c` (entered at `tc`) adds to the accumulator. -/
theorem chain_hop (p : Params) (c : Tree) (loopS tinS tc tin0 : Nat)
    (hc : c.isNode = true) (hjc : NoJunction c)
    (h0 : tin0 ≤ tinS) (htc : tc = tinS + p.pd + c.link)
    (hloop : loopS = leave c tc + c.link - tinS)
    (hsym : p.pd = retDelay c) :
    (tinS - tin0) + (loopS - loopT c tc) / 2 = tc - tin0 := by
  cases c with
  | none => cases hc
  | node p' a b' d =>
    obtain ⟨c', hc', -⟩ := noJunction_onlyChild p' a b' d hjc
    have hl := leave_chain hc' p' tc
    have e : loopS = loopT (.node p' a b' d) tc + 2 * (p.pd + (Tree.node p' a b' d).link) := by omega
    rw [e, Nat.add_sub_cancel_left, Nat.mul_div_cancel_left _ (by decide)]
    omega

/-- What the fold needs to know about the upstream neighbour, per phase of `DcContig`: before the DC
    block nothing has been accumulated; inside it the accumulator is the delay from the first DC
    device (`ref`), everything fits in `u32`, and this device, if it has DC, will be given its true delay. -/
def PhaseOk (ph : Nat) (S : Tree) (tinS acc parentLoop : Nat) (ref : Option Nat) : Prop :=
  (ph = 0 → ref = none ∧ acc = 0 ∧ parentLoop = 0) ∧
  (ph = 1 → ∃ tin0, ref = some tin0 ∧ tin0 ≤ tinS ∧ leave S tinS - tin0 ≤ U32_MAX ∧
      acc + (parentLoop - loopT S tinS) / 2 = tinS - tin0)

def nextPhase (p : Params) (ph : Nat) : Nat := if p.dc = 0 then (if ph = 0 then 0 else 2) else 1

theorem nextPhase_eq_zero {p : Params} {ph : Nat} : nextPhase p ph = 0 ↔ p.dc = 0 ∧ ph = 0 := by
  unfold nextPhase
  split
  · split <;> omega
  · omega

theorem nextPhase_eq_one {p : Params} {ph : Nat} : nextPhase p ph = 1 ↔ p.dc ≠ 0 := by
  unfold nextPhase
  split
  · split <;> omega
  · omega

theorem contig_child {c c3 c1 c2 : Tree} (hc : OnlyChild c c3 c1 c2) (p : Params) (ph : Nat)
    (h : DcContig (.node p c3 c1 c2) ph) : DcContig c (nextPhase p ph) := by
  have : DcContig c3 (nextPhase p ph) ∧ DcContig c1 (nextPhase p ph) ∧ DcContig c2 (nextPhase p ph) := by
    unfold nextPhase
    by_cases hdc : p.dc = 0
    · simpa [DcContig, hdc] using h
    · simp only [DcContig, hdc, if_false] at h ⊢
      exact h.2
  rcases hc with ⟨rfl, -, -⟩ | ⟨-, rfl, -⟩ | ⟨-, -, rfl⟩
  · exact this.1
  · exact this.2.1
  · exact this.2.2

theorem phaseOk_dc {ph : Nat} {S : Tree} {t acc pl : Nat} {ref : Option Nat} (h : PhaseOk ph S t acc pl ref)
    (hph : ph = 0 ∨ ph = 1) (hL : loopT S t < U32) :
    ref.getD t ≤ t ∧ acc + (pl - loopT S t) / 2 = t - ref.getD t ∧
    ∀ x, x ≤ leave S t → x ≤ t + loopT S t → x - ref.getD t ≤ U32_MAX := by
  have hM : U32_MAX = 4294967295 := rfl
  have hU : U32 = 4294967296 := rfl
  rcases hph with rfl | rfl
  · rcases h.1 rfl with ⟨rfl, rfl, rfl⟩
    exact ⟨Nat.le_refl _, by simp, fun x _ hx => by simp only [Option.getD_none]; omega⟩
  · rcases h.2 rfl with ⟨tin0, rfl, h0, hfit, hacc⟩
    exact ⟨h0, hacc, fun x hx _ => by simp only [Option.getD_some]; omega⟩

theorem loopT_lt (p : Params) (c3 c1 c2 : Tree) (t : Nat)
    (hw : (c3.isNode = true → local32 p t + (ret3 p c3 t - t) < U32) ∧
      (c1.isNode = true → local32 p t + (ret1 p c3 c1 t - t) < U32) ∧
      (c2.isNode = true → local32 p t + (ret2 p c3 c1 c2 t - t) < U32)) :
    loopT (.node p c3 c1 c2) t < U32 := by
  simp only [loopT]
  split
  · exact Nat.lt_of_le_of_lt (Nat.le_add_left _ _) (hw.1 ‹_›)
  · split
    · exact Nat.lt_of_le_of_lt (Nat.le_add_left _ _) (hw.2.1 ‹_›)
    · split
      · exact Nat.lt_of_le_of_lt (Nat.le_add_left _ _) (hw.2.2 ‹_›)
      · decide

theorem chain_truth (S : Tree) (hj : NoJunction S) : Symmetric S →
    ∀ (ph b tinS acc parentLoop : Nat) (ref : Option Nat), DcContig S ph → NoWrap S tinS →
    PhaseOk ph S tinS acc parentLoop ref →
    chainFold parentLoop acc (devsOf S b tinS) = chainTruth S ref tinS := by
  refine chain_induction (P := fun S => Symmetric S → ∀ (ph b tinS acc parentLoop : Nat) (ref : Option Nat),
    DcContig S ph → NoWrap S tinS → PhaseOk ph S tinS acc parentLoop ref →
    chainFold parentLoop acc (devsOf S b tinS) = chainTruth S ref tinS) ?_ ?_ S hj
  · intro _ ph b t acc pl ref _ _ _; rfl
  · intro p c3 c1 c2 c hc hjc ih hsym ph b t acc pl ref hcontig hw hph
    obtain ⟨hdevs, htruth, hloop, hleave, -, hwc, hsymc⟩ := chain_node hc p b t
    obtain ⟨hs, hsc⟩ := hsymc hsym
    have hroot := ((noWrap_node p c3 c1 c2 t).1 hw).1
    have hge := leave_ge c (t + p.pd + c.link)
    rw [hdevs, htruth, chainFold_cons]
    -- the rest of the chain, once the next phase is established
    have tail : ∀ acc' pl' ref',
        (c.isNode = true → PhaseOk (nextPhase p ph) c (t + p.pd + c.link) acc' pl' ref') →
        chainFold pl' acc' (devsOf c (b + 1) (t + p.pd + c.link)) = chainTruth c ref' (t + p.pd + c.link) := by
      intro acc' pl' ref' h
      by_cases hcn : c.isNode = true
      · exact ih hsc _ _ _ _ _ _ (contig_child hc p ph hcontig) (hwc hw) (h hcn)
      · rw [tree_none_of_not_node c hcn]; rfl
    by_cases hdc : p.dc = 0
    · -- no DC: delay 0, nothing accumulated, loop time 0 handed on
      obtain ⟨h1, h3⟩ := rootDev_nondc p c3 c1 c2 b t hdc
      simp only [chainDelay, chainAcc, h1, h3, rootDev_delay, hdc, if_true, Bool.false_eq_true, if_false]
      congr 1
      refine tail _ _ _ fun _ => ⟨fun h => ?_, fun h => ?_⟩
      · obtain ⟨href, hacc0, -⟩ := hph.1 (nextPhase_eq_zero.1 h).2
        exact ⟨href, hacc0, rfl⟩
      · exact absurd hdc (nextPhase_eq_one.1 h)
    · -- DC: this device gets its true delay, and so will the next DC device
      have hL : (rootDev p c3 c1 c2 b t).prop = loopT (.node p c3 c1 c2) t := rootDev_prop hc p b t hdc hroot
      obtain ⟨h0, hacc, hfit⟩ := phaseOk_dc hph (by simp only [DcContig, hdc, if_false] at hcontig; exact hcontig.1)
        (loopT_lt p c3 c1 c2 t (hroot hdc))
      have hval : Nat.min (acc + (pl - loopT (.node p c3 c1 c2) t) / 2) U32_MAX = t - ref.getD t := by
        rw [hacc]; exact Nat.min_eq_left (hfit t (leave_ge _ t) (Nat.le_add_right _ _))
      simp only [chainDelay, chainAcc, rootDev_dc p c3 c1 c2 b t hdc, if_true, hL, hval, hdc, if_false]
      congr 1
      refine tail _ _ _ fun hcn => ⟨fun h => ?_, fun _ => ⟨ref.getD t, rfl, ?_, ?_, ?_⟩⟩
      · exact absurd (nextPhase_eq_zero.1 h).1 hdc
      all_goals rw [hcn] at hloop hleave; simp only [if_true] at hloop hleave
      · omega
      · exact hfit _ (by omega) (by omega)
      · exact chain_hop p c _ t _ _ hcn hjc h0 rfl hloop (hs hcn)

theorem chainTruth_allDc (T : Tree) : AllDc T → ∀ r tin,
    chainTruth T (some r) tin = (arrivals T tin).1.map (· - r) := by
  induction T with
  | none => intro _ r tin; rfl
  | node p c3 c1 c2 ih3 ih1 ih2 =>
    rintro ⟨hp, a3, a1, a2⟩ r tin
    simp only [chainTruth, arrivals, hp, if_false, Option.getD_some, visit_snd, arrivals_snd, List.map_cons,
      List.map_append, ih3 a3, ih1 a1, ih2 a2]

theorem allDc_contig (T : Tree) : AllDc T → ∀ ph, ph = 0 ∨ ph = 1 → DcContig T ph := by
  induction T with
  | none => intro _ _ _; trivial
  | node p c3 c1 c2 ih3 ih1 ih2 =>
    rintro ⟨hp, a3, a1, a2⟩ ph hph
    simp only [DcContig, hp, if_false]
    exact ⟨hph, ih3 a3 1 (.inr rfl), ih1 a1 1 (.inr rfl), ih2 a2 1 (.inr rfl)⟩

end Ec.Dc
