/-
  Lemmas for C17 (Dc model): ports, the delay step, invariants of the loop of
  `assign_parent_relationships`, the i64 offset and the write loop.
-/
import EcModel.Dc
namespace Ec.Dc
open Ec

/-- `x`, then `f` on its value; errors and panics are passed on (the `match` ladders of the model). -/
def andThen {α β : Type} (x : Outcome Err α) (f : α → Outcome Err β) : Outcome Err β :=
  match x with
  | .ok a => f a
  | .err e => .err e
  | .panic w => .panic w

theorem andThen_eq_ok {α β : Type} {x : Outcome Err α} {f : α → Outcome Err β} {b : β} :
    andThen x f = .ok b ↔ ∃ a, x = .ok a ∧ f a = .ok b := by
  cases x <;> simp [andThen]

theorem andThen_ne_panic {α β : Type} {x : Outcome Err α} {f : α → Outcome Err β} {w : String}
    (hx : x ≠ .panic w) (hf : ∀ a, x = .ok a → f a ≠ .panic w) : andThen x f ≠ .panic w := by
  cases x with
  | ok a => exact hf a rfl
  | err e => intro h; cases h
  | panic w' => intro h; cases h; exact hx rfl

theorem openPorts_eq (p : Ports) :
    p.openPorts = p.a0.active.toNat + p.a1.active.toNat + p.a2.active.toNat + p.a3.active.toNat := by
  rcases p with ⟨⟨a0, _, _⟩, ⟨a1, _, _⟩, ⟨a2, _, _⟩, ⟨a3, _, _⟩⟩
  cases a0 <;> cases a1 <;> cases a2 <;> cases a3 <;> rfl

theorem openPorts_le (p : Ports) : p.openPorts ≤ 4 := List.length_filter_le _ p.indexed

theorem openPorts_pos (p : Ports) (h : p.a0.active = true) : 1 ≤ p.openPorts := by
  rw [openPorts_eq, h]; exact Nat.le_add_right_of_le (Nat.le_add_right_of_le (Nat.le_add_right 1 _))

theorem topology_ok (p : Ports) (h : 1 ≤ p.openPorts) : ∃ t, p.topology = .ok t := by
  have h4 := openPorts_le p
  unfold Ports.topology
  have : p.openPorts = 1 ∨ p.openPorts = 2 ∨ p.openPorts = 3 ∨ p.openPorts = 4 := by omega
  rcases this with e | e | e | e <;> rw [e] <;> exact ⟨_, rfl⟩

theorem minByTime_some {l : List (Nat × Port)} (h : l ≠ []) : ∃ e, minByTime l = some e ∧ e ∈ l := by
  induction l with
  | nil => exact absurd rfl h
  | cons x xs ih =>
    unfold minByTime
    cases hm : minByTime xs with
    | none => exact ⟨x, rfl, List.mem_cons_self ..⟩
    | some y =>
      have : xs ≠ [] := by intro e; subst e; cases hm
      rcases ih this with ⟨e, he, hmem⟩
      rw [hm] at he; cases he
      by_cases c : y.2.time < x.2.time
      · exact ⟨y, if_pos c, List.mem_cons_of_mem _ hmem⟩
      · exact ⟨x, if_neg c, List.mem_cons_self ..⟩

theorem entryPort_ok (p : Ports) (h : 1 ≤ p.openPorts) :
    ∃ e, p.entryPort = .ok e ∧ e ∈ p.activePorts := by
  have hne : p.activePorts ≠ [] := fun e => by rw [Ports.openPorts, e] at h; cases h
  rcases minByTime_some hne with ⟨e, he, hm⟩
  exact ⟨e, by rw [Ports.entryPort, he], hm⟩

theorem cycleSkipTake_subset {α : Type} (l : List α) (s n : Nat) : ∀ x ∈ cycleSkipTake l s n, x ∈ l := by
  intro x hx
  unfold cycleSkipTake at hx
  split at hx
  · cases hx
  · rcases List.mem_filterMap.1 hx with ⟨j, _, hj⟩
    exact List.mem_of_getElem? hj

def TimesOk (p : Ports) : Prop :=
  p.a0.time < U32 ∧ p.a1.time < U32 ∧ p.a2.time < U32 ∧ p.a3.time < U32

theorem openPorts_setDownstream (p : Ports) (i : Nat) (v : Option Nat) :
    (p.setDownstream i v).openPorts = p.openPorts := by
  unfold Ports.setDownstream
  split <;> simp only [Ports.openPorts, Ports.activePorts, Ports.indexed, ← List.countP_eq_length_filter,
    List.countP_cons, List.countP_nil]

theorem topology_setDownstream (p : Ports) (i : Nat) (v : Option Nat) :
    (p.setDownstream i v).topology = p.topology := by
  rw [Ports.topology, openPorts_setDownstream]; rfl

theorem totalPropTime_setDownstream (p : Ports) (i : Nat) (v : Option Nat) :
    (p.setDownstream i v).totalPropTime = p.totalPropTime := by
  have h : (p.setDownstream i v).toList.map (fun q => (q.active, q.time))
      = p.toList.map (fun q => (q.active, q.time)) := by
    unfold Ports.setDownstream; split <;> rfl
  have := congrArg (fun l => spanOf ((l.filter (·.1)).map (·.2))) h
  simp only [List.filter_map, List.map_map] at this
  exact this

theorem timesOk_setDownstream (p : Ports) (i : Nat) (v : Option Nat) (h : TimesOk p) :
    TimesOk (p.setDownstream i v) := by
  unfold Ports.setDownstream
  split <;> exact h

theorem mem_activePorts {p : Ports} {q : Nat × Port} (h : q ∈ p.activePorts) :
    (q = (0, p.a0) ∨ q = (1, p.a1) ∨ q = (2, p.a2) ∨ q = (3, p.a3)) ∧ q.2.active = true := by
  simpa [Ports.activePorts, Ports.indexed] using h

theorem assignedTo_lt (p : Ports) (x k : Nat) (h : p.assignedTo x = some k) : k < 4 := by
  unfold Ports.assignedTo at h
  cases hf : (p.activePorts.find? (fun q => q.2.downstream == some x)) with
  | none => rw [hf] at h; cases h
  | some q =>
    rw [hf] at h; cases h
    rcases (mem_activePorts (List.mem_of_find?_eq_some hf)).1 with rfl | rfl | rfl | rfl <;> simp

theorem mem_activePorts_setDownstream {p : Ports} {q : Nat × Port} (v : Option Nat) (h : q ∈ p.activePorts) :
    (q.1, { q.2 with downstream := v }) ∈ (p.setDownstream q.1 v).activePorts := by
  rcases mem_activePorts h with ⟨rfl | rfl | rfl | rfl, ha⟩ <;>
    exact List.mem_filter.2 ⟨by simp [Ports.indexed, Ports.setDownstream], ha⟩

theorem assignNext_ok (p : Ports) (x : Nat) (p' : Ports) (i : Nat)
    (h : p.assignNext x = .ok (some (p', i))) :
    p' = p.setDownstream i (some x) ∧ ∃ k, p'.assignedTo x = some k := by
  unfold Ports.assignNext at h
  split at h
  · cases h
  · cases h
  · rename_i e _
    unfold Ports.nextAssignable at h
    cases hf : (cycleSkipTake p.activePorts (e.1 + 1) 4).find? (fun q => q.2.downstream.isNone) with
    | none => rw [hf] at h; cases h
    | some q =>
      rw [hf] at h; cases h
      refine ⟨rfl, ?_⟩
      have hmem := mem_activePorts_setDownstream (some x)
        (cycleSkipTake_subset _ _ _ _ (List.mem_of_find?_eq_some hf))
      unfold Ports.assignedTo
      cases hf' : (p.setDownstream q.1 (some x)).activePorts.find? (fun q => q.2.downstream == some x) with
      | none => simpa using List.find?_eq_none.1 hf' _ hmem
      | some r => exact ⟨r.1, rfl⟩

theorem cross_lastPort (p : Ports) (h : p.topology = .ok .cross) : p.lastPort = some 3 := by
  have h4 : p.openPorts = 4 := by
    unfold Ports.topology at h
    split at h <;> first | assumption | cases h
  have : p.activePorts = p.indexed :=
    List.filter_eq_self.2 (List.length_filter_eq_length_iff.1 h4)
  rw [Ports.lastPort, this]; rfl

theorem sumU32_ok (m : Mode) (l : List Nat) : ∀ acc, acc + l.sum < U32 → sumU32 m l acc = .ok (acc + l.sum) := by
  induction l with
  | nil => intro acc _; rfl
  | cons x xs ih =>
    intro acc h
    simp only [List.sum_cons] at h
    have h1 : acc + x < U32 := by omega
    simp only [sumU32, addU32, h1, if_true]
    rw [ih (acc + x) (by omega), List.sum_cons, Nat.add_assoc]

/-- Up to slot 2 the sum has the two terms `a1 - a0`, `a2 - a1` (saturating): it stays below the
    largest receive time. With the third term it can exceed `u32`. -/
theorem intermediate_ok (m : Mode) (p : Ports) (idx : Nat) (ht : TimesOk p) (hi : idx ≤ 2) :
    ∃ v, p.intermediate m idx = .ok v := by
  rcases ht with ⟨h0, h1, h2, h3⟩
  have hU : U32 = 4294967296 := rfl
  unfold Ports.intermediate
  refine ⟨_, sumU32_ok m _ 0 ?_⟩
  have a : ∀ (c : Prop) [Decidable c] (b : Bool) (x : Nat), (if c then 0 else if b = true then x else 0) ≤ x := by
    intro c _ b x; split <;> (try split) <;> omega
  have e1 := a (0 ≥ idx) (p.a0.active && p.a1.active) (p.a1.time - p.a0.time)
  have e2 := a (1 ≥ idx) (p.a1.active && p.a2.active) (p.a2.time - p.a1.time)
  simp only [List.sum_cons, List.sum_nil, if_pos (show 2 ≥ idx from hi)]
  omega

/-- What the no-panic theorems ask of a device: at least one open port, `u32` receive times. -/
def Good (d : Dev) : Prop := 1 ≤ d.ports.openPorts ∧ TimesOk d.ports

theorem configureOffsets_ok {m : Mode} {sd : Dev} {ps : List Dev} {accum : Nat} {r : Dev × Nat}
    (h : configureOffsets m sd ps accum = .ok r) :
    (r = (sd, accum) ∧ sd.parent.bind (fun pi => ps.find? (fun p => p.index == pi)) = none) ∨
    ∃ d, r = ({ sd with delay := Nat.min (accum + d) U32_MAX }, Nat.min (accum + d) U32_MAX) := by
  unfold configureOffsets at h
  repeat' (split at h)
  all_goals first
    | (cases h; done)
    | (cases h; exact .inl ⟨rfl, by assumption⟩)
    | (cases h; exact .inr ⟨_, rfl⟩)

/-! None of the port operations returns an `Err`, so neither does the delay computation. -/
theorem topology_not_err (p : Ports) (e : Err) : p.topology ≠ .err e := by
  unfold Ports.topology; split <;> exact fun h => by cases h

theorem entryPort_not_err (p : Ports) (e : Err) : p.entryPort ≠ .err e := by
  unfold Ports.entryPort; split <;> exact fun h => by cases h

theorem isChildOf_not_err (i : Nat) (d : Dev) (e : Err) : isChildOf i d ≠ .err e := by
  unfold isChildOf
  intro h
  split at h
  · cases h
  · rename_i e' he; exact topology_not_err _ _ he
  · cases h

theorem propTimeTo_not_err (p : Ports) (i : Nat) (e : Err) : p.propTimeTo i ≠ .err e := by
  unfold Ports.propTimeTo
  intro h
  split at h
  · cases h
  · rename_i e' he; exact entryPort_not_err _ _ he
  · cases h

theorem sumU32_not_err (m : Mode) (l : List Nat) : ∀ acc e, sumU32 m l acc ≠ .err e := by
  induction l with
  | nil => intro acc e h; cases h
  | cons x xs ih =>
    intro acc e h
    unfold sumU32 addU32 at h
    split at h
    · exact ih _ _ h
    · rename_i e' he
      split at he
      · cases he
      · split at he <;> cases he
    · cases h

theorem configureOffsets_not_err (m : Mode) (sd : Dev) (ps : List Dev) (accum : Nat) (e : Err) :
    configureOffsets m sd ps accum ≠ .err e := by
  intro h
  unfold configureOffsets at h
  repeat' (split at h)
  all_goals first
    | (cases h; done)
    | (rename_i he; first
        | exact topology_not_err _ _ he
        | exact entryPort_not_err _ _ he
        | exact isChildOf_not_err _ _ _ he
        | exact propTimeTo_not_err _ _ _ he
        | exact sumU32_not_err _ _ _ _ he)

/-- A child of a cross is never on the cross's last port, so the unchecked `u32` sum is over slots
    0..2 at most; the `unwrap`s and `unreachable!`s are out of reach between good devices. -/
theorem configureOffsets_total (m : Mode) (sd : Dev) (ps : List Dev) (accum : Nat)
    (hsd : Good sd) (hps : ∀ d ∈ ps, Good d)
    (hpar : ∀ pi, sd.parent = some pi → ∃ par, ps.find? (fun p => p.index == pi) = some par ∧
        ∃ k, par.ports.assignedTo sd.index = some k) :
    ∃ r, configureOffsets m sd ps accum = .ok r := by
  unfold configureOffsets
  rcases topology_ok sd.ports hsd.1 with ⟨t, ht⟩
  rw [ht]
  cases hb : sd.parent.bind (fun pi => ps.find? (fun p => p.index == pi)) with
  | none => exact ⟨_, rfl⟩
  | some par =>
    obtain ⟨hgood, k, hk⟩ : Good par ∧ ∃ k, par.ports.assignedTo sd.index = some k := by
      cases hp : sd.parent with
      | none => rw [hp] at hb; cases hb
      | some pi =>
        obtain ⟨par', hf, hk⟩ := hpar pi hp
        rw [hp, Option.bind_some, hf] at hb; cases hb
        exact ⟨hps par (List.mem_of_find?_eq_some hf), hk⟩
    rcases entryPort_ok sd.ports hsd.1 with ⟨e, he, _⟩
    rcases entryPort_ok par.ports hgood.1 with ⟨e2, he2, _⟩
    rcases topology_ok par.ports hgood.1 with ⟨pt, hpt⟩
    simp only [hk, he, hpt, isChildOf, Ports.propTimeTo, he2]
    cases pt with
    | cross =>
      by_cases hk2 : k ≤ 2
      · rcases intermediate_ok m par.ports k hgood.2 hk2 with ⟨v, hv⟩
        simp only [hv]
        generalize (Topology.cross.isJunction && !par.ports.isLastPort k) = c
        cases c <;> exact ⟨_, rfl⟩
      · have hk3 : k = 3 := by have := assignedTo_lt _ _ _ hk; omega
        have hl : par.ports.isLastPort k = true := by rw [Ports.isLastPort, cross_lastPort _ hpt, hk3]; rfl
        simp only [hl, Bool.not_true, Bool.and_false]; exact ⟨_, rfl⟩
    | fork =>
      generalize (Topology.fork.isJunction && !par.ports.isLastPort k) = c
      cases c <;> exact ⟨_, rfl⟩
    | _ => exact ⟨_, rfl⟩

theorem replaceFirst_append (f : Dev → Bool) (new nd : Dev) (pre D : List Dev)
    (hpre : ∀ x ∈ pre, f x = false) (hnd : f nd = true) :
    replaceFirst f new (pre ++ nd :: D) = pre ++ new :: D := by
  induction pre with
  | nil => simp [replaceFirst, hnd]
  | cons x xs ih =>
    simp [replaceFirst, hpre x (List.mem_cons_self ..), ih (fun y hy => hpre y (List.mem_cons_of_mem _ hy))]

theorem assignOnParent_ok (ps : List Dev) (pi si : Nat) (ps' : List Dev)
    (h : assignOnParent ps pi si = .ok ps') :
    ∃ pre par post k, ps = pre ++ par :: post ∧ (∀ x ∈ pre, (x.index == pi) = false) ∧ (par.index == pi) = true ∧
      (∃ k', (par.ports.setDownstream k (some si)).assignedTo si = some k') ∧
      ps' = pre ++ { par with ports := par.ports.setDownstream k (some si) } :: post := by
  unfold assignOnParent at h
  split at h
  · cases h
  · rename_i par hf
    split at h
    · cases h
    · split at h <;> try cases h
      rename_i p' k hn
      rcases assignNext_ok _ _ _ _ hn with ⟨rfl, hk⟩
      obtain ⟨hp, pre, post, rfl, hall⟩ := List.find?_eq_some_iff_append.1 hf
      have hpre : ∀ x ∈ pre, (x.index == pi) = false := fun x hx => by simpa using hall x hx
      exact ⟨pre, par, post, k, rfl, hpre, hp, hk, replaceFirst_append _ _ _ _ _ hpre hp⟩

theorem assignOnParent_no_panic (ps : List Dev) (pi si : Nat) (w : String) (par : Dev)
    (hfind : ps.find? (fun p => p.index == pi) = some par) (hopen : 1 ≤ par.ports.openPorts) :
    assignOnParent ps pi si ≠ .panic w := by
  rcases entryPort_ok _ hopen with ⟨e, he, _⟩
  unfold assignOnParent Ports.assignNext
  simp only [hfind, he]
  intro h
  split at h
  · cases h
  · cases hn : par.ports.nextAssignable e.1 <;> rw [hn] at h <;> cases h

theorem findJunction_cases (l : List Dev) (hopen : ∀ d ∈ l, 1 ≤ d.ports.openPorts) :
    findJunction l = .err .topology ∨ ∃ d ∈ l, findJunction l = .ok d.index := by
  induction l with
  | nil => left; rfl
  | cons d ds ih =>
    rcases topology_ok d.ports (hopen d (List.mem_cons_self ..)) with ⟨t, ht⟩
    unfold findJunction
    rw [ht]
    by_cases c : (t.isJunction && d.ports.hasFreeDownstream) = true
    · right; exact ⟨d, List.mem_cons_self .., if_pos c⟩
    · simp only [if_neg c]
      exact (ih (fun x hx => hopen x (List.mem_cons_of_mem _ hx))).imp id
        fun ⟨x, hx, h⟩ => ⟨x, List.mem_cons_of_mem _ hx, h⟩

theorem findParent_nil : findParent [] = .ok none := rfl

theorem findParent_cases (ps : List Dev) (hopen : ∀ d ∈ ps, 1 ≤ d.ports.openPorts) :
    (ps = [] ∧ findParent ps = .ok none) ∨ findParent ps = .err .topology ∨
    ∃ d ∈ ps, findParent ps = .ok (some d.index) := by
  unfold findParent
  cases hr : ps.reverse with
  | nil => left; exact ⟨List.reverse_eq_nil_iff.1 hr, rfl⟩
  | cons p rest =>
    right
    have hmem : ∀ d ∈ p :: rest, d ∈ ps := fun d hd => List.mem_reverse.1 (hr ▸ hd)
    have hp := hmem p (List.mem_cons_self ..)
    rcases topology_ok p.ports (hopen p hp) with ⟨t, ht⟩
    simp only [ht]
    cases t with
    | lineEnd =>
      rcases findJunction_cases rest (fun d hd => hopen d (hmem d (List.mem_cons_of_mem _ hd))) with h | ⟨x, hx, h⟩
      · left; rw [h]
      · right; exact ⟨x, hmem x (List.mem_cons_of_mem _ hx), by rw [h]⟩
    | _ => right; exact ⟨p, hp, rfl⟩

theorem findParent_none (ps : List Dev) (h : findParent ps = .ok none) : ps = [] := by
  unfold findParent at h
  cases hr : ps.reverse with
  | nil => exact List.reverse_eq_nil_iff.1 hr
  | cons p rest =>
    rw [hr] at h
    simp only at h
    repeat' (split at h)
    all_goals cases h

/-- The parent bookkeeping writes one `downstream` field: what holds of all ports and survives
    `setDownstream` holds afterwards. -/
theorem assignStep_forall {Q : Ports → Prop} (hQ : ∀ p k v, Q p → Q (p.setDownstream k v))
    {ps ps' : List Dev} {pidx : Option Nat} {si : Nat} (hps : ∀ d ∈ ps, Q d.ports)
    (ha : assignStep ps pidx si = .ok ps') : ∀ d ∈ ps', Q d.ports := by
  cases pidx with
  | none => cases ha; exact hps
  | some pi =>
    obtain ⟨pre, par, post, k, rfl, -, -, -, rfl⟩ := assignOnParent_ok ps pi si ps' ha
    rw [List.forall_mem_append, List.forall_mem_cons] at hps ⊢
    exact ⟨hps.1, hQ _ _ _ hps.2.1, hps.2.2⟩

/-- Afterwards the parent is found again and has the device on one of its ports. -/
theorem assignStep_parent {ps ps' : List Dev} {pi si : Nat} (ha : assignStep ps (some pi) si = .ok ps') :
    ∃ par, ps'.find? (fun p => p.index == pi) = some par ∧ ∃ k, par.ports.assignedTo si = some k := by
  obtain ⟨pre, par, post, k, rfl, hpre, hp, hk, rfl⟩ := assignOnParent_ok ps pi si ps' ha
  exact ⟨{ par with ports := par.ports.setDownstream k (some si) },
    List.find?_eq_some_iff_append.2 ⟨hp, pre, post, rfl, fun x hx => by simp [hpre x hx]⟩, hk⟩

theorem good_setDownstream (p : Ports) (k : Nat) (v : Option Nat)
    (h : 1 ≤ p.openPorts ∧ TimesOk p) :
    1 ≤ (p.setDownstream k v).openPorts ∧ TimesOk (p.setDownstream k v) :=
  ⟨by rw [openPorts_setDownstream]; exact h.1, timesOk_setDownstream _ _ _ h.2⟩

/-- The `if subdevice.dc_support().any() { configure_subdevice_offsets(..) }` of the loop body. -/
def devStep (m : Mode) (sd : Dev) (ps : List Dev) (accum : Nat) : Outcome Err (Dev × Nat) :=
  if sd.dc then configureOffsets m sd ps accum else .ok (sd, accum)

theorem assignLoop_cons (m : Mode) (ps : List Dev) (accum : Nat) (sd : Dev) (rest : List Dev) :
    assignLoop m ps accum (sd :: rest) =
      andThen (findParent ps) fun pidx => andThen (assignStep ps pidx sd.index) fun ps' =>
        andThen (devStep m { sd with parent := pidx } ps' accum) fun r =>
          assignLoop m (ps' ++ [r.1]) r.2 rest := by
  rw [assignLoop]
  cases findParent ps <;> try rfl
  rename_i pidx
  dsimp only [andThen]
  cases assignStep ps pidx sd.index <;> try rfl
  dsimp only [devStep]
  split
  · cases configureOffsets m _ _ accum <;> rfl
  · rfl

theorem devStep_ok {m : Mode} {sd : Dev} {ps : List Dev} {accum : Nat} {r : Dev × Nat}
    (h : devStep m sd ps accum = .ok r) :
    (r = (sd, accum) ∧ (sd.dc = true → sd.parent.bind (fun pi => ps.find? (fun p => p.index == pi)) = none)) ∨
    (sd.dc = true ∧ ∃ d, r = ({ sd with delay := Nat.min (accum + d) U32_MAX }, Nat.min (accum + d) U32_MAX)) := by
  unfold devStep at h
  split at h
  · rename_i hdc
    exact (configureOffsets_ok h).imp (fun ⟨a, b⟩ => ⟨a, fun _ => b⟩) (fun a => ⟨hdc, a⟩)
  · rename_i hdc
    cases h; exact .inl ⟨rfl, fun h => absurd h hdc⟩

theorem devStep_total (m : Mode) (sd : Dev) (ps : List Dev) (accum : Nat)
    (hsd : Good sd) (hps : ∀ d ∈ ps, Good d)
    (hpar : ∀ pi, sd.parent = some pi → ∃ par, ps.find? (fun p => p.index == pi) = some par ∧
        ∃ k, par.ports.assignedTo sd.index = some k) :
    ∃ r, devStep m sd ps accum = .ok r := by
  unfold devStep
  split
  · exact configureOffsets_total m sd ps accum hsd hps hpar
  · exact ⟨_, rfl⟩

/-- The fields the topology code never writes. -/
def Dev.idk (d : Dev) : Nat × Bool × Nat := (d.index, d.dc, d.rxTime)

theorem devStep_delay_only {m : Mode} {sd : Dev} {ps : List Dev} {accum : Nat} {r : Dev × Nat}
    (h : devStep m sd ps accum = .ok r) : ∃ dl, r.1 = { sd with delay := dl } := by
  rcases devStep_ok h with ⟨rfl, _⟩ | ⟨_, d, rfl⟩ <;> exact ⟨_, rfl⟩

theorem assignStep_map {β : Type} (g : Dev → β) (hg : ∀ (d : Dev) (p : Ports), g { d with ports := p } = g d)
    (ps : List Dev) (pidx : Option Nat) (si : Nat) (ps' : List Dev) (h : assignStep ps pidx si = .ok ps') :
    ps'.map g = ps.map g := by
  cases pidx with
  | none => cases h; rfl
  | some pi =>
    rcases assignOnParent_ok ps pi si ps' h with ⟨pre, par, post, k, rfl, -, -, -, rfl⟩
    simp [hg]

theorem assignLoop_idk (m : Mode) (rest : List Dev) : ∀ (ps : List Dev) (accum : Nat) (out : List Dev),
    assignLoop m ps accum rest = .ok out → out.map Dev.idk = (ps ++ rest).map Dev.idk := by
  induction rest with
  | nil => intro ps accum out h; cases h; simp
  | cons sd rest ih =>
    intro ps accum out h
    simp only [assignLoop_cons, andThen_eq_ok] at h
    obtain ⟨pidx, _, ps', ha, r, hc, hl⟩ := h
    rw [ih _ _ _ hl]
    obtain ⟨dl, hr⟩ := devStep_delay_only hc
    simp only [List.map_append, List.map_cons, List.append_assoc, List.cons_append, List.nil_append,
      assignStep_map Dev.idk (fun _ _ => rfl) ps pidx sd.index ps' ha, hr]
    rfl

/-- The two fields monotonicity speaks of; the parent bookkeeping writes ports only. -/
def Dev.key (d : Dev) : Bool × Nat := (d.dc, d.delay)

def Mono (l : List (Bool × Nat)) : Prop := l.Pairwise fun a b => a.1 = true → b.1 = true → a.2 ≤ b.2

/-- The one way to break monotonicity would be a DC device that finds no parent after others have a
    delay; only the first device has no parent. -/
theorem assignLoop_mono (m : Mode) (rest : List Dev) : ∀ (ps : List Dev) (accum : Nat) (out : List Dev),
    Mono (ps.map Dev.key) → (∀ k ∈ ps.map Dev.key, k.1 = true → k.2 ≤ accum) → accum ≤ U32_MAX →
    (∀ d ∈ rest, d.delay = 0) → assignLoop m ps accum rest = .ok out → Mono (out.map Dev.key) := by
  induction rest with
  | nil => intro ps accum out hm _ _ _ h; cases h; exact hm
  | cons sd rest ih =>
    intro ps accum out hm hb hacc h0 h
    simp only [assignLoop_cons, andThen_eq_ok] at h
    obtain ⟨pidx, hfp, ps', ha, r, hc, hl⟩ := h
    obtain ⟨hsd0, h0'⟩ := List.forall_mem_cons.1 h0
    rw [← assignStep_map Dev.key (fun _ _ => rfl) ps pidx sd.index ps' ha] at hm hb
    have key : accum ≤ r.2 ∧ r.2 ≤ U32_MAX ∧
        (r.1.dc = true → r.1.delay ≤ r.2 ∧ (ps' = [] ∨ r.1.delay = r.2)) := by
      rcases devStep_ok hc with ⟨rfl, hnone⟩ | ⟨_, d, rfl⟩
      · refine ⟨Nat.le_refl _, hacc, fun hdc => ⟨by simp [hsd0], .inl ?_⟩⟩
        cases pidx with
        | none => cases findParent_none ps hfp; cases ha; rfl
        | some pi =>
          obtain ⟨par, hfind, -⟩ := assignStep_parent ha
          have := hnone hdc
          rw [Option.bind_some, hfind] at this
          cases this
      · exact ⟨by simp only [Nat.min_def]; split <;> omega, Nat.min_le_right _ _,
          fun _ => ⟨Nat.le_refl _, .inr rfl⟩⟩
    apply ih (ps' ++ [r.1]) r.2 out _ _ key.2.1 h0' hl
    · rw [List.map_append]
      refine List.pairwise_append.2 ⟨hm, List.pairwise_singleton _ _, ?_⟩
      intro a ha' b hb' hadc hbdc
      cases List.mem_singleton.1 hb'
      rcases (key.2.2 hbdc).2 with e | e
      · subst e; cases ha'
      · exact Nat.le_trans (hb a ha' hadc) (Nat.le_trans key.1 (Nat.le_of_eq e.symm))
    · rw [List.map_append, List.forall_mem_append]
      exact ⟨fun k hk hdc => Nat.le_trans (hb k hk hdc) key.1,
        List.forall_mem_singleton.2 fun hdc => (key.2.2 hdc).1⟩

theorem assignLoop_no_panic (m : Mode) (rest : List Dev) :
    ∀ (ps : List Dev) (accum : Nat) (w : String),
    (∀ d ∈ ps, Good d) → (∀ d ∈ rest, Good d) →
    assignLoop m ps accum rest ≠ .panic w := by
  induction rest with
  | nil => intro ps accum w _ _ h; cases h
  | cons sd rest ih =>
    intro ps accum w hps hrest
    obtain ⟨hsd, hrest'⟩ := List.forall_mem_cons.1 hrest
    rw [assignLoop_cons]
    have hfp := findParent_cases ps (fun d hd => (hps d hd).1)
    refine andThen_ne_panic (by rcases hfp with ⟨_, h⟩ | h | ⟨_, _, h⟩ <;> rw [h] <;> exact fun h => by cases h)
      fun pidx hpidx => andThen_ne_panic ?_ fun ps' ha => ?_
    · cases pidx with
      | none => exact fun h => by cases h
      | some pi =>
        rcases hfp with ⟨_, h⟩ | h | ⟨pd, hpd, h⟩ <;> rw [h] at hpidx <;> cases hpidx
        cases hf : ps.find? (fun p => p.index == pd.index) with
        | some par => exact assignOnParent_no_panic ps _ _ w par hf (hps par (List.mem_of_find?_eq_some hf)).1
        | none => simpa using List.find?_eq_none.1 hf pd hpd
    · have hg' := assignStep_forall good_setDownstream hps ha
      refine andThen_ne_panic ?_ fun r hc => ih _ _ w ?_ hrest'
      · rcases devStep_total m { sd with parent := pidx } ps' accum hsd hg'
          (fun pi (h : pidx = some pi) => assignStep_parent (h ▸ ha)) with ⟨r, hr⟩
        rw [hr]; exact fun h => by cases h
      · obtain ⟨dl, hr⟩ := devStep_delay_only hc
        exact List.forall_mem_append.2 ⟨hg', List.forall_mem_singleton.2 (hr ▸ hsd)⟩

theorem toI64_emod (x : Nat) : toI64 x % 18446744073709551616 = (x : Int) % 18446744073709551616 := by
  unfold toI64; split
  · rfl
  · exact Int.sub_emod_right _ _

/-- Both casts and the subtraction are the identity modulo 2^64. -/
theorem offsetI64_value (m : Mode) (rx now : Nat) (h1 : rx < U64) :
    offsetI64 m rx now = .ok ((now + U64 - rx) % U64) := by
  have h : ((now + U64 - rx : Nat) : Int) = (now : Int) - rx + 18446744073709551616 := by
    simp only [U64] at *; omega
  have e : (toI64 now - toI64 rx) % 18446744073709551616 = (((now + U64 - rx) % U64 : Nat) : Int) := by
    rw [Int.sub_emod, toI64_emod, toI64_emod, ← Int.sub_emod, Int.natCast_emod, h]
    exact (Int.add_emod_right _ _).symm
  rw [offsetI64, e, Int.toNat_natCast]

/-- The two registers `write_dc_parameters` programs in one DC device. -/
def dcWrites (now : Nat) (addrs : List Nat) (d : Dev) : List Write :=
  [⟨addrs.getD d.index 0, 0x0920, le64 ((now + U64 - d.rxTime) % U64)⟩,
   ⟨addrs.getD d.index 0, 0x0928, le32 d.delay⟩]

theorem writeLoop_ok (m : Mode) (now : Nat) (addrs : List Nat) (devs : List Dev)
    (hrx : ∀ d ∈ devs, d.rxTime < U64) :
    writeLoop m now addrs devs = ((devs.filter (fun d => d.dc)).flatMap (dcWrites now addrs), .ok ()) := by
  induction devs with
  | nil => rfl
  | cons d ds ih =>
    have ih' := ih fun x hx => hrx x (List.mem_cons_of_mem _ hx)
    unfold writeLoop
    by_cases hdc : d.dc = true
    · rw [if_pos hdc, offsetI64_value m d.rxTime now (hrx d (List.mem_cons_self ..)), ih',
        List.filter_cons_of_pos hdc]
      rfl
    · rw [if_neg hdc, ih', List.filter_cons_of_neg hdc]

def firstDcFrom : Nat → List Report → Option Nat
  | _, [] => none
  | base, r :: rs => if r.dc then some base else firstDcFrom (base + 1) rs

theorem first_dc (f : Nat → Report → Dev) (hf : ∀ i r, (f i r).index = i ∧ (f i r).dc = r.dc)
    (rs : List Report) (base : Nat) (out : List Dev) (h : out.map Dev.idk = (mkDevsFrom f base rs).map Dev.idk) :
    (out.find? (fun d => d.dc)).map (·.index) = firstDcFrom base rs := by
  -- the search looks at `idk` only
  have key : ∀ l : List Dev, (l.find? (fun d => d.dc)).map (·.index)
      = ((l.map Dev.idk).find? (·.2.1)).map (·.1) := fun l => by
    rw [List.find?_map, Option.map_map]; rfl
  rw [key, h, ← key]
  clear h
  induction rs generalizing base with
  | nil => rfl
  | cons r rs ih =>
    simp only [mkDevsFrom, List.find?, firstDcFrom, (hf base r).2]
    cases r.dc with
    | true => exact congrArg some (hf base r).1
    | false => exact ih (base + 1)

theorem latchOne_fields (i : Nat) (r : Report) : (latchOne i r).index = i ∧ (latchOne i r).dc = r.dc := by
  unfold latchOne
  split
  · exact ⟨rfl, rfl⟩
  · rename_i h; exact ⟨rfl, (Bool.not_eq_true _ ▸ h).symm⟩

theorem devOfReport_fields (i : Nat) (r : Report) : (devOfReport i r).index = i ∧ (devOfReport i r).dc = r.dc :=
  ⟨rfl, rfl⟩

/-- A DL status without any open port is rejected up front; otherwise the loop runs. -/
theorem assign_eq (m : Mode) (devs : List Dev) :
    assignParentRelationships m devs =
      if ∀ d ∈ devs, 1 ≤ d.ports.openPorts then assignLoop m [] 0 devs else .err .topology := by
  unfold assignParentRelationships
  have hany : (devs.any fun d => d.ports.openPorts == 0) = true ↔ ¬ ∀ d ∈ devs, 1 ≤ d.ports.openPorts := by
    simp [Nat.one_le_iff_ne_zero]
  by_cases h : ∀ d ∈ devs, 1 ≤ d.ports.openPorts
  · rw [if_pos h, if_neg fun a => hany.1 a h]
  · rw [if_neg h, if_pos (hany.2 h)]

theorem assign_ok_loop (m : Mode) (devs out : List Dev) (h : assignParentRelationships m devs = .ok out) :
    assignLoop m [] 0 devs = .ok out := by
  rw [assign_eq] at h
  split at h
  · exact h
  · cases h

theorem mkDevsFrom_forall {f : Nat → Report → Dev} {P : Dev → Prop} {l : List Report}
    (h : ∀ i, ∀ r ∈ l, P (f i r)) : ∀ b, ∀ d ∈ mkDevsFrom f b l, P d := by
  induction l with
  | nil => intro b d hd; cases hd
  | cons r rs ih =>
    intro b
    exact List.forall_mem_cons.2
      ⟨h b r (List.mem_cons_self ..), ih (fun i r' hr => h i r' (List.mem_cons_of_mem _ hr)) (b + 1)⟩

theorem assign_idk (m : Mode) (devs out : List Dev) (h : assignParentRelationships m devs = .ok out) :
    out.map Dev.idk = devs.map Dev.idk :=
  assignLoop_idk m devs [] 0 out (assign_ok_loop m devs out h)

theorem latch_rx (rs : List Report) (hrx : ∀ r ∈ rs, r.rx < U64) (out : List Dev)
    (h : out.map Dev.idk = (latch rs).map Dev.idk) : ∀ d ∈ out, d.rxTime < U64 := by
  have key : ∀ l : List Dev, (∀ d ∈ l, d.rxTime < U64) ↔ ∀ k ∈ l.map Dev.idk, k.2.2 < U64 :=
    fun l => (List.forall_mem_map (f := Dev.idk) (P := fun k => k.2.2 < U64)).symm
  rw [key, h, ← key]
  refine mkDevsFrom_forall (fun i r hr => ?_) 0
  unfold latchOne
  split
  · exact hrx r hr
  · show 0 < U64; decide

theorem configureDc_ok {m : Mode} {now : Nat} {rs : List Report} {ws : List Write} {ref : Option Nat}
    {devs : List Dev} (h : configureDc m now rs = (ws, .ok (ref, devs))) :
    assignParentRelationships m (latch rs) = .ok devs ∧ ref = (devs.find? (fun d => d.dc)).map (·.index) ∧
    (ref ≠ none → writeLoop m now (rs.map (·.addr)) devs = (ws, .ok ())) := by
  unfold configureDc at h
  split at h
  · cases h
  · cases h
  · rename_i out ha
    simp only at h
    split at h
    · rename_i hf
      cases h
      exact ⟨ha, hf.symm, fun h => absurd rfl h⟩
    · rename_i i hf
      split at h <;> cases h
      rename_i hw
      exact ⟨ha, rfl, fun _ => hw⟩

theorem timesOk_latchOne (i : Nat) (r : Report)
    (ht : r.t0 < U32 ∧ r.t1 < U32 ∧ r.t2 < U32 ∧ r.t3 < U32) : TimesOk (latchOne i r).ports := by
  have hz : (0 : Nat) < U32 := by decide
  unfold latchOne
  split
  · exact ⟨ht.1, ht.2.2.2, ht.2.1, ht.2.2.1⟩
  · exact ⟨hz, hz, hz, hz⟩

theorem good_latchOne (i : Nat) (r : Report) (ho : 1 ≤ r.openCount)
    (ht : r.t0 < U32 ∧ r.t1 < U32 ∧ r.t2 < U32 ∧ r.t3 < U32) : Good (latchOne i r) := by
  refine ⟨?_, timesOk_latchOne i r ht⟩
  rw [openPorts_eq]
  unfold Report.openCount at ho
  unfold latchOne
  split <;> simp only [devOfReport, Ports.ofNumbered] <;> omega

theorem assign_no_panic (m : Mode) (devs : List Dev) (w : String)
    (htimes : ∀ d ∈ devs, TimesOk d.ports) :
    assignParentRelationships m devs ≠ .panic w := by
  rw [assign_eq]
  split
  · rename_i hopen
    exact assignLoop_no_panic m devs [] 0 w (fun _ h => by cases h) (fun d hd => ⟨hopen d hd, htimes d hd⟩)
  · exact fun h => by cases h

theorem configureDc_no_panic (m : Mode) (now : Nat) (rs : List Report) (ws : List Write) (w : String)
    (htimes : ∀ r ∈ rs, r.t0 < U32 ∧ r.t1 < U32 ∧ r.t2 < U32 ∧ r.t3 < U32)
    (hrx : ∀ r ∈ rs, r.rx < U64) :
    configureDc m now rs ≠ (ws, .panic w) := by
  unfold configureDc
  cases ha : assignParentRelationships m (latch rs) with
  | panic w' =>
    exact absurd ha (assign_no_panic m (latch rs) w' <|
      mkDevsFrom_forall (fun i r hr => timesOk_latchOne i r (htimes r hr)) 0)
  | err e => exact fun h => by cases h
  | ok out =>
    simp only [writeLoop_ok m now _ out (latch_rx rs hrx out (assign_idk m _ out ha))]
    split <;> exact fun h => by cases h

end Ec.Dc
