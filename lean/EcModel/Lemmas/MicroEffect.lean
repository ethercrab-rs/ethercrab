/-
  What one micro-step does to the slot statuses and to the claims of the thread that takes it.

  Every step of `Micro.stepThread` performs at most one transition of the slot status protocol
  (`Trans`: one constructor per event of `Lifecycle.Ev`, and `stay`) on one slot `k₀`, and the
  stepping thread gives up and acquires at most one claim, on that same slot (`Effect`).
  `stepThread_effect` proves this by one case analysis over the program counters; the upper bound on
  claims (`MInv`) and the lower bound (`MOwned`) are both preserved by any step with such an effect,
  and neither proof looks at `stepThread` again.
-/
import EcModel.Lemmas.MicroInv

namespace Ec.Micro

/-- Status transition `a → b` of one slot together with the role of the claim the performing thread
    gives up and the role of the claim it acquires. `P` is what is known when a future is abandoned
    (plain store of `None`). -/
inductive Trans (P : Prop) : St → St → Option Role → Option Role → Prop
  | stay (a : St) : Trans P a a none none
  | giveUp (a : St) : Trans P a a (some .rx) none
  | claimCreated : Trans P .none .created none (some .creator)
  | markSendable : Trans P .created .sendable (some .creator) (some .fut)
  | dropCreated : Trans P .created .none (some .creator) none
  | txClaim : Trans P .sendable .sending none (some .tx)
  | txSent : Trans P .sending .sent (some .tx) none
  | txRelease : Trans P .sending .sendable (some .tx) none
  | rxClaim : Trans P .sent .rxBusy none (some .rx)
  | rxDone : Trans P .rxBusy .rxDone (some .rx) none
  | rxUnclaim : Trans P .rxBusy .sent (some .rx) none
  | pollTake : Trans P .rxDone .rxProcessing (some .fut) (some .reader)
  | retry : Trans P .sent .sendable none none
  | readerDrop : Trans P .rxProcessing .none (some .reader) none
  | abandon (a : St) (h : P) : Trans P a .none (some .fut) none

def ind : Option Role → Role → Nat
  | some ρ', ρ => if ρ' = ρ then 1 else 0
  | none, _ => 0

/-- An optional claim on slot `k₀`, counted at slot `k` and role `ρ` (`one`, or nothing). -/
def oc (k₀ : Nat) : Option Role → Nat → Role → Nat
  | some ρ' => one k₀ ρ'
  | none => fun _ _ => 0

/-- The counts `τ'` are at most the counts `τ` minus the claim `l` plus the claim `g`, both on slot
    `k₀`. (With `τ`, `τ'` and `l`, `g` exchanged: at least.) -/
def Shift (k₀ : Nat) (l g : Option Role) (τ τ' : Nat → Role → Nat) : Prop :=
  ∀ k ρ, τ' k ρ + oc k₀ l k ρ ≤ τ k ρ + oc k₀ g k ρ

section
variable {k₀ : Nat} {l g : Option Role} {τ τ' σ σ' : Nat → Role → Nat}

theorem Shift.self (h : Shift k₀ l g τ τ') (ρ : Role) : τ' k₀ ρ + ind l ρ ≤ τ k₀ ρ + ind g ρ := by
  have := h k₀ ρ
  cases l <;> cases g <;> simpa [oc, one, ind] using this

theorem Shift.other (h : Shift k₀ l g τ τ') {k : Nat} (hk : k ≠ k₀) (ρ : Role) : τ' k ρ ≤ τ k ρ := by
  have := h k ρ
  cases l <;> cases g <;> simpa [oc, one_ne_slot hk] using this

/-- From the counts of one thread to those of the world, of which it is a summand. -/
theorem Shift.lift (h : Shift k₀ l g τ τ') (e : ∀ k ρ, σ' k ρ + τ k ρ = σ k ρ + τ' k ρ) :
    Shift k₀ l g σ σ' := fun k ρ => by
  have := h k ρ
  have := e k ρ
  omega

end

/-- Every transition other than abandonment keeps the bound of `MInv`: what the new status admits,
    plus the claim given up, covers what the old status admitted plus the claim acquired. -/
theorem Trans.cap_le {P : Prop} {a b : St} {l g : Option Role} (h : Trans P a b l g)
    (hne : ¬ (b = .none ∧ l = some .fut)) (ρ : Role) : cap a ρ + ind g ρ ≤ cap b ρ + ind l ρ := by
  cases h with
  | stay a => exact Nat.le_refl _
  | giveUp a => exact Nat.add_le_add_left (Nat.zero_le _) _
  | abandon a _ => exact absurd ⟨rfl, rfl⟩ hne
  | _ => cases ρ <;> decide

/-- **Every transition keeps the bound of `MInv`**: `c`, `c'` are the numbers of claims of role `ρ`
    on the slot before and after. When a future is abandoned only futures hold claims on the slot. -/
theorem Trans.bound {P : Prop} {a b : St} {l g : Option Role} (h : Trans P a b l g) {ρ : Role} {c c' : Nat}
    (hP : P → c ≤ ind (some .fut) ρ) (hc : c ≤ cap a ρ) (hm : c' + ind l ρ ≤ c + ind g ρ) :
    c' ≤ cap b ρ := by
  by_cases hab : b = .none ∧ l = some .fut
  · obtain ⟨rfl, rfl⟩ := hab
    cases h with
    | abandon a hp =>
      have := hP hp
      have : ind none ρ = 0 := rfl
      omega
  · have := h.cap_le hab ρ
    omega

/-- Owner claims among `x`. -/
def ow (x : Option Role) : Nat := ind x .creator + ind x .fut + ind x .reader

/-- No transition leaves a non-free slot with fewer owner claims than it had, and the one that
    makes a free slot non-free brings an owner claim. -/
theorem Trans.owner {P : Prop} {a b : St} {l g : Option Role} (h : Trans P a b l g) (hb : b ≠ .none) :
    ow l ≤ ow g ∧ (a = .none → ow l + 1 ≤ ow g) := by
  cases h with
  | stay a => exact ⟨Nat.le_refl _, fun h => absurd h hb⟩
  | giveUp a => exact ⟨by decide, fun h => absurd h hb⟩
  | dropCreated => exact absurd rfl hb
  | readerDrop => exact absurd rfl hb
  | abandon a _ => exact absurd rfl hb
  | _ => decide

/-- The step `t` is about to take stores a new handle (`alBuf`: the `CreatedFrame`; `tnCas`: the
    `SendableFrame`) into a register that is occupied. -/
def Clobbers (t : Thread) : Prop :=
  ∃ r, ((∃ k, t.pc = .alBuf r k) ∨ (∃ i, t.pc = .tnCas r i)) ∧ getH t.regs r ≠ none

/-- The thread's side of a step: registers stay unique, the next program counter finds what it
    needs, and the claims are at most the old ones minus `l` plus `g` (both on slot `k₀`). They are
    exactly those unless a claim vanishes unnoticed (a handle overwritten in its register, or a future
    dropped on `invalidframestate`), which takes an occupied register or an impossible remembered
    status. -/
structure Moves (n : Nat) (t t' : Thread) (k₀ : Nat) (l g : Option Role) : Prop where
  regs : Regs t'.regs
  pcok : PcOk n t'
  was : WasOk t'
  le : Shift k₀ l g (tcount t) (tcount t')
  ge : WasOk t → ¬ Clobbers t → Shift k₀ g l (tcount t') (tcount t)

/-- Step from `(s, t)` to `p`: slot `k₀` makes the transition, the other statuses stay, and the
    thread's claims move accordingly. -/
structure Effect (P : Prop) (s : Sys) (t : Thread) (p : Sys × Thread) (k₀ : Nat) (l g : Option Role) :
    Prop where
  n : p.1.n = s.n
  other : ∀ k, k ≠ k₀ → (p.1.slot k).st = (s.slot k).st
  trans : Trans P (s.slot k₀).st (p.1.slot k₀).st l g
  moves : Moves s.n t p.2 k₀ l g

/-- `P k` is what is known about slot `k` when the step abandons the future on it. -/
def StepEff (P : Nat → Prop) (s : Sys) (t : Thread) (p : Sys × Thread) : Prop :=
  ∃ k₀ l g, Effect (P k₀) s t p k₀ l g

def SameSt (s s' : Sys) : Prop := s'.n = s.n ∧ ∀ k, (s'.slot k).st = (s.slot k).st

theorem SameSt.refl (s : Sys) : SameSt s s := ⟨rfl, fun _ => rfl⟩

theorem SameSt.congr {s s' : Sys} (e : s'.slots = s.slots) : SameSt s s' :=
  ⟨n_congr e, fun k => by rw [slot_congr e]⟩

theorem SameSt.set (s : Sys) (k₀ : Nat) (y : Slot) (hy : y.st = (s.slot k₀).st) :
    SameSt s (s.setSlot k₀ y) := ⟨n_setSlot _ _ _, st_setSlot_same s k₀ y hy⟩

theorem SameSt.ite {s a b : Sys} {c : Prop} [Decidable c] (h1 : SameSt s a) (h2 : SameSt s b) :
    SameSt s (if c then a else b) := by split <;> assumption

section
variable {P : Prop} {s s' : Sys} {t t' : Thread} {k₀ : Nat} {l g : Option Role}

theorem Effect.keep (hs : SameSt s s') (tr : ∀ a, Trans P a a l g) (m : Moves s.n t t' k₀ l g) :
    Effect P s t (s', t') k₀ l g :=
  ⟨hs.1, fun k _ => hs.2 k, by rw [show ((s', t').1.slot k₀).st = _ from hs.2 k₀]; exact tr _, m⟩

theorem Effect.set (y : Slot) (hlt : k₀ < s.n) (tr : Trans P (s.slot k₀).st y.st l g)
    (m : Moves s.n t t' k₀ l g) : Effect P s t (s.setSlot k₀ y, t') k₀ l g := by
  refine ⟨n_setSlot _ _ _, fun k hk => ?_, ?_, m⟩
  · show ((s.setSlot k₀ y).slot k).st = _
    rw [slot_setSlot_ne _ _ _ _ hk]
  · show Trans P _ ((s.setSlot k₀ y).slot k₀).st l g
    rw [slot_setSlot_eq _ _ _ hlt]; exact tr

/-- A compare-exchange `a → b` on slot `k` whose outcome the thread does not look at. -/
theorem Effect.cas (k : Nat) {a b : St} (ha : a ≠ .none) (tr : Trans P a b l g) (tr' : ∀ a, Trans P a a l g)
    (m : Moves s.n t t' k l g) :
    Effect P s t (if (s.slot k).st = a then s.setSlot k { s.slot k with st := b } else s, t') k l g := by
  split
  · next h => exact .set _ (st_ne_none_lt (h ▸ ha)) (h ▸ tr) m
  · exact .keep (.refl _) tr' m

variable {n : Nat} {prog prog' outs outs' : List String} {pc pc' : Pc} {regs : List Hd}

theorem Moves.exact {t t' : Thread} (hr : Regs t'.regs) (hp : PcOk n t') (hw : WasOk t')
    (h : ∀ k ρ, tcount t' k ρ + oc k₀ l k ρ = tcount t k ρ + oc k₀ g k ρ) : Moves n t t' k₀ l g :=
  ⟨hr, hp, hw, fun k ρ => Nat.le_of_eq (h k ρ), fun _ _ k ρ => Nat.le_of_eq (h k ρ).symm⟩

theorem Moves.goto (hr : Regs regs)
    (hc : ∀ k ρ, pcount pc' k ρ + oc k₀ l k ρ = pcount pc k ρ + oc k₀ g k ρ)
    (hp : PcOk n ⟨prog', pc', regs, outs'⟩ := by exact ⟨trivial, trivial⟩)
    (hw : WasOk ⟨prog', pc', regs, outs'⟩ := by trivial) :
    Moves n ⟨prog, pc, regs, outs⟩ ⟨prog', pc', regs, outs'⟩ k₀ l g :=
  .exact hr hp hw fun k ρ => by have := hc k ρ; simp only [tcount]; omega

theorem Moves.retag (hr : Regs regs) {r : Nat} {h : Hd} (e : getH regs r = some h) (K : HK)
    (hp : PcOk n ⟨prog', pc', putH regs ⟨r, h.slot, K⟩, outs'⟩)
    (hc : ∀ k ρ, pcount pc' k ρ + one h.slot (roleOf K) k ρ + oc h.slot l k ρ =
      pcount pc k ρ + one h.slot (roleOf h.kind) k ρ + oc h.slot g k ρ)
    (hw : WasOk ⟨prog', pc', putH regs ⟨r, h.slot, K⟩, outs'⟩ := by trivial) :
    Moves n ⟨prog, pc, regs, outs⟩ ⟨prog', pc', putH regs ⟨r, h.slot, K⟩, outs'⟩ h.slot l g :=
  .exact (regs_putH hr _) hp hw fun k ρ => by
    have := hc k ρ
    simp only [tcount, hcount_putH, hcount_delH_some hr e k ρ]; omega

theorem Moves.del (hr : Regs regs) {r : Nat} {h : Hd} (e : getH regs r = some h)
    (hc : ∀ k ρ, pcount pc' k ρ + oc h.slot l k ρ = pcount pc k ρ + one h.slot (roleOf h.kind) k ρ)
    (hp : PcOk n ⟨prog', pc', delH regs r, outs'⟩ := by exact ⟨trivial, trivial⟩)
    (hw : WasOk ⟨prog', pc', delH regs r, outs'⟩ := by trivial) :
    Moves n ⟨prog, pc, regs, outs⟩ ⟨prog', pc', delH regs r, outs'⟩ h.slot l none :=
  .exact (regs_delH hr _) hp hw fun k ρ => by
    have := hc k ρ
    have h0 : oc h.slot none k ρ = 0 := rfl
    simp only [tcount, hcount_delH_some hr e k ρ]; omega

theorem Moves.put (hr : Regs regs) (x : Hd)
    (hcl : getH regs x.reg ≠ none → Clobbers ⟨prog, pc, regs, outs⟩)
    (hc : ∀ k ρ, pcount pc' k ρ + one x.slot (roleOf x.kind) k ρ + oc k₀ l k ρ = pcount pc k ρ + oc k₀ g k ρ)
    (hp : PcOk n ⟨prog', pc', putH regs x, outs'⟩ := by exact ⟨trivial, trivial⟩)
    (hw : WasOk ⟨prog', pc', putH regs x, outs'⟩ := by trivial) :
    Moves n ⟨prog, pc, regs, outs⟩ ⟨prog', pc', putH regs x, outs'⟩ k₀ l g := by
  refine ⟨regs_putH hr _, hp, hw, fun k ρ => ?_, fun _ hnc k ρ => ?_⟩
  · have := hc k ρ
    have := hcount_delH_le regs x.reg k ρ
    simp only [tcount, hcount_putH]; omega
  · have hfree : getH regs x.reg = none := Decidable.byContradiction fun h => hnc (hcl h)
    have := hc k ρ
    simp only [tcount, hcount_putH, delH_of_none hfree]; omega

end

/-- What `MInv` says about the stepping thread alone. -/
structure Local (s : Sys) (t : Thread) : Prop where
  pos : 0 < s.n
  regs : Regs t.regs
  pcok : PcOk s.n t
  cap : ∀ r h, getH t.regs r = some h → 0 < cap (s.slot h.slot).st (roleOf h.kind)

theorem Local.lt {s : Sys} {t : Thread} (L : Local s t) {r : Nat} {h : Hd} (e : getH t.regs r = some h) :
    h.slot < s.n :=
  st_ne_none_lt fun c => by have := L.cap r h e; rw [c, cap_none] at this; omega

variable {P : Nat → Prop} {s s' : Sys} {prog prog' outs outs' : List String} {pc pc' : Pc} {regs : List Hd}

theorem StepEff.quiet (hs : SameSt s s') (hr : Regs regs) (hc : pc'.claim = pc.claim)
    (hp : PcOk s.n ⟨prog', pc', regs, outs'⟩ := by exact ⟨trivial, trivial⟩)
    (hw : WasOk ⟨prog', pc', regs, outs'⟩ := by trivial) :
    StepEff P s ⟨prog, pc, regs, outs⟩ (s', ⟨prog', pc', regs, outs'⟩) :=
  ⟨0, none, none, .keep hs .stay (.goto hr (fun k ρ => by simp only [pcount, hc]) hp hw)⟩

theorem StepEff.giveUp (hs : SameSt s s') (hr : Regs regs) {k : Nat} (hc : pc.claim = some (k, .rx))
    (hc' : pc'.claim = none) (hp : PcOk s.n ⟨prog', pc', regs, outs'⟩ := by exact ⟨trivial, trivial⟩)
    (hw : WasOk ⟨prog', pc', regs, outs'⟩ := by trivial) :
    StepEff P s ⟨prog, pc, regs, outs⟩ (s', ⟨prog', pc', regs, outs'⟩) :=
  ⟨k, some .rx, none, .keep hs .giveUp
    (.goto hr (fun k' ρ => by simp only [pcount, hc, hc', oc]; omega) hp hw)⟩

theorem StepEff.retag (hs : SameSt s s') (hr : Regs regs) {r : Nat} {h : Hd} (e : getH regs r = some h)
    (K : HK) (hK : roleOf K = roleOf h.kind) (hp : PcOk s.n ⟨prog', pc', putH regs ⟨r, h.slot, K⟩, outs'⟩)
    (hc : pc'.claim = pc.claim) (hw : WasOk ⟨prog', pc', putH regs ⟨r, h.slot, K⟩, outs'⟩ := by trivial) :
    StepEff P s ⟨prog, pc, regs, outs⟩ (s', ⟨prog', pc', putH regs ⟨r, h.slot, K⟩, outs'⟩) :=
  ⟨h.slot, none, none, .keep hs .stay (.retag hr e K hp (fun k ρ => by simp only [pcount, hc, hK]) hw)⟩

/-- **The effect of one step**, for every program counter with all its branches. -/
theorem stepThread_effect {t : Thread} (L : Local s t)
    (hP : ∀ r, t.pc = .dfStore r ∨ t.pc = .poRelease r → P (slotOf t r)) :
    StepEff P s t (stepThread s t) := by
  obtain ⟨prog, pc, regs, outs⟩ := t
  have hR : Regs regs := L.regs
  cases pc with
  | idle =>
    obtain ⟨h1, h2⟩ := begin_spec s ⟨prog, .idle, regs, outs⟩
    show StepEff P s _ (begin s _)
    rw [show begin s ⟨prog, .idle, regs, outs⟩ = (s, (begin s ⟨prog, .idle, regs, outs⟩).2) from Prod.ext h1 rfl]
    generalize (begin s ⟨prog, .idle, regs, outs⟩).2 = t' at h2
    cases h2 with
    | same => exact .quiet (.refl _) hR rfl L.pcok
    | op prog' pc' outs' hc hp hw => exact .quiet (.refl _) hR hc (hp _) hw
    | trim prog' outs' e K hK => exact .retag (.refl _) hR e K hK ⟨trivial, trivial⟩ rfl
  | alWaker | tsRead | poWaker | puFetch =>
    simp only [stepThread]
    exact .quiet (.congr rfl) hR rfl ⟨L.pcok.1, trivial⟩
  | alFirst | mkHdr | rfClear =>
    simp only [stepThread]
    exact .quiet (.set _ _ _ rfl) hR rfl ⟨L.pcok.1, trivial⟩
  | rxState | rxMarker | rxVerify | itNext | itRead =>
    simp only [stepThread, Thread.done]
    repeat' split
    all_goals exact .quiet (.refl _) hR rfl ⟨L.pcok.1, trivial⟩
  | rxWake | vrRead =>
    simp only [stepThread, Thread.done]
    repeat' split
    all_goals exact .quiet (.refl _) hR rfl
  | alFetch r j =>
    simp only [stepThread]
    exact .quiet (.congr rfl) hR rfl ⟨trivial, Nat.mod_lt _ L.pos⟩
  | alCas r j idx =>
    have hlt : idx < s.n := L.pcok.2
    simp only [stepThread]
    split
    · next hst =>
      exact ⟨idx, none, some .creator, .set _ hlt (hst ▸ .claimCreated)
        (.goto hR fun _ _ => Nat.add_comm _ _)⟩
    · split <;> exact .quiet (.refl _) hR rfl
  | alBuf r k =>
    -- the claim moves from the program counter into register `r`
    simp only [stepThread, Thread.done]
    exact ⟨k, none, none, .keep (.set _ _ _ rfl) .stay
      (.put hR ⟨r, k, .created 0 none⟩ (fun h => ⟨r, Or.inl ⟨k, rfl⟩, h⟩)
        (fun k' ρ => by simp only [pcount, Pc.claim, oc, roleOf_created]; omega))⟩
  | puWrite r c data lenOv rest idx =>
    obtain ⟨⟨reg, k, kind⟩, e, hρ⟩ := L.pcok.1
    cases kind <;> simp at hρ
    rename_i count last
    have hdone : ∀ out, StepEff P s ⟨prog, .puWrite r c data lenOv rest idx, regs, outs⟩
        (s, ⟨prog, .idle, regs, out :: outs⟩) := fun _ => .quiet (.refl _) hR rfl
    have hset : ∀ (y : Slot) (c' : Nat) (l' : Option Nat) (out : String) (p : Option Nat),
        y.st = (s.slot k).st → StepEff P s ⟨prog, .puWrite r c data lenOv rest idx, regs, outs⟩
          (s.setSlot k y, ⟨prog, .puFirst r idx out p, putH regs ⟨r, k, .created c' l'⟩, outs⟩) :=
      fun y c' l' out p hy =>
        .retag (.set _ _ _ hy) hR e _ rfl ⟨⟨_, getH_putH_self _ _, rfl⟩, trivial⟩ rfl
    simp only [stepThread, e, Thread.done]
    repeat' split
    all_goals first
      | exact hdone _
      | exact hset _ _ _ _ _ rfl
  | puFirst r idx out patch =>
    simp only [stepThread, Thread.done]
    split
    · exact .quiet (.ite (.set _ _ _ rfl) (.refl _)) hR rfl ⟨L.pcok.1, trivial⟩
    · exact .quiet (.ite (.set _ _ _ rfl) (.refl _)) hR rfl
  | puPatch r out loc =>
    simp only [stepThread, Thread.done]
    exact .quiet (.set _ _ _ rfl) hR rfl
  | mkStore r a b =>
    -- plain store of `Sendable` by the creator, whose slot is `Created`
    obtain ⟨h, e, hρ⟩ := L.pcok.1
    have hst : (s.slot h.slot).st = .created := cap_pos (hρ ▸ L.cap r h e)
    simp only [stepThread, slotOf, e]
    exact ⟨h.slot, some .creator, some .fut, .set _ (L.lt e) (hst ▸ .markSendable)
      (.retag hR e _ ⟨⟨_, getH_putH_self _ _, rfl⟩, trivial⟩
        (fun k ρ => by simp only [pcount, Pc.claim, oc, hρ, roleOf_fut]; omega))⟩
  | mkDrop r =>
    -- the `Created → None` compare-exchange fails: this thread holds the future
    obtain ⟨h, e, hρ⟩ := L.pcok.1
    have hne : ¬ (s.slot h.slot).st = .created := fun hc => by
      have := L.cap r h e
      rw [hρ, hc] at this
      exact absurd this (by decide)
    simp only [stepThread, slotOf, e, if_neg hne, Thread.done]
    exact .quiet (.refl _) hR rfl
  | dcCas r =>
    obtain ⟨h, e, hρ⟩ := L.pcok.1
    have hst : (s.slot h.slot).st = .created := cap_pos (hρ ▸ L.cap r h e)
    simp only [stepThread, slotOf, e, if_pos hst, Thread.done]
    exact ⟨h.slot, some .creator, none, .set _ (L.lt e) (hst ▸ .dropCreated)
      (.del hR e (fun k ρ => by simp only [pcount, Pc.claim, oc, hρ]))⟩
  | tnCas r i =>
    simp only [stepThread, Thread.done]
    split
    · next hst =>
      exact ⟨i, none, some .tx, .set _ (st_ne_none_lt (hst ▸ by decide)) (hst ▸ .txClaim)
        (.put hR ⟨r, i, .sendable⟩ (fun h => ⟨r, Or.inr ⟨i, rfl⟩, h⟩)
          (fun k ρ => by simp only [pcount, Pc.claim, oc, roleOf_sendable]; omega))⟩
    · split <;> exact .quiet (.refl _) hR rfl
  | tsMark r o bytes =>
    obtain ⟨h, e, hρ⟩ := L.pcok.1
    have hst : (s.slot h.slot).st = .sending := cap_pos (hρ ▸ L.cap r h e)
    simp only [stepThread, slotOf, e, if_pos hst, Thread.done]
    refine ⟨h.slot, some .tx, none, .set _ (L.lt e) ?_
      (.del hR e (fun k ρ => by simp only [pcount, Pc.claim, oc, hρ]))⟩
    show Trans _ _ (if o = 0 then St.sent else St.sendable) _ _
    rw [hst]
    split
    · exact .txSent
    · exact .txRelease
  | rxClaim k p idx =>
    simp only [stepThread, Thread.done]
    split
    · next hst =>
      exact ⟨k, none, some .rx, .set _ (st_ne_none_lt (hst ▸ by decide)) (hst ▸ .rxClaim)
        (.goto hR fun _ _ => Nat.add_comm _ _)⟩
    · exact .quiet (.refl _) hR rfl
  | rxUnclaim k =>
    simp only [stepThread, Thread.done]
    exact ⟨k, some .rx, none, .cas k (by decide) .rxUnclaim .giveUp
      (.goto hR fun _ _ => Nat.add_comm _ _)⟩
  | rxCopy k p =>
    simp only [stepThread, Thread.done]
    split
    · exact .giveUp (.refl _) hR rfl rfl
    · exact .quiet (.set _ _ _ rfl) hR rfl
  | rxMark k =>
    simp only [stepThread, Thread.done]
    split
    · next hst =>
      exact ⟨k, some .rx, none, .set _ (st_ne_none_lt (hst ▸ by decide)) (hst ▸ .rxDone)
        (.goto hR fun _ _ => Nat.add_comm _ _)⟩
    · exact .giveUp (.refl _) hR rfl rfl
  | poCas r =>
    obtain ⟨⟨reg, k, kind⟩, e, hρ⟩ := L.pcok.1
    cases kind <;> simp at hρ
    rename_i retries deadline timeout armed
    simp only [stepThread, e, Thread.done]
    split
    · next hst =>
      exact ⟨k, some .fut, some .reader, .set _ (L.lt e) (hst ▸ .pollTake)
        (.retag hR e .received ⟨trivial, trivial⟩
          (fun k' ρ => by simp only [pcount, Pc.claim, oc, roleOf_received, roleOf_fut]; omega))⟩
    · next hnd =>
      -- the future's slot is in one of the in-flight states, so `invalidframestate` cannot be the answer
      have hok := (cap_pos (ρ := .fut) (L.cap r _ e)).imp_right fun h => h.imp_right fun h =>
        h.imp_right fun h => h.resolve_right hnd
      simp only [if_pos hok]
      split
      · split
        · exact .quiet (.refl _) hR rfl ⟨⟨_, e, rfl⟩, trivial⟩
        · exact .quiet (.refl _) hR rfl ⟨⟨_, e, rfl⟩, trivial⟩ hok
      · exact .retag (.refl _) hR e _ rfl ⟨trivial, trivial⟩ rfl
  | poRelease r | dfStore r =>
    obtain ⟨h, e, hρ⟩ := L.pcok.1
    have hp := hP r (by simp)
    simp only [stepThread, slotOf, e, Thread.done] at hp ⊢
    exact ⟨h.slot, some .fut, none, .set _ (L.lt e) (.abandon _ hp)
      (.del hR e (fun k ρ => by simp only [pcount, Pc.claim, oc, hρ]))⟩
  | poRetry r was dl =>
    obtain ⟨⟨reg, k, kind⟩, e, hρ⟩ := L.pcok.1
    cases kind <;> simp at hρ
    rename_i retries deadline timeout armed
    simp only [stepThread, e, Thread.done]
    split
    · exact ⟨k, none, none, .cas k (by decide) .retry .stay (.retag hR e _ ⟨trivial, trivial⟩ (fun _ _ => rfl))⟩
    · next hw =>
      -- `was` is not a status the future can be in: the handle is dropped, its claim forgotten
      exact ⟨k, none, none, .cas k (by decide) .retry .stay ⟨regs_delH hR _, ⟨trivial, trivial⟩, trivial,
        fun k' ρ => Nat.add_le_add_right (Nat.add_le_add_left (hcount_delH_le regs r k' ρ) _) _,
        fun h => absurd h hw⟩⟩
  | fpRead r code idx =>
    obtain ⟨h, e, hρ⟩ := L.pcok.1
    have hclr : ∀ out, StepEff P s ⟨prog, .fpRead r code idx, regs, outs⟩
        (s, ⟨prog, .rfClear r out, regs, outs⟩) := fun _ => .quiet (.refl _) hR rfl ⟨⟨h, e, hρ⟩, trivial⟩
    have hview : ∀ (out : String) (off len wkc : Nat), StepEff P s ⟨prog, .fpRead r code idx, regs, outs⟩
        (s, ⟨prog, .idle, putH regs ⟨r, h.slot, .view off len wkc⟩, out :: outs⟩) :=
      fun _ _ _ _ => .retag (.refl _) hR e _ hρ.symm ⟨trivial, trivial⟩ rfl
    simp only [stepThread, slotOf, e, Thread.done]
    repeat' split
    all_goals first
      | exact hclr _
      | exact hview _ _ _ _
  | rfCas r out =>
    obtain ⟨h, e, hρ⟩ := L.pcok.1
    have hst : (s.slot h.slot).st = .rxProcessing := cap_pos (hρ ▸ L.cap r h e)
    simp only [stepThread, slotOf, e, if_pos hst, Thread.done]
    exact ⟨h.slot, some .reader, none, .set _ (L.lt e) (hst ▸ .readerDrop)
      (.del hR e (fun k ρ => by simp only [pcount, Pc.claim, oc, hρ]))⟩

end Ec.Micro
