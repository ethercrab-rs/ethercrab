/-
  The frame-building invariant `FInv` (C04): the datagram area of a frame under construction is the independent
  encoding of the datagrams accepted so far, followed by zeros; `commit` preserves it. At the end, the two push
  functions in terms of `commit`.
-/
import EcModel.Frame

namespace Ec

theorem setRange_append (A B Y : List Nat) (n : Nat) (hn : n = A.length) :
    setRange (A ++ B) n Y = A ++ Y ++ B.drop Y.length := by
  subst hn
  rw [setRange, List.take_left, List.drop_append, List.drop_eq_nil_of_le (Nat.le_add_right _ _), List.nil_append,
    Nat.add_sub_cancel_left]

theorem setRange_mid (A X B Y : List Nat) (n : Nat) (hn : n = A.length) (h : X.length = Y.length) :
    setRange (A ++ X ++ B) n Y = A ++ Y ++ B := by
  rw [List.append_assoc, setRange_append _ _ _ _ hn, ← h, List.drop_left]

theorem zeros_add (a b : Nat) : zeros (a + b) = zeros a ++ zeros b := by
  simp [zeros]

theorem Cmd.pack_length (c : Cmd) : c.pack.length = 4 := by
  cases c <;> rfl

theorem flagsPack_length (l : Nat) (c m : Bool) : (flagsPack l c m).length = 2 := rfl

theorem pduHeader_length (c : Cmd) (i l : Nat) (m : Bool) : (pduHeader c i l m).length = 10 := by
  simp [pduHeader, Cmd.pack_length, flagsPack_length, le16]

/-- `PduFlags` round trip as the frame path uses it: `circulated` is never set. -/
theorem flagsUnpack_pack (l : Nat) (m : Bool) (hl : l < 2048) (rest : List Nat) :
    flagsUnpack (flagsPack l false m ++ rest) = (l, false, m) := by
  -- the packed word is `l`, plus 2^15 if `m`; below 2^16 it reads back as written
  have h0 : ∀ k, 2048 ≤ k → l / k = 0 := fun k hk => Nat.div_eq_of_lt (Nat.lt_of_lt_of_le hl hk)
  cases m
  · show flagsUnpack (le16 (l % 2048) ++ rest) = _
    rw [Nat.mod_eq_of_lt hl, flagsUnpack, rd16_le16_append l (Nat.lt_trans hl (by decide))]
    show (l % 2048, l / 16384 % 2 == 1, l / 32768 % 2 == 1) = _
    rw [Nat.mod_eq_of_lt hl, h0 _ (by decide), h0 _ (by decide)]
    rfl
  · show flagsUnpack (le16 (l % 2048 + 32768) ++ rest) = _
    rw [Nat.mod_eq_of_lt hl, flagsUnpack,
      rd16_le16_append (l + 32768) (Nat.lt_trans (Nat.add_lt_add_right hl _) (by decide))]
    show ((l + 2048 * 16) % 2048, (l + 16384 * 2) / 16384 % 2 == 1, (l + 32768) / 32768 % 2 == 1) = _
    rw [Nat.add_mul_mod_self_left, Nat.mod_eq_of_lt hl, Nat.add_mul_div_left _ _ (by decide), h0 _ (by decide),
      Nat.add_div_right _ (by decide), h0 _ (by decide)]
    rfl

theorem Dgram.encode_length (d : Dgram) (m : Bool) (h : d.data.length ≤ d.len) :
    (d.encode m).length = d.size := by
  simp [Dgram.encode, pduHeader_length, zeros_length, Dgram.size, PDU_OVERHEAD]; omega

/-- Datagrams before the last one, all with `more follows`. -/
def encMore (ds : List Dgram) : List Nat := ds.flatMap (·.encode true)

theorem encMore_snoc (ds : List Dgram) (d : Dgram) :
    encMore (ds ++ [d]) = encMore ds ++ d.encode true := by
  simp [encMore]

theorem encodeDgrams_snoc (ds : List Dgram) (d : Dgram) :
    encodeDgrams (ds ++ [d]) = encMore ds ++ d.encode false := by
  induction ds with
  | nil => rfl
  | cons x xs ih =>
    cases xs with
    | nil => simp [encodeDgrams, encMore]
    | cons y ys =>
      simp only [List.cons_append, encodeDgrams] at ih ⊢
      rw [ih]; simp [encMore]

theorem dgramsSize_nil : dgramsSize [] = 0 := rfl

theorem dgramsSize_eq_sum (ds : List Dgram) : dgramsSize ds = (ds.map Dgram.size).sum :=
  List.sum_eq_foldl.symm

theorem dgramsSize_snoc (ds : List Dgram) (d : Dgram) :
    dgramsSize (ds ++ [d]) = dgramsSize ds + d.size := by
  simp [dgramsSize_eq_sum]

theorem encMore_length (ds : List Dgram) (h : ∀ d ∈ ds, d.data.length ≤ d.len) :
    (encMore ds).length = dgramsSize ds := by
  induction ds with
  | nil => rfl
  | cons x xs ih =>
    rw [List.forall_mem_cons] at h
    have := ih h.2
    simp only [encMore, dgramsSize_eq_sum, List.flatMap_cons, List.length_append, List.map_cons,
      List.sum_cons] at this ⊢
    rw [this, Dgram.encode_length x true h.1]

theorem encodeDgrams_length (ds : List Dgram) (h : ∀ d ∈ ds, d.data.length ≤ d.len) :
    (encodeDgrams ds).length = dgramsSize ds := by
  rcases List.eq_nil_or_concat ds with rfl | ⟨xs, x, rfl⟩
  · rfl
  · rw [List.concat_eq_append, List.forall_mem_append, List.forall_mem_singleton] at h
    rw [List.concat_eq_append, encodeDgrams_snoc, List.length_append, encMore_length xs h.1,
      Dgram.encode_length x false h.2, dgramsSize_snoc]

theorem write_dgram (P : List Nat) (R u : Nat) (hu : u = P.length) (c : Cmd) (idx dl : Nat) (bytes : List Nat)
    (hb : bytes.length ≤ dl) (hfit : dl + 12 ≤ R) :
    setRange (setRange (P ++ zeros R) u (pduHeader c idx dl false)) (u + 10) bytes
      = P ++ Dgram.encode ⟨c, idx, dl, bytes⟩ false ++ zeros (R - (dl + 12)) := by
  have e : zeros R = zeros 10 ++ (zeros bytes.length ++ (zeros (dl - bytes.length) ++ zeros 2 ++
      zeros (R - (dl + 12)))) := by
    rw [← zeros_add, ← zeros_add, ← zeros_add, ← zeros_add]; exact congrArg zeros (by omega)
  rw [e, ← List.append_assoc,
    setRange_mid P _ _ _ u hu (by rw [zeros_length, pduHeader_length]), ← List.append_assoc,
    setRange_mid _ _ _ bytes _ (by rw [List.length_append, pduHeader_length, hu]) (zeros_length _)]
  simp [Dgram.encode, zeros]

theorem patchMore_encode (A B : List Nat) (loc : Nat) (hloc : loc = A.length) (d : Dgram) (hl : d.len < 2048) :
    patchMore (A ++ d.encode false ++ B) loc = A ++ d.encode true ++ B := by
  -- a datagram is six bytes (command code, index, raw command), the flags, and the rest
  have split : ∀ m, A ++ d.encode m ++ B = A ++ ([d.cmd.code, d.idx] ++ d.cmd.pack) ++ flagsPack d.len false m ++
      (le16 0 ++ d.data ++ zeros (d.len - d.data.length) ++ [0, 0] ++ B) := fun m => by
    simp [Dgram.encode, pduHeader]
  have hpre : loc + 6 = (A ++ ([d.cmd.code, d.idx] ++ d.cmd.pack)).length := by
    rw [List.length_append, List.length_append, Cmd.pack_length, hloc]; rfl
  rw [split, split, patchMore, hpre, List.append_assoc (A ++ _), List.drop_left, flagsUnpack_pack _ _ hl,
    ← List.append_assoc]
  exact setRange_mid _ _ _ _ _ rfl ((flagsPack_length ..).trans (flagsPack_length ..).symm)

/-- Invariant relating a frame under construction to the list of accepted datagrams. -/
structure FInv (f : CFrame) (acc : List Dgram) : Prop where
  eth : f.eth = ethHeader
  plen : f.pdu.length = f.cap - 16
  used : f.used = dgramsSize acc
  fits : f.used ≤ f.cap - 16
  wf : ∀ d ∈ acc, d.data.length ≤ d.len
  small : ∀ d ∈ acc, d.len < 2048
  count : f.count = acc.length
  shape : (acc = [] ∧ f.last = none ∧ f.pdu = zeros (f.cap - 16)) ∨
          (∃ ds d, acc = ds ++ [d] ∧ f.last = some (dgramsSize ds) ∧
             f.pdu = encMore ds ++ d.encode false ++ zeros (f.cap - 16 - f.used))

theorem FInv.init (cap : Nat) : FInv (CFrame.init cap) [] :=
  ⟨rfl, zeros_length _, rfl, Nat.zero_le _, List.forall_mem_nil _, List.forall_mem_nil _, rfl, Or.inl ⟨rfl, rfl, rfl⟩⟩

theorem commit_cap (f : CFrame) (c : Cmd) (idx dl : Nat) (bytes : List Nat) :
    (f.commit c idx dl bytes).1.cap = f.cap := rfl

theorem commit_used (f : CFrame) (c : Cmd) (idx dl : Nat) (bytes : List Nat) :
    (f.commit c idx dl bytes).1.used = f.used + (dl + 12) := rfl

/-- The datagram area is `encodeDgrams acc`, then zeros; what `commit` does besides writing after it (set `more
    follows` in the last header, if there is one) turns `encodeDgrams acc` into `encMore acc`. -/
theorem FInv.area {f : CFrame} {acc : List Dgram} (h : FInv f acc) :
    f.pdu = encodeDgrams acc ++ zeros (f.cap - 16 - f.used) ∧
    (∀ E, (match f.last with
           | some loc => patchMore (encodeDgrams acc ++ E) loc
           | none => encodeDgrams acc ++ E) = encMore acc ++ E) ∧
    (match f.last with
     | some _ => some f.used
     | none => some 0) = some (dgramsSize acc) := by
  rcases h.shape with ⟨rfl, hlast, hpdu⟩ | ⟨ds, d, rfl, hlast, hpdu⟩
  · rw [hlast, hpdu, h.used]; exact ⟨rfl, fun _ => rfl, rfl⟩
  · have hw := h.wf; have hs := h.small
    rw [List.forall_mem_append, List.forall_mem_singleton] at hw hs
    rw [hlast, hpdu, encodeDgrams_snoc, h.used]
    exact ⟨rfl, fun E => by
      rw [encMore_snoc]; exact patchMore_encode _ E _ (encMore_length ds hw.1).symm d hs.2, rfl⟩

theorem FInv.commit {f : CFrame} {acc : List Dgram} (h : FInv f acc) (c : Cmd) (idx dl : Nat)
    (bytes : List Nat) (hb : bytes.length ≤ dl) (hfit' : f.used + (dl + PDU_OVERHEAD) ≤ f.pdu.length)
    (hcap : f.cap ≤ 2063) :
    FInv (f.commit c idx dl bytes).1 (acc ++ [⟨c, idx, dl, bytes⟩]) := by
  have hfit : f.used + (dl + 12) ≤ f.cap - 16 := by rw [← h.plen]; exact hfit'
  obtain ⟨hpdu, hpatch, hlast⟩ := h.area
  have hlen : f.used = (encodeDgrams acc).length := by rw [h.used, encodeDgrams_length acc h.wf]
  have hwf : ∀ x ∈ acc ++ [⟨c, idx, dl, bytes⟩], x.data.length ≤ x.len := by
    rw [List.forall_mem_append, List.forall_mem_singleton]; exact ⟨h.wf, hb⟩
  have hp : (f.commit c idx dl bytes).1.pdu
      = encMore acc ++ Dgram.encode ⟨c, idx, dl, bytes⟩ false ++ zeros (f.cap - 16 - f.used - (dl + 12)) := by
    simp only [CFrame.commit]
    rw [hpdu, write_dgram _ _ _ hlen c idx dl bytes hb (Nat.le_sub_of_add_le' hfit), List.append_assoc,
      List.append_assoc]
    exact hpatch _
  exact {
    eth := h.eth
    plen := by
      rw [hp, commit_cap, List.length_append, List.length_append, encMore_length acc h.wf,
        Dgram.encode_length _ false hb, zeros_length, ← h.used, Nat.sub_sub]
      exact Nat.add_sub_cancel' hfit
    used := by rw [commit_used, dgramsSize_snoc, h.used]; rfl
    fits := by rw [commit_used, commit_cap]; exact hfit
    wf := hwf
    small := by
      rw [List.forall_mem_append, List.forall_mem_singleton]
      refine ⟨h.small, ?_⟩
      calc dl ≤ f.used + (dl + 12) := Nat.le_trans (Nat.le_add_right _ _) (Nat.le_add_left _ _)
        _ ≤ f.cap - 16 := hfit
        _ < 2048 := Nat.lt_of_le_of_lt (Nat.sub_le_sub_right hcap 16) (by decide)
    count := by show f.count + 1 = _; rw [h.count, List.length_append]; rfl
    shape := .inr ⟨acc, _, rfl, hlast, by rw [hp, commit_used, commit_cap, Nat.sub_sub (f.cap - 16)]⟩ }

theorem FInv.asBytes {f : CFrame} {acc : List Dgram} (h : FInv f acc) :
    f.markSendable.asBytes = encodeFrame acc := by
  have hl := encodeDgrams_length acc h.wf
  rw [← h.used] at hl
  show f.eth ++ ecatHeader f.used ++ f.pdu.take f.used = _
  rw [h.area.1, ← hl, List.take_left, hl, h.eth, h.used]; rfl

theorem FInv.asBytes_length {f : CFrame} {acc : List Dgram} (h : FInv f acc) :
    f.markSendable.asBytes.length = 16 + f.used := by
  rw [h.asBytes, encodeFrame, List.length_append, encodeDgrams_length acc h.wf, h.used]
  simp [ethHeader, Gen.MAINDEVICE_ADDR, ecatHeader, le16]

theorem declLen_ge (data : List Nat) (lenOv : Option Nat) : data.length ≤ declLen data lenOv := by
  unfold declLen; split <;> omega

theorem CFrame.pushPdu_fit {f : CFrame} {data : List Nat} {lenOv : Option Nat}
    (hfit : f.used + (declLen data lenOv + PDU_OVERHEAD) ≤ f.pdu.length) (c : Cmd) (idx : Nat) :
    f.pushPdu c data lenOv idx
      = ((f.commit c idx (declLen data lenOv) data).1, some (f.commit c idx (declLen data lenOv) data).2) :=
  if_pos hfit

theorem CFrame.pushPdu_nofit {f : CFrame} {data : List Nat} {lenOv : Option Nat}
    (hfit : ¬ f.used + (declLen data lenOv + PDU_OVERHEAD) ≤ f.pdu.length) (c : Cmd) (idx : Nat) :
    f.pushPdu c data lenOv idx = (f, none) :=
  if_neg hfit

theorem restLen_fits {f : CFrame} (bytes : List Nat) (h : ¬ f.pdu.length - f.used ≤ 12) :
    f.used + (restLen f bytes + PDU_OVERHEAD) ≤ f.pdu.length := by
  simp only [restLen, PDU_OVERHEAD]; omega

/-- The `TooLong` branch is dead: what is pushed is cut to the room there is. -/
theorem CFrame.pushRest_eq (f : CFrame) (c : Cmd) (bytes : List Nat) (idx : Nat) :
    f.pushRest c bytes idx =
      if bytes = [] ∨ f.pdu.length - f.used ≤ 12 then (f, .none, false)
      else ((f.commit c idx (restLen f bytes) (bytes.take (restLen f bytes))).1,
        .some (restLen f bytes) (f.commit c idx (restLen f bytes) (bytes.take (restLen f bytes))).2, true) := by
  unfold CFrame.pushRest
  cases bytes with
  | nil => simp
  | cons b bs =>
    have : f.pdu.length - f.used - PDU_OVERHEAD = 0 ↔ f.pdu.length - f.used ≤ 12 := Nat.sub_eq_zero_iff_le
    simp only [List.isEmpty_cons, Bool.false_eq_true, if_false, this, reduceCtorEq, false_or]
    split
    · rfl
    · rw [if_pos (restLen_fits _ ‹_›)]

end Ec
