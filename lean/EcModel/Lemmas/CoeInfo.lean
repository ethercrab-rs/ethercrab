/-
  C16 helper lemmas for the SDO-information loop: panic-freedom, buffer bound, number of mailbox reads; and, for
  both client loops, the devices that used to keep them running for ever (zero-length segments and fragments).
-/
import EcModel.Lemmas.CoeBasic

namespace Ec.Coe
open Ec.Gen.Coe

/-- Everything one iteration can do with a reply: an error, or a fragment of `n` bytes of the trimmed view appended
    within the capacity — with `n ≠ 0` if it announces another one (fix-c16-endless-loops). -/
theorem infoStep_cases (cfg : Cfg) (p : Pdu) (consumed : Bool) (buf : List Nat) :
    (∃ e, infoStep cfg p consumed buf = .err e) ∨
    ∃ n inc, n ≤ (infoTrim p consumed).len ∧ (buf ++ (infoTrim p consumed).bytes.take n).length ≤ INFO_BUF_CAP ∧
      (inc = true → n ≠ 0) ∧ infoStep cfg p consumed buf = .ok (.frag (buf ++ (infoTrim p consumed).bytes.take n) inc) := by
  unfold infoStep
  have hnp := unpackListResponse_noPanic p.bytes
  cases hd : unpackListResponse p.bytes with
  | err e => exact .inl ⟨e, rfl⟩
  | panic why => rw [hd] at hnp; cases hnp
  | ok h =>
    rw [Res.bind_ok]
    generalize h.mailbox.length - COE_HEADER_AND_LIST_TYPE_SIZE = n
    refine ite_elim ?_ fun _ => .inl ⟨_, rfl⟩
    refine ite_elim (.inl ⟨_, rfl⟩) fun _ => ?_
    refine ite_elim (.inl ⟨_, rfl⟩) fun h2 => ?_
    refine ite_elim (.inl ⟨_, rfl⟩) fun h3 => ?_
    refine ite_elim (.inl ⟨_, rfl⟩) fun h4 => ?_
    refine .inr ⟨n, h.incomplete, Nat.le_of_not_gt h2, ?_, fun hi hn => h4 ?_, rfl⟩
    · rw [List.length_append]; exact Nat.le_of_not_gt h3
    · rw [hi, hn]; rfl

/-- One iteration of the loop: it ends the request after this read, without a panic and with at most the capacity,
    or the buffer has grown by at least one byte and the loop goes on. -/
theorem infoLoop_cons (cfg : Cfg) (m : List Nat) (q : List (List Nat)) (consumed : Bool) (buf : List Nat) (reads : Nat) :
    (∃ x, infoLoop cfg (m :: q) consumed buf reads = (x, q, reads + 1) ∧ Res.isPanic x = false ∧
      ∀ out, x = .ok out → out.length ≤ INFO_BUF_CAP) ∨
    ∃ buf', buf.length < buf'.length ∧ buf'.length ≤ INFO_BUF_CAP ∧
      infoLoop cfg (m :: q) consumed buf reads = infoLoop cfg q true buf' (reads + 1) := by
  rw [infoLoop]
  rcases infoStep_cases cfg (mkPdu cfg (image cfg.rmbx m)) consumed buf with ⟨e, h⟩ | ⟨n, inc, hn, hcap, hinc, h⟩ <;>
    rw [h]
  · exact .inl ⟨_, rfl, rfl, fun _ h => nomatch h⟩
  · cases inc with
    | false => exact .inl ⟨_, rfl, rfl, fun out h => by cases h; exact hcap⟩
    | true =>
      refine .inr ⟨_, ?_, hcap, rfl⟩
      have := hinc rfl
      rw [List.length_append, List.length_take, Pdu.bytes_length _ (infoTrim_inFrame _ consumed mkPdu_inFrame)]
      omega

/-- The loop as a whole, from a buffer within the capacity: no panic, a result within the capacity, one message taken
    out of the queue per read, and at most one read per byte of capacity left, plus one. -/
theorem infoLoop_spec (cfg : Cfg) : ∀ (q : List (List Nat)) (consumed : Bool) (buf : List Nat) (reads : Nat),
    buf.length ≤ INFO_BUF_CAP →
      Res.isPanic (infoLoop cfg q consumed buf reads).1 = false ∧
      (∀ out, (infoLoop cfg q consumed buf reads).1 = .ok out → out.length ≤ INFO_BUF_CAP) ∧
      (infoLoop cfg q consumed buf reads).2.2 + (infoLoop cfg q consumed buf reads).2.1.length = reads + q.length ∧
      (infoLoop cfg q consumed buf reads).2.2 ≤ reads + (INFO_BUF_CAP - buf.length) + 1 := by
  intro q
  induction q with
  | nil => intro _ _ reads _; exact ⟨rfl, fun _ h => (nomatch h), rfl, by show reads ≤ _; omega⟩
  | cons m q ih =>
    intro consumed buf reads hb
    rcases infoLoop_cons cfg m q consumed buf reads with ⟨x, hx, hnp, hout⟩ | ⟨buf', hlt, hcap, hx⟩ <;> rw [hx]
    · exact ⟨hnp, hout, Nat.add_right_comm _ _ _, by show reads + 1 ≤ _; omega⟩
    · obtain ⟨h1, h2, h3, h4⟩ := ih true buf' (reads + 1) hcap
      exact ⟨h1, h2, h3.trans (Nat.add_right_comm _ _ _), by omega⟩

theorem sendSdoInfoService_noPanic {σ : Type} (w : World σ) (cfg : Cfg) (req : List Nat) (s : St σ) :
    Res.isPanic (sendSdoInfoService w cfg req s).1 = false := by
  unfold sendSdoInfoService
  split
  · rfl
  · dsimp only
    rw [Res.map_isPanic]
    exact (infoLoop_spec cfg _ false [] 0 (Nat.zero_le _)).1

/-- Upload segment response (command 3, as ethercrab requires), not last, mailbox length 3: zero data bytes. -/
def zeroSeg : List Nat := [3, 0, 0, 0, 0, 0x33, 0, 0x30, 0x60]

/-- A 32-byte mailbox in a checked build. -/
def cfg32 : Cfg :=
  { mode := .checked, rmbx := 32, wmbx := 32, hasMailbox := true, pre := [], post := [] }

def zeroSegHdr : SdoSegmented :=
  { header := { length := 3, priority := 0, mailboxType := 3, counter := 3 }, service := 3, isLast := false,
    segDataSize := 0, toggle := false, command := 3 }

theorem triage_zeroSeg :
    triageB unpackSdoSegmented (fun _ _ => true) (image cfg32.rmbx zeroSeg) = .ok (zeroSegHdr, zeros 20) := by
  decide +kernel

theorem segLoop_zero {σ : Type} (w : World σ) (cfg : Cfg) (fuel : Nat) (toggle : Bool) (buf : List Nat) (total : Nat)
    (s s' : St σ) (h : SdoSegmented) (data : List Nat) (ht : total ≤ buf.length)
    (hlen : h.header.length = SEGMENT_HEADER_LEN) (hlast : h.isLast = false)
    (hr : mailboxWriteRead w cfg (segmentRequest s.ctr toggle) unpackSdoSegmented (fun _ _ => true) (mailboxCounter s).2 =
      (.ok (h, data), s')) :
    segLoop w cfg (fuel + 1) toggle buf total s = (.err .internal, s') := by
  rw [segLoop]
  dsimp only
  rw [mailboxCounter_fst, hr]
  dsimp only
  rw [hlen, hlast, if_neg (Nat.lt_irrefl _), Nat.sub_self, if_neg (show ¬ ((0 : Nat) == SEGMENT_MIN_DATA) = true by decide),
    if_neg (Nat.not_lt_zero _), if_neg (show ¬ total + 0 > buf.length from Nat.not_lt.mpr ht), if_neg Bool.false_ne_true]
  rfl

/-- The former witness of c16/segment-endless: however many zero-length non-final segments the device has in store,
    the transfer ends after ONE request. -/
theorem segLoop_zeroSegs_fixed (n fuel : Nat) (toggle : Bool) (buf : List Nat) (total ctr : Nat)
    (reqs : List (List Nat)) (reads : Nat) (ht : total ≤ buf.length) :
    (segLoop scriptWorld cfg32 (fuel + 1) toggle buf total
        { ctr := ctr, dev := List.replicate (n + 1) [zeroSeg], outq := [], reqs := reqs, reads := reads }).1 = .err .internal ∧
    (segLoop scriptWorld cfg32 (fuel + 1) toggle buf total
        { ctr := ctr, dev := List.replicate (n + 1) [zeroSeg], outq := [], reqs := reqs, reads := reads }).2.reads = reads + 1 := by
  rw [segLoop_zero scriptWorld cfg32 fuel toggle buf total
    { ctr := ctr, dev := List.replicate (n + 1) [zeroSeg], outq := [], reqs := reqs, reads := reads } _ _ _ ht rfl rfl
    ((mwr_answered scriptWorld cfg32 _ rfl (Nat.zero_le _) _ _ rfl).trans (congrArg (fun x => (x, _)) triage_zeroSeg))]
  exact ⟨rfl, rfl⟩

/-- Get-OD-List response fragment, "more follow", mailbox length 8: zero data bytes. -/
def zeroFrag : List Nat := [8, 0, 0, 0, 0, 0x73, 0, 0x80, 0x82, 0, 1, 0, 0, 0]

def cfg16 : Cfg :=
  { mode := .checked, rmbx := 16, wmbx := 16, hasMailbox := true, pre := [], post := [] }

def zeroFragHdr : ListResponse :=
  { mailbox := { length := 8, priority := 0, mailboxType := 3, counter := 7 }, service := 8, opCode := 2,
    incomplete := true, fragmentsLeft := 1 }

theorem unpack_zeroFrag : unpackListResponse (mkPdu cfg16 (image cfg16.rmbx zeroFrag)).bytes = .ok zeroFragHdr := by
  decide +kernel

theorem infoStep_zero (cfg : Cfg) (p : Pdu) (consumed : Bool) (buf : List Nat) (h : ListResponse)
    (hb : buf.length ≤ INFO_BUF_CAP) (hh : unpackListResponse p.bytes = .ok h) (hop : h.opCode = opListResponse)
    (hlen : h.mailbox.length = COE_HEADER_AND_LIST_TYPE_SIZE) (hinc : h.incomplete = true) :
    infoStep cfg p consumed buf = .err .internal := by
  unfold infoStep
  rw [hh, Res.bind_ok, hop, hlen, hinc, if_pos (beq_self_eq_true _), if_neg (Nat.lt_irrefl _), Nat.sub_self,
    if_neg (Nat.not_lt_zero _), List.take_zero, List.length_nil,
    if_neg (show ¬ buf.length + 0 > INFO_BUF_CAP from Nat.not_lt.mpr hb)]
  rfl

theorem infoLoop_zeroFrags_fixed (n : Nat) (consumed : Bool) (buf : List Nat) (reads : Nat)
    (hb : buf.length ≤ INFO_BUF_CAP) :
    infoLoop cfg16 (List.replicate (n + 1) zeroFrag) consumed buf reads =
      (.err .internal, List.replicate n zeroFrag, reads + 1) := by
  have h := infoStep_zero cfg16 _ consumed buf zeroFragHdr hb unpack_zeroFrag (by decide +kernel) rfl rfl
  rw [List.replicate_succ, infoLoop, h]

end Ec.Coe
