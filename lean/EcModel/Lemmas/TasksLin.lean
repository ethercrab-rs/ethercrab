/-
  The segment log of EcModel.Tasks as a sequential execution: appending to it, replaying it, dropping
  commuting requests of other tasks, a task program run alone; LRW commutation.
-/
import EcModel.Tasks

namespace Ec.Tasks

variable {Rq Rs σ : Type}

theorem respsOf_append (t u : Nat) (log : List (Nat × Rq × Rs)) (rq : Rq) (rs : Rs) :
    respsOf t (log ++ [(u, rq, rs)]) = if u = t then respsOf t log ++ [rs] else respsOf t log := by
  unfold respsOf
  by_cases h : u = t <;> simp [List.filter_append, h]

theorem reqsOf_append (t u : Nat) (log : List (Nat × Rq × Rs)) (rq : Rq) (rs : Rs) :
    reqsOf t (log ++ [(u, rq, rs)]) = if u = t then reqsOf t log ++ [rq] else reqsOf t log := by
  unfold reqsOf
  by_cases h : u = t <;> simp [List.filter_append, h]

theorem reqsOf_length (t : Nat) (log : List (Nat × Rq × Rs)) :
    (reqsOf t log).length = (respsOf t log).length := by
  rw [reqsOf, respsOf, List.length_map, List.length_map]

theorem valid_append (seg : σ → Rq → σ × Rs) (s : σ) (log : List (Nat × Rq × Rs)) (x : Nat × Rq × Rs) :
    Valid seg s (log ++ [x]) ↔ Valid seg s log ∧ (seg (endState seg s log) x.2.1).2 = x.2.2 := by
  induction log generalizing s with
  | nil => simp [Valid, endState]
  | cons y r ih => simp [Valid, endState, ih, and_assoc]

theorem endState_append (seg : σ → Rq → σ × Rs) (s : σ) (log : List (Nat × Rq × Rs)) (x : Nat × Rq × Rs) :
    endState seg s (log ++ [x]) = (seg (endState seg s log) x.2.1).1 := by
  induction log generalizing s with
  | nil => rfl
  | cons y r ih => exact ih _

theorem follows_append {next : List Rs → Option Rq} {reqs : List Rq} {resps : List Rs} {rq : Rq} (rs : Rs)
    (hf : Follows next reqs resps) (hl : reqs.length = resps.length) (hn : next resps = some rq) :
    Follows next (reqs ++ [rq]) (resps ++ [rs]) := by
  intro k r hk
  rcases Nat.lt_or_ge k reqs.length with h1 | h1
  · rw [List.getElem?_append_left h1] at hk
    rw [List.take_append_of_le_length (hl ▸ Nat.le_of_lt h1)]
    exact hf k r hk
  · rw [List.getElem?_append_right h1] at hk
    cases h0 : k - reqs.length with
    | succ n => rw [h0] at hk; cases hk
    | zero =>
      rw [h0] at hk; cases hk
      rw [Nat.le_antisymm (Nat.le_of_sub_eq_zero h0) h1, hl, List.take_left]
      exact hn

theorem follows_asked {next : List Rs → Option Rq} {reqs : List Rq} {resps : List Rs} {rq : Rq}
    (hf : Follows next reqs resps) (h : rq ∈ reqs) : ∃ hist, next hist = some rq :=
  let ⟨k, hk⟩ := List.mem_iff_getElem?.1 h
  ⟨_, hf k rq hk⟩

theorem valid_seqRun {seg : σ → Rq → σ × Rs} {s : σ} {log : List (Nat × Rq × Rs)} (hv : Valid seg s log) :
    seqRun seg s (log.map (fun x => x.2.1)) = (log.map (fun x => x.2.2), endState seg s log) := by
  induction log generalizing s with
  | nil => rfl
  | cons x r ih =>
    obtain ⟨h1, h2⟩ := hv
    simp only [List.map_cons, seqRun, endState, ih h2, h1]

theorem valid_skip {seg : σ → Rq → σ × Rs} {a : Rq} {M : List (Nat × Rq × Rs)} {s : σ}
    (hc : ∀ x ∈ M, Commute seg a x.2.1) (hv : Valid seg (seg s a).1 M) : Valid seg s M := by
  induction M generalizing s with
  | nil => trivial
  | cons x r ih =>
    obtain ⟨h1, h2⟩ := hv
    have c := hc x (List.mem_cons_self ..) s
    refine ⟨by rw [← c.1]; exact h1, ?_⟩
    apply ih (fun y hy => hc y (List.mem_cons_of_mem _ hy))
    rw [← c.2]; exact h2

theorem valid_filter {seg : σ → Rq → σ × Rs} (t : Nat) {L : List (Nat × Rq × Rs)} {s : σ}
    (hc : ∀ x ∈ L, ∀ y ∈ L, x.1 ≠ y.1 → Commute seg x.2.1 y.2.1) (hv : Valid seg s L) :
    Valid seg s (L.filter (fun x => x.1 == t)) := by
  induction L generalizing s with
  | nil => trivial
  | cons x r ih =>
    obtain ⟨h1, h2⟩ := hv
    have ihr := ih (fun a ha b hb => hc a (List.mem_cons_of_mem _ ha) b (List.mem_cons_of_mem _ hb)) h2
    by_cases hx : x.1 = t
    · rw [List.filter_cons_of_pos (by exact beq_iff_eq.2 hx)]
      exact ⟨h1, ihr⟩
    · rw [List.filter_cons_of_neg (by exact mt beq_iff_eq.1 hx)]
      refine valid_skip (fun y hy => ?_) ihr
      obtain ⟨hm, hy⟩ := List.mem_filter.1 hy
      exact hc x (List.mem_cons_self ..) y (List.mem_cons_of_mem _ hm) (beq_iff_eq.1 hy ▸ hx)

theorem alone_of_valid {seg : σ → Rq → σ × Rs} {next : List Rs → Option Rq} {L : List (Nat × Rq × Rs)}
    {s : σ} (h : List Rs)
    (hf : ∀ k rq, (L.map (fun x => x.2.1))[k]? = some rq → next (h ++ (L.map (fun x => x.2.2)).take k) = some rq)
    (hv : Valid seg s L) :
    alone seg next L.length s h = h ++ L.map (fun x => x.2.2) := by
  induction L generalizing s h with
  | nil => exact (List.append_nil h).symm
  | cons x r ih =>
    obtain ⟨h1, h2⟩ := hv
    have h0 : next h = some x.2.1 := by simpa using hf 0 x.2.1 rfl
    simp only [List.length_cons, alone, h0, h1]
    rw [ih (h ++ [x.2.2]) _ h2, List.append_assoc]; rfl
    intro k rq hk
    rw [List.append_assoc]
    exact hf (k + 1) rq hk

theorem alone_of_log {seg : σ → Rq → σ × Rs} {next : List Rs → Option Rq} (t : Nat) {log : List (Nat × Rq × Rs)}
    {s0 : σ}
    (hv : Valid seg s0 log) (hp : Follows next (reqsOf t log) (respsOf t log))
    (hc : ∀ x ∈ log, ∀ y ∈ log, x.1 ≠ y.1 → Commute seg x.2.1 y.2.1) :
    alone seg next (respsOf t log).length s0 [] = respsOf t log := by
  rw [respsOf, List.length_map]
  exact alone_of_valid [] hp (valid_filter t hc hv)

theorem alone_prefix (seg : σ → Rq → σ × Rs) (next : List Rs → Option Rq) (k : Nat) (s : σ) (h : List Rs) :
    h <+: alone seg next k s h := by
  fun_induction alone seg next k s h with
  | case1 => exact List.prefix_refl _
  | case2 => exact List.prefix_refl _
  | case3 _ _ _ _ _ ih => exact List.IsPrefix.trans (List.prefix_append _ _) ih

theorem alone_take (seg : σ → Rq → σ × Rs) (next : List Rs → Option Rq) (k m : Nat) (s : σ) (h : List Rs) :
    alone seg next k s h = (alone seg next (k + m) s h).take (h.length + k) := by
  fun_induction alone seg next k s h with
  | case1 s h =>
    obtain ⟨x, hx⟩ := alone_prefix seg next (0 + m) s h
    rw [← hx, Nat.add_zero, List.take_left]
  | case2 fuel s h hn =>
    simp only [Nat.succ_add, alone, hn]
    rw [List.take_of_length_le (Nat.le_add_right _ _)]
  | case3 fuel s h rq hn ih =>
    simp only [Nat.succ_add, alone, hn]
    rw [ih, List.length_append, List.length_singleton, Nat.add_assoc, Nat.add_comm 1]

/-- A cycle's response reads inputs only and a cycle writes outputs only: no cycle, overlapping or
    not, changes the response of the next one. -/
theorem lrw_resp (isIn : Nat → Bool) (a b : Nat × List Nat) (m : Nat → Nat) :
    (lrw isIn (lrw isIn m a).1 b).2 = (lrw isIn m b).2 := by
  apply List.map_congr_left
  intro k _
  cases hin : isIn (b.1 + k) with
  | false => rfl
  | true =>
    simp only [lrw, hin, if_true]
    exact if_neg fun h => by cases h.2.2

theorem lrw_commute (isIn : Nat → Bool) {a b : Nat × List Nat} (hd : WindowsDisjoint a b) :
    Commute (lrw isIn) a b := by
  refine fun m => ⟨lrw_resp isIn a b m, ?_⟩
  -- the two writes land in different places
  simp only [lrw]
  funext x
  by_cases ha : a.1 ≤ x ∧ x < a.1 + a.2.length ∧ isIn x = false <;>
    by_cases hb : b.1 ≤ x ∧ x < b.1 + b.2.length ∧ isIn x = false
  · exact hd.elim (fun h => absurd (Nat.lt_of_lt_of_le ha.2.1 h) (Nat.not_lt.2 hb.1))
      fun h => absurd (Nat.lt_of_lt_of_le hb.2.1 h) (Nat.not_lt.2 ha.1)
  · simp only [if_pos ha, if_neg hb]
  · simp only [if_neg ha, if_pos hb]
  · simp only [if_neg ha, if_neg hb]

end Ec.Tasks
