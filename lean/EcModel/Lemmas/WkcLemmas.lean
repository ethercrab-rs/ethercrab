/-
  The working-counter check of the command builders (C11; the group paths of C10 rest on it too): what the
  checked methods return on a matching and on a differing counter, and what an `Ok` says about the exchange
  (`_ok`); the same for the default builders against one event of the trace; what a poll loop that ended well
  (`waitWhileBusy`, `waitSm`, `writeLoop`) consumed.
-/
import EcModel.Wkc

namespace Ec.Wkc

theorem exch_ok {r : Option TimeoutKind} {e : Ev} {p : Pdu} : exch r e = .ok p ↔ e = .resp p := by
  cases e <;> cases r <;> simp [exch]

section
variable {α : Type} {r : WrappedRead} {ex : Exchange} {p q : Pdu} {unpack : List Nat → Res α} {v : α} {k : Nat}

theorem checkWkc_ok (h : p.checkWkc k = .ok q) : q = p ∧ p.wkc = k := by
  unfold Pdu.checkWkc at h
  by_cases hw : p.wkc = k
  · rw [if_pos hw] at h; cases h; exact ⟨rfl, hw⟩
  · rw [if_neg hw] at h; cases h

theorem receiveSlice_match (hk : r.wkc = some k) (h : p.wkc = k) : r.receiveSlice (.ok p) = .ok p := by
  simp only [WrappedRead.receiveSlice, hk, Pdu.maybeWkc, Pdu.checkWkc, if_pos h]

theorem receiveSlice_mismatch (hk : r.wkc = some k) (h : p.wkc ≠ k) :
    r.receiveSlice (.ok p) = .error (.workingCounter k p.wkc) := by
  simp only [WrappedRead.receiveSlice, hk, Pdu.maybeWkc, Pdu.checkWkc, if_neg h]

theorem receive_match (hk : r.wkc = some k) (h : p.wkc = k) : r.receive (.ok p) unpack = unpack p.data := by
  simp only [WrappedRead.receive, hk, Pdu.maybeWkc, Pdu.checkWkc, if_pos h]

theorem receive_mismatch (hk : r.wkc = some k) (h : p.wkc ≠ k) :
    r.receive (.ok p) unpack = .error (.workingCounter k p.wkc) := by
  simp only [WrappedRead.receive, hk, Pdu.maybeWkc, Pdu.checkWkc, if_neg h]

theorem receiveSlice_ok (hk : r.wkc = some k) (h : r.receiveSlice ex = .ok q) : ex = .ok q ∧ q.wkc = k := by
  cases ex with
  | error e => cases h
  | ok p =>
    by_cases hw : p.wkc = k
    · rw [receiveSlice_match hk hw] at h; cases h; exact ⟨rfl, hw⟩
    · rw [receiveSlice_mismatch hk hw] at h; cases h

theorem receive_ok (hk : r.wkc = some k) (h : r.receive ex unpack = .ok v) :
    ∃ p, ex = .ok p ∧ p.wkc = k ∧ unpack p.data = .ok v := by
  cases ex with
  | error e => cases h
  | ok p =>
    by_cases hw : p.wkc = k
    · rw [receive_match hk hw] at h; exact ⟨p, rfl, hw, h⟩
    · rw [receive_mismatch hk hw] at h; cases h

/-- The checked write methods do with the response what the read methods do. -/
theorem sendReceive_eq_receive (w : WrappedWrite) (ex : Exchange) (unpack : List Nat → Res α) :
    w.sendReceive ex unpack = WrappedRead.receive ⟨w.wkc⟩ ex unpack := by
  cases ex <;> rfl

theorem sendReceiveSlice_eq_receiveSlice (w : WrappedWrite) (ex : Exchange) :
    w.sendReceiveSlice ex = WrappedRead.receiveSlice ⟨w.wkc⟩ ex := by
  cases ex <;> rfl

theorem send_ok {w : WrappedWrite} (h : w.send ex = .ok ()) : ∃ p, ex = .ok p := by
  cases ex with
  | error e => cases h
  | ok p => exact ⟨p, rfl⟩

end

/-! The default builders (`new`: one responder expected) against one event of the trace. -/
section
variable {α : Type} {r : Option TimeoutKind} {e : Ev} {p q : Pdu} {unpack : List Nat → Res α} {v : α}

theorem receive_resp (h : p.wkc = 1) : WrappedRead.new.receive (exch r (.resp p)) unpack = unpack p.data :=
  receive_match rfl h

theorem receive_resp_mismatch (h : p.wkc ≠ 1) :
    WrappedRead.new.receive (exch r (.resp p)) unpack = .error (.workingCounter 1 p.wkc) :=
  receive_mismatch rfl h

theorem receive_lost (r : Option TimeoutKind) (unpack : List Nat → Res α) :
    WrappedRead.new.receive (exch r .lost) unpack = .error (.timeout .pdu) := rfl

theorem receiveSlice_resp (h : p.wkc = 1) : WrappedRead.new.receiveSlice (exch r (.resp p)) = .ok p :=
  receiveSlice_match rfl h

theorem receiveSlice_resp_mismatch (h : p.wkc ≠ 1) :
    WrappedRead.new.receiveSlice (exch r (.resp p)) = .error (.workingCounter 1 p.wkc) :=
  receiveSlice_mismatch rfl h

theorem sendReceive_resp (h : p.wkc = 1) : WrappedWrite.new.sendReceive (exch r (.resp p)) unpack = unpack p.data :=
  (sendReceive_eq_receive ..).trans (receive_match rfl h)

theorem sendReceive_resp_mismatch (h : p.wkc ≠ 1) :
    WrappedWrite.new.sendReceive (exch r (.resp p)) unpack = .error (.workingCounter 1 p.wkc) :=
  (sendReceive_eq_receive ..).trans (receive_mismatch rfl h)

theorem send_resp (r : Option TimeoutKind) (p : Pdu) : WrappedWrite.new.send (exch r (.resp p)) = .ok () := rfl

theorem receive_exch_ok (h : WrappedRead.new.receive (exch r e) unpack = .ok v) :
    ∃ p, e = .resp p ∧ p.wkc = 1 ∧ unpack p.data = .ok v := by
  obtain ⟨p, h1, h2, h3⟩ := receive_ok rfl h
  exact ⟨p, exch_ok.1 h1, h2, h3⟩

theorem sendReceive_exch_ok (h : WrappedWrite.new.sendReceive (exch r e) unpack = .ok v) :
    ∃ p, e = .resp p ∧ p.wkc = 1 ∧ unpack p.data = .ok v :=
  receive_exch_ok ((sendReceive_eq_receive ..).symm.trans h)

theorem receiveSlice_exch_ok (h : WrappedRead.new.receiveSlice (exch r e) = .ok q) : e = .resp q ∧ q.wkc = 1 := by
  obtain ⟨h1, h2⟩ := receiveSlice_ok rfl h
  exact ⟨exch_ok.1 h1, h2⟩

end

theorem waitWhileBusy_ok {tr rest : List Ev} {c : SiiControl} : waitWhileBusy tr = (.ok c, rest) →
    ∃ (polls : List Pdu) (p : Pdu), tr = polls.map Ev.resp ++ .resp p :: rest ∧ (∀ q ∈ polls, q.wkc = 1) ∧ p.wkc = 1 ∧
      unpackSii p.data = .ok c ∧ c.busy = false := by
  fun_induction waitWhileBusy tr <;> intro h
  case case1 | case2 => cases h
  case case3 hc _ ih =>
    obtain ⟨p, rfl, hw, _⟩ := receive_exch_ok hc
    obtain ⟨polls, p2, rfl, h2, h3⟩ := ih h
    exact ⟨p :: polls, p2, rfl, List.forall_mem_cons.2 ⟨hw, h2⟩, h3⟩
  case case4 hc hb =>
    obtain ⟨p, rfl, hw, hu⟩ := receive_exch_ok hc
    cases h
    exact ⟨[], p, rfl, nofun, hw, hu, Bool.eq_false_iff.2 hb⟩

theorem waitSm_ok {k : TimeoutKind} {want : Bool} {tr rest : List Ev} : waitSm k want tr = (.ok (), rest) →
    ∃ (pre : List Ev) (p : Pdu), tr = pre ++ .resp p :: rest ∧ p.wkc = 1 ∧ unpackSmFull p.data = .ok want := by
  fun_induction waitSm k want tr <;> intro h
  case case1 | case2 => cases h
  case case3 hc =>
    obtain ⟨p, rfl, hw, hu⟩ := receive_exch_ok hc
    cases h
    exact ⟨[], p, rfl, hw, hu⟩
  case case4 ih =>
    obtain ⟨pre, p, rfl, hp⟩ := ih h
    exact ⟨_ :: pre, p, rfl, hp⟩

theorem clearLoop_suffix (n : Nat) (tr : List Ev) : (clearLoop n tr).2 <:+ tr := by
  fun_induction clearLoop n tr
  case case1 | case2 => exact List.suffix_refl _
  case case3 | case7 => exact List.suffix_cons _ _
  case case4 => exact List.nil_suffix
  case case5 => exact (List.suffix_cons _ _).trans (List.suffix_cons _ _)
  case case6 ih => exact ih.trans ((List.suffix_cons _ _).trans (List.suffix_cons _ _))

theorem codeSweep_ne_ok (n : Nat) (tr rest : List Ev) : codeSweep n tr ≠ (.ok (), rest) := by
  induction n generalizing tr with
  | zero => nofun
  | succ n ih =>
    match tr with
    | [] | .deadline :: _ | .lostDeadline :: _ => nofun
    | .lost :: t | .resp _ :: t => exact ih t

theorem writeLoop_ok {retries : Nat} {tr rest : List Ev} : writeLoop retries tr = (.ok (), rest) →
    ∃ (pre : List Ev) (p : Pdu), tr = pre ++ .resp p :: rest ∧ p.wkc = 1 := by
  fun_induction writeLoop retries tr <;> intro h
  case case1 | case2 | case3 | case6 | case7 | case8 => cases h
  case case4 _ e1 e2 _ _ _ _ _ hw _ _ ih =>
    obtain ⟨polls, p, rfl, _⟩ := waitWhileBusy_ok hw
    obtain ⟨pre, q, rfl, hqw⟩ := ih h
    exact ⟨e1 :: e2 :: (polls.map Ev.resp ++ .resp p :: pre), q, by simp, hqw⟩
  case case5 _ e1 e2 _ _ _ _ _ hw _ =>
    obtain ⟨polls, p, rfl, _, hp, _⟩ := waitWhileBusy_ok hw
    cases h
    exact ⟨e1 :: e2 :: polls.map Ev.resp, p, rfl, hp⟩

end Ec.Wkc
