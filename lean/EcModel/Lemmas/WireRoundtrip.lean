/-
  Derived structs (C19): the generated `unpack_from_slice` reads exactly the declared bits (`readFields_spec`), unpacking
  the packed image gives the value back, packing a representable value does not panic and decoding never does; hence a
  derived struct over lawful field codecs is itself lawful (`structCodec_lawful`: the struct theorems compose over
  nesting), under side conditions that are decidable on a declaration (`structDeclGood`).
-/
import EcModel.Lemmas.WireStruct

namespace Ec.Wire

theorem extractBits_length (buf : List Nat) (s w : Nat) : (extractBits buf s w).length = (w + 7) / 8 :=
  leBytes_length _ _

theorem allBytes_extractBits (buf : List Nat) (s w : Nat) : AllBytes (extractBits buf s w) :=
  allBytes_leBytes _ _

theorem extractBits_bits {buf : List Nat} (hb : AllBytes buf) (s w j : Nat) :
    bitAt (extractBits buf s w) j = (decide (j < w) && bitAt buf (s + j)) := by
  rw [extractBits, bitAt_leBytes, Nat.testBit_mod_two_pow, Nat.testBit_div_two_pow, testBit_leVal hb]
  by_cases h : j < w
  · have : j < 8 * ((w + 7) / 8) := by omega
    simp [h, this, Nat.add_comm]
  · simp [h]

/-- `extractBits` is determined by its length and its bits. -/
theorem extractBits_eq {buf bs : List Nat} (hb : AllBytes buf) (ha : AllBytes bs) {s w : Nat}
    (hl : bs.length = (w + 7) / 8) (h : ∀ j, bitAt bs j = (decide (j < w) && bitAt buf (s + j))) :
    extractBits buf s w = bs :=
  bytes_ext ((extractBits_length ..).trans hl.symm) (allBytes_extractBits _ _ _) ha fun j => by
    rw [extractBits_bits hb, h]

theorem extractBits_congr {b1 b2 : List Nat} (h1 : AllBytes b1) (h2 : AllBytes b2) (s w : Nat)
    (h : ∀ k, s ≤ k → k < s + w → bitAt b1 k = bitAt b2 k) : extractBits b1 s w = extractBits b2 s w :=
  extractBits_eq h1 (allBytes_extractBits _ _ _) (extractBits_length ..) fun j => by
    rw [extractBits_bits h2]
    by_cases hj : j < w
    · simp [hj, h (s + j) (by omega) (by omega)]
    · simp [hj]

theorem extractBits_take {buf : List Nat} (hb : AllBytes buf) (n s w : Nat) (h : s + w ≤ 8 * n) :
    extractBits (buf.take n) s w = extractBits buf s w := by
  apply extractBits_congr (allBytes_take _ hb) hb
  intro k _ h2
  have : k < 8 * n := by omega
  simp [bitAt_take, this]

theorem extractBits_small {packed : List Nat} (hp : AllBytes packed) {s w x : Nat} (hw0 : 0 < w) (hw : w ≤ 8)
    (hx : x < 2 ^ w) (h : ∀ j, j < w → bitAt packed (s + j) = bitAt [x] j) : extractBits packed s w = [x] := by
  have hx8 : x < 256 := Nat.lt_of_lt_of_le hx (Nat.pow_le_pow_right (by decide) hw)
  refine extractBits_eq hp (allBytes_cons.mpr ⟨hx8, allBytes_nil⟩) (by rw [List.length_singleton]; omega) fun j => ?_
  by_cases hj : j < w
  · rw [decide_eq_true hj, Bool.true_and, h j hj]
  · rw [decide_eq_false hj, Bool.false_and, bitAt_cons]
    split
    · exact Nat.testBit_lt_two_pow (Nat.lt_of_lt_of_le hx (Nat.pow_le_pow_right (by decide) (Nat.le_of_not_lt hj)))
    · exact bitAt_nil _

theorem extractBits_big {packed encb : List Nat} (hp : AllBytes packed) (he : AllBytes encb) {s n : Nat}
    (hn : encb.length ≤ n) (h : ∀ j, j < 8 * n → bitAt packed (s + j) = bitAt encb j) :
    extractBits packed s (8 * n) = encb ++ zeros (n - encb.length) := by
  refine extractBits_eq hp (allBytes_append.mpr ⟨he, allBytes_zeros _⟩) (by simp [zeros]; omega) fun j => ?_
  rw [bitAt_append_zero _ (bitAt_zeros _)]
  by_cases hj : j < 8 * n
  · simp [hj, h j hj]
  · rw [bitAt_of_le (buf := encb) (by omega)]
    simp [hj]

/-- generate_struct_read, one field: the value is decoded from bits `[bit_start, bit_end)`. -/
theorem readField_spec {f : FieldMeta} {buf : List Nat}
    (hns : f.skip = false) (hsh : f.Shaped) (hpos : 0 < f.bitsLen) (hend : f.bitEnd ≤ 8 * buf.length)
    (hb : AllBytes buf) :
    readField f buf = decodeField f (extractBits buf f.bitStart f.bitsLen) := by
  unfold readField decodeField
  rw [if_neg (Bool.eq_false_iff.mp hns)]
  by_cases hs : f.bitsLen ≤ 8
  · obtain ⟨e1, e2, e3, _⟩ := hsh.small_facts hpos hs
    have hlen : f.byteStart < buf.length := by omega
    have key : extractBits buf f.bitStart f.bitsLen = [(buf[f.byteStart] &&& f.mask) >>> f.bitOffset] := by
      unfold FieldMeta.mask
      refine extractBits_small hb hpos hs (Nat.lt_pow_two_of_testBit _ fun j hj => ?_) fun j hj => ?_
      · rw [testBit_mask_shr, decide_eq_false (Nat.not_lt.mpr hj), Bool.false_and]
      · rw [bitAt_singleton _ _ (by omega), testBit_mask_shr, decide_eq_true hj, Bool.true_and, e1, Nat.add_assoc,
          bitAt_mul_add buf _ (by omega), List.getD_eq_getElem?_getD, List.getElem?_eq_getElem hlen, Option.getD_some]
    rw [if_pos hs, if_pos hs, List.getElem?_eq_getElem hlen, key]
    rfl
  · have hbig : 8 < f.bitsLen := by omega
    obtain ⟨e1, e2, e3, _, _, e6⟩ := hsh.big_facts hbig
    have hr : f.byteStart ≤ f.byteEnd ∧ f.byteEnd ≤ buf.length := by omega
    rw [if_neg hs, if_neg hs, if_pos hr, extractBits_eq (bs := slice buf f.byteStart f.byteEnd) hb
      (allBytes_take _ (allBytes_drop _ hb)) (by rw [slice_length hr.2]; omega) fun j => by rw [bitAt_slice, e1, e6]]

theorem readFields_spec : ∀ (fs : List FieldMeta) (buf : List Nat) (c e : Nat),
    Chain fs c e → (∀ f ∈ fs, f.skip = false → 0 < f.bitsLen) → e ≤ 8 * buf.length → AllBytes buf →
    readFields fs buf = readFieldsSpec fs buf
  | [], _, _, _, _, _, _, _ => rfl
  | f :: fs, buf, c, e, hch, hpos, he, hb => by
    obtain ⟨hf, hps⟩ := List.forall_mem_cons.mp hpos
    unfold readFields readFieldsSpec
    rcases hch.cons with ⟨hs, hch⟩ | ⟨hs, _, hsh, hrest⟩
    · rw [readFields_spec fs buf c e hch hps he hb, readField, if_pos hs, if_pos hs]
    · rw [readFields_spec fs buf _ e hrest hps he hb,
        readField_spec hs hsh (hf hs) (Nat.le_trans hrest.le he) hb, if_neg (Bool.eq_false_iff.mp hs)]

theorem readFieldsSpec_congr {b1 b2 : List Nat} (h1 : AllBytes b1) (h2 : AllBytes b2) :
    ∀ (fs : List FieldMeta),
    (∀ f ∈ fs, f.skip = false → ∀ k, f.bitStart ≤ k → k < f.bitEnd → bitAt b1 k = bitAt b2 k) →
    readFieldsSpec fs b1 = readFieldsSpec fs b2
  | [], _ => rfl
  | f :: fs, h => by
    obtain ⟨hf, hfs⟩ := List.forall_mem_cons.mp h
    simp only [readFieldsSpec]
    rw [readFieldsSpec_congr h1 h2 fs hfs]
    by_cases hs : f.skip = true
    · simp [hs]
    · have hs' : f.skip = false := by simpa using hs
      simp only [hs', Bool.false_eq_true, if_false]
      rw [extractBits_congr h1 h2 _ _ fun k hk1 hk2 =>
        hf hs' k hk1 (by unfold FieldMeta.bitsLen at hk2; omega)]

theorem isU8OrBool_iff (t : TyTok) : t.isU8OrBool = true ↔ t = .u8 ∨ t = .bool := by
  cases t <;> simp [TyTok.isU8OrBool]

/-- A representable value of a non-skipped field, by the field's width as the generated code distinguishes it. Within
    one byte: the encoding is a single byte below `2^w` (`self.f as u8` for `u8`/`bool`, the type's own one-byte packing
    otherwise) which the field decoder takes back. Wider: a valid value of the type, which is not longer than the slot. -/
theorem validVal_cases {f : FieldMeta} {v : Val} (hns : f.skip = false) (hsh : f.Shaped) (hg : FieldGood f)
    (hval : f.validVal v) :
    (f.bitsLen ≤ 8 ∧ ∃ x, x < 2 ^ f.bitsLen ∧ fieldEnc f v = [x] ∧ decodeField f [x] = .ok v ∧
      (if f.ty.isU8OrBool then asU8 v = some x else f.codec.len = 1 ∧ f.codec.enc v = .ok [x])) ∨
    (8 < f.bitsLen ∧ f.ty.isU8OrBool = false ∧ f.codec.valid v ∧ f.codec.len ≤ f.byteEnd - f.byteStart) := by
  have hpos := hg.pos hns
  have hfit := hg.fits
  unfold FieldMeta.validVal at hval
  unfold FieldMeta.slotFits at hfit
  rw [if_neg (Bool.eq_false_iff.mp hns)] at hval
  by_cases hs : f.bitsLen ≤ 8
  · refine Or.inl ⟨hs, ?_⟩
    rw [if_pos hs] at hval
    unfold fieldEnc decodeField
    simp only [if_pos hs]
    by_cases hb : f.ty = .bool
    · rw [if_pos hb] at hval
      obtain ⟨b, rfl⟩ := hval
      have : 2 ^ 1 ≤ 2 ^ f.bitsLen := Nat.pow_le_pow_right (by omega) hpos
      refine ⟨if b then 1 else 0, by cases b <;> simp <;> omega, ?_⟩
      cases b <;> simp [hb, TyTok.isU8OrBool, asU8]
    rw [if_neg hb] at hval
    by_cases hu : f.ty = .u8
    · rw [if_pos hu] at hval
      obtain ⟨i, rfl, hi⟩ := hval
      have hi8 : i < 256 := Nat.lt_of_lt_of_le hi (Nat.pow_le_pow_right (by omega) hs)
      have hasu : asU8 (.int (i : Int)) = some i :=
        congrArg some ((toNat_emod_natCast i 256).trans (Nat.mod_eq_of_lt hi8))
      exact ⟨i, hi, by simp [hu, TyTok.isU8OrBool, hasu]⟩
    · rw [if_neg hu] at hval
      obtain ⟨hv, e, he, hlt⟩ := hval
      have hnu : f.ty.isU8OrBool = false := by
        cases h : f.ty.isU8OrBool
        · rfl
        · rcases (isU8OrBool_iff _).mp h with h' | h' <;> contradiction
      refine ⟨e, hlt, ?_⟩
      simp only [hnu, hns, hs, Bool.false_or, if_true, beq_iff_eq] at hfit
      simp [hnu, he, hb, hu, hfit, hg.lawful.roundtrip v [e] hv he]
  · have hbig : 8 < f.bitsLen := by omega
    rw [if_neg hs] at hval
    refine Or.inr ⟨hbig, ?_, hval, ?_⟩
    · cases h : f.ty.isU8OrBool
      · rfl
      · have := hg.gen hns h
        have := hsh.small_or_big
        omega
    · simp [hns, hs, FieldMeta.bytesLen] at hfit
      exact of_decide_eq_true hfit

theorem decodeField_roundtrip {f : FieldMeta} {v : Val} {packed : List Nat}
    (hns : f.skip = false) (hsh : f.Shaped) (hg : FieldGood f) (hval : f.validVal v) (hp : AllBytes packed)
    (hbits : ∀ j, j < f.bitsLen → bitAt packed (f.bitStart + j) = bitAt (fieldEnc f v) j) :
    decodeField f (extractBits packed f.bitStart f.bitsLen) = .ok v := by
  have hlaw := hg.lawful
  rcases validVal_cases hns hsh hg hval with ⟨hs, x, hx, hfe, hdec, _⟩ | ⟨hbig, hnu, hv, hfit⟩
  · rw [extractBits_small hp (hg.pos hns) hs hx (fun j hj => hfe ▸ hbits j hj)]
    exact hdec
  · obtain ⟨e1, e2, e3, _, _, e6⟩ := hsh.big_facts hbig
    obtain ⟨encb, henc⟩ := hlaw.enc_ok v hv
    obtain ⟨hl, hab⟩ := hlaw.enc_len v encb henc
    have hfe : fieldEnc f v = encb := by rw [fieldEnc, hnu, henc]; rfl
    unfold decodeField
    rw [if_neg (by omega), e6, extractBits_big hp hab (hl ▸ hfit) (fun j hj => hfe ▸ hbits j (by omega))]
    exact hlaw.roundtrip_append hv henc _

theorem readFieldsSpec_roundtrip : ∀ (fs : List FieldMeta) (vs : List Val) (c e : Nat) (packed : List Nat),
    Chain fs c e → (∀ f ∈ fs, FieldGood f) → validVals fs vs → AllBytes packed →
    (∀ k, c ≤ k → bitAt packed k = fieldsBit fs vs k) → readFieldsSpec fs packed = .ok vs
  | [], [], _, _, _, _, _, _, _, _ => rfl
  | [], _ :: _, _, _, _, _, _, hv, _, _ => hv.elim
  | _ :: _, [], _, _, _, _, _, hv, _, _ => hv.elim
  | f :: fs, v :: vs, c, e, packed, hch, hg, hv, hp, hbits => by
    obtain ⟨hf, hgs⟩ := List.forall_mem_cons.mp hg
    unfold readFieldsSpec
    rcases hch.cons with ⟨hs, hch⟩ | ⟨hs, hc, hsh, hrest⟩
    · have hvd : v = .dflt := by simpa [FieldMeta.validVal, hs] using hv.1
      rw [readFieldsSpec_roundtrip fs vs c e packed hch hgs hv.2 hp
        (fun k hk => by rw [hbits k hk, fieldsBit, hs]; rfl), if_pos hs, hvd]
      rfl
    · have hle := hsh.le
      have hfield : ∀ j, j < f.bitsLen → bitAt packed (f.bitStart + j) = bitAt (fieldEnc f v) j := by
        intro j hj
        have hj' : f.bitStart + j < f.bitEnd := by unfold FieldMeta.bitsLen at hj; omega
        rw [hbits _ (by omega), fieldsBit, fieldsBit_below vs hrest hj', hs, Nat.add_sub_cancel_left,
          decide_eq_true hj', decide_eq_true (Nat.le_add_right ..)]
        simp
      rw [if_neg (Bool.eq_false_iff.mp hs), decodeField_roundtrip hs hsh hf hv.1 hp hfield,
        readFieldsSpec_roundtrip fs vs f.bitEnd e packed hrest hgs hv.2 hp
          (fun k hk => by
            rw [hbits k (by omega), fieldsBit, decide_eq_false (Nat.not_lt.mpr hk), Bool.and_false, Bool.false_and,
              Bool.false_or])]
      rfl

theorem writeField_ok {f : FieldMeta} {v : Val} {buf : List Nat}
    (hsh : f.skip = false → f.Shaped) (hg : FieldGood f) (hend : f.skip = false → f.bitEnd ≤ 8 * buf.length)
    (hval : f.validVal v) : ∃ buf', writeField f v buf = .ok buf' ∧ buf'.length = buf.length := by
  unfold writeField
  by_cases hs : f.skip = true
  · exact ⟨buf, if_pos hs, rfl⟩
  have hns : f.skip = false := Bool.eq_false_iff.mpr hs
  have hsh := hsh hns; have hend := hend hns
  rw [if_neg hs]
  rcases validVal_cases hns hsh hg hval with ⟨hsm, x, _, _, _, henc⟩ | ⟨hbig, hnu, hv, hfit⟩
  · have hpos := hg.pos hns
    obtain ⟨e1, e2, e3, e4⟩ := hsh.small_facts hpos hsm
    have hlen : f.byteStart < buf.length := by omega
    by_cases hu : f.ty.isU8OrBool = true
    · rw [if_pos hu] at henc ⊢
      rw [henc]
      dsimp only
      rw [if_pos hlen]
      exact ⟨_, rfl, List.length_set⟩
    · rw [if_neg hu] at henc ⊢
      simp [e4, Codec.packU, henc.1, henc.2, bindO, hlen]
  · obtain ⟨e1, e2, e3, e4, _, e6⟩ := hsh.big_facts hbig
    obtain ⟨encb, henc⟩ := hg.lawful.enc_ok v hv
    obtain ⟨hl, _⟩ := hg.lawful.enc_len v encb henc
    have hr : f.byteStart ≤ f.byteEnd ∧ f.byteEnd ≤ buf.length := by omega
    rw [if_neg (by rw [hnu]; exact nofun), if_neg e4, if_pos hr, Codec.packU, slice_length hr.2,
      if_neg (Nat.not_lt.mpr hfit), henc, bindO_ok, bindO_ok, ← hl]
    exact ⟨_, rfl, splice_length hr.1 hr.2 (hl ▸ hfit)⟩

theorem writeFields_ok : ∀ (fs : List FieldMeta) (vs : List Val) (buf : List Nat) (c e : Nat),
    Chain fs c e → (∀ f ∈ fs, FieldGood f) → validVals fs vs → e ≤ 8 * buf.length →
    ∃ buf', writeFields fs vs buf = .ok buf'
  | [], [], buf, _, _, _, _, _, _ => ⟨buf, rfl⟩
  | [], _ :: _, _, _, _, _, _, hv, _ => hv.elim
  | _ :: _, [], _, _, _, _, _, hv, _ => hv.elim
  | f :: fs, v :: vs, buf, c, e, hch, hg, hv, he => by
    obtain ⟨hf, hgs⟩ := List.forall_mem_cons.mp hg
    obtain ⟨c', hc', hsh⟩ : ∃ c', Chain fs c' e ∧ (f.skip = false → f.Shaped ∧ f.bitEnd ≤ e) := by
      rcases hch.cons with ⟨hs, hch⟩ | ⟨hs, _, hsh, hrest⟩
      · exact ⟨c, hch, fun h => by rw [hs] at h; cases h⟩
      · exact ⟨_, hrest, fun _ => ⟨hsh, hrest.le⟩⟩
    obtain ⟨b1, h1, hl1⟩ := writeField_ok (buf := buf) (fun h => (hsh h).1) hf
      (fun h => Nat.le_trans (hsh h).2 he) hv.1
    obtain ⟨b2, h2⟩ := writeFields_ok fs vs b1 c' e hc' hgs hv.2 (by rw [hl1]; exact he)
    exact ⟨b2, by rw [writeFields, h1, bindO_ok, h2]⟩

theorem readField_total {f : FieldMeta} (h : DecTotal f.codec) (buf : List Nat) (why : String) :
    readField f buf ≠ .panic why := by
  unfold readField
  by_cases hs : f.skip = true
  · rw [if_pos hs]; exact nofun
  rw [if_neg hs]
  by_cases h8 : f.bitsLen ≤ 8
  · rw [if_pos h8]
    cases buf[f.byteStart]? with
    | none => exact nofun
    | some b =>
      dsimp only
      by_cases hb : f.ty = .bool
      · rw [if_pos hb]; exact nofun
      by_cases hu : f.ty = .u8
      · rw [if_neg hb, if_pos hu]; exact nofun
      · rw [if_neg hb, if_neg hu]; exact h _ _
  · rw [if_neg h8]
    by_cases hr : f.byteStart ≤ f.byteEnd ∧ f.byteEnd ≤ buf.length
    · rw [if_pos hr]; exact h _ _
    · rw [if_neg hr]; exact nofun

theorem readFields_total : ∀ (fs : List FieldMeta) (buf : List Nat) (why : String),
    (∀ f ∈ fs, DecTotal f.codec) → readFields fs buf ≠ .panic why
  | [], _, _, _ => fun h => by cases h
  | f :: fs, buf, why, h =>
    bindO_ne_panic (readField_total (h f (List.mem_cons_self ..)) buf)
      (fun _ => bindO_ok_ne_panic fun w => readFields_total fs buf w fun g hg => h g (List.mem_cons_of_mem _ hg)) why

theorem structRead_total (m : StructMeta) (h : ∀ f ∈ m.fields, DecTotal f.codec) (buf : List Nat) (why : String) :
    structRead m buf ≠ .panic why := by
  unfold structRead
  split
  · exact nofun
  · exact bindO_ok_ne_panic (fun w => readFields_total _ _ w h) why

/-- Everything the struct theorems need to know about an accepted layout. -/
structure StructGood (m : StructMeta) : Prop where
  chain : Chain m.fields 0 m.widthBits
  pos : ∀ f ∈ m.fields, f.skip = false → 0 < f.bitsLen
  lawful : ∀ f ∈ m.fields, Lawful f.codec
  fits : ∀ f ∈ m.fields, f.slotFits = true
  gen : deriveWriteOk m = true

theorem StructMeta.width_le (m : StructMeta) : m.widthBits ≤ 8 * m.sizeBytes := by
  simp only [StructMeta.sizeBytes]; omega

theorem StructGood.field {m : StructMeta} (hg : StructGood m) : ∀ f ∈ m.fields, FieldGood f := fun f hf =>
  ⟨hg.pos f hf, hg.lawful f hf, hg.fits f hf, fun hs hu => by
    have := List.all_eq_true.mp hg.gen f hf
    simpa [hs, hu] using this⟩

theorem structEnc_spec {m : StructMeta} (hg : StructGood m) {vs : List Val} {bs : List Nat}
    (h : structEnc m (.seq vs) = .ok bs) :
    bs.length = m.sizeBytes ∧ AllBytes bs ∧ ∀ k, bitAt bs k = fieldsBit m.fields vs k := by
  obtain ⟨r1, r2, r3⟩ := writeFields_bits m.fields vs (zeros m.sizeBytes) bs 0 m.widthBits hg.chain hg.field
    (fun k _ => bitAt_zeros _ _) (allBytes_zeros _) h
  exact ⟨r1.trans List.length_replicate, r2, fun k => by rw [r3 k, bitAt_zeros, Bool.false_or]⟩

theorem structCodec_lawful {m : StructMeta} (hg : StructGood m) : Lawful (structCodecOfMeta m) :=
  .of_sized (fun b => bindO (readFields m.fields b) fun vs => .ok (.seq vs)) (fun _ => rfl)
    (by
      intro v bs h
      cases v with
      | seq vs => exact ⟨(structEnc_spec hg h).1, (structEnc_spec hg h).2.1⟩
      | _ => cases h)
    (by
      rintro v ⟨vs, rfl, hv⟩
      obtain ⟨bs, hbs⟩ := writeFields_ok m.fields vs (zeros m.sizeBytes) 0 m.widthBits hg.chain hg.field hv
        (by rw [zeros, List.length_replicate]; exact m.width_le)
      obtain ⟨hl, hab, hbits⟩ := structEnc_spec hg hbs
      refine ⟨bs, hbs, ?_⟩
      rw [readFields_spec m.fields bs 0 m.widthBits hg.chain hg.pos (by rw [hl]; exact m.width_le) hab,
        readFieldsSpec_roundtrip m.fields vs 0 m.widthBits bs hg.chain hg.field hv hab (fun k _ => hbits k)]
      rfl)
    (fun _ => bindO_ok_ne_panic fun w => readFields_total _ _ w fun f hf => (hg.lawful f hf).dec_total)

/-- Decidable part of "the struct theorems apply to this declaration": accepted by parse_struct, every non-skipped field
    at least one bit wide, every field type no longer than its slot, write half of the derive well-formed. -/
def structDeclGood (d : StructDecl) : Bool :=
  match parseStruct d with
  | .ok m => m.fields.all (fun f => f.skip || decide (0 < f.bitsLen)) && m.fields.all (·.slotFits) && deriveWriteOk m
  | .error _ => false

theorem structDeclGood_parsed {d : StructDecl} (h : structDeclGood d = true) : ∃ m, parseStruct d = .ok m := by
  unfold structDeclGood at h
  split at h
  · exact ⟨_, by assumption⟩
  · cases h

theorem structGood_of_decl {d : StructDecl} {m : StructMeta} (hp : parseStruct d = .ok m)
    (hgood : structDeclGood d = true) (hl : AllLawfulC (d.fields.map (·.codec))) : StructGood m := by
  simp only [structDeclGood, hp, Bool.and_eq_true, List.all_eq_true, Bool.or_eq_true, decide_eq_true_eq] at hgood
  obtain ⟨⟨hpos, hfit⟩, hgen⟩ := hgood
  have hco := parseFields_inv d.fields 0
  rw [parseStruct_ok hp] at hco
  exact ⟨hco.1, fun f hf hs => (hpos f hf).resolve_left (Bool.eq_false_iff.mp hs),
    fun f hf => hl.mem _ (hco.2 ▸ List.mem_map_of_mem hf), hfit, hgen⟩

theorem structCodec_lawful_of_decl (d : StructDecl) (hgood : structDeclGood d = true)
    (hl : AllLawfulC (d.fields.map (·.codec))) : Lawful (structCodec d) := by
  obtain ⟨m, hp⟩ := structDeclGood_parsed hgood
  rw [structCodec, hp]
  exact structCodec_lawful (structGood_of_decl hp hgood hl)

end Ec.Wire
