/-
  Capacity lemmas for C03: the allocation cursor covers every slot, free slots + owner handles = n,
  draining every handle empties the storage, and the allocation probe.
-/
import EcModel.Lemmas.SlotsInv
import Mathlib.Data.List.Nodup

namespace Ec

theorem allocLoop_none_visits {s : Sys} {fuel : Nat} (h : (allocLoop s fuel).2 = none) :
    ∀ j, j < fuel → (s.slot ((s.frameIdx + j) % 256 % s.n)).st ≠ .none := by
  induction fuel generalizing s with
  | zero => exact fun j hj => absurd hj (Nat.not_lt_zero j)
  | succ fuel ih =>
    rw [allocLoop] at h
    split at h
    · cases h
    · next hne =>
      intro j hj
      cases j with
      | zero => exact hne
      | succ j =>
        have := ih (s := { s with frameIdx := (s.frameIdx + 1) % 256 }) h j (Nat.lt_of_succ_lt_succ hj)
        rwa [Nat.mod_add_mod, Nat.add_assoc, Nat.add_comm 1 j] at this

/-- `n ∣ 256`: the wrapping `u8` cursor reduced mod `n` hits slot `i` within `n` rounds. -/
theorem cursor_hits (f n i : Nat) (hd : n ∣ 256) (hi : i < n) :
    ∃ j, j < n ∧ (f + j) % 256 % n = i := by
  refine ⟨(i + n - f % n) % n, Nat.mod_lt _ (by omega), ?_⟩
  rw [Nat.mod_mod_of_dvd _ hd]
  have ha : f % n < n := Nat.mod_lt _ (by omega)
  calc (f + (i + n - f % n) % n) % n
      = (f % n + (i + n - f % n) % n % n) % n := Nat.add_mod _ _ _
    _ = (f % n % n + (i + n - f % n) % n) % n := by rw [Nat.mod_mod, Nat.mod_mod]
    _ = (f % n + (i + n - f % n)) % n := (Nat.add_mod _ _ _).symm
    _ = (i + n) % n := by congr 1; omega
    _ = i := by rw [Nat.add_mod_right, Nat.mod_eq_of_lt hi]

theorem allocLoop_complete (s : Sys) (hd : s.n ∣ 256) (i : Nat) (hi : i < s.n) (hnone : (s.slot i).st = .none) :
    ∃ s' k, allocLoop s (2 * s.n) = (s', some k) := by
  cases h : (allocLoop s (2 * s.n)).2 with
  | some k => exact ⟨(allocLoop s (2 * s.n)).1, k, by rw [← h]⟩
  | none =>
    exfalso
    obtain ⟨j, hj, e⟩ := cursor_hits s.frameIdx s.n i hd hi
    have := allocLoop_none_visits h j (by omega)
    rw [e] at this
    exact this hnone

def owners (hs : List Hd) : Nat := (hs.filter (fun h => h.kind.cls ≠ 4)).length

def heldCount (s : Sys) : Nat := ((List.range s.n).filter (fun i => (s.slot i).st ≠ .none)).length

theorem J.count {s : Sys} {hs : List Hd} (hJ : J s hs) : heldCount s = owners hs := by
  unfold heldCount owners
  have hnd : hs.Nodup := List.Nodup.of_map _ hJ.regs
  have h1 : ((List.range s.n).filter (fun i => (s.slot i).st ≠ .none)).Nodup :=
    (List.nodup_range).filter _
  have h2 : ((hs.filter (fun h => h.kind.cls ≠ 4)).map (·.slot)).Nodup := by
    refine List.Nodup.map_on ?_ (hnd.filter _)
    intro a ha b hb e
    simp only [List.mem_filter, decide_eq_true_eq] at ha hb
    exact hJ.distinct a ha.1 b hb.1 ha.2 hb.2 e
  -- the held indices and the owners' slots: two lists without repetition that have the same members
  have hp : ((List.range s.n).filter (fun i => (s.slot i).st ≠ .none)).Perm
      ((hs.filter (fun h => h.kind.cls ≠ 4)).map (·.slot)) := by
    rw [List.perm_ext_iff_of_nodup h1 h2]
    intro i
    simp only [List.mem_filter, List.mem_range, decide_eq_true_eq, List.mem_map]
    constructor
    · rintro ⟨_, hne⟩
      obtain ⟨h, hm, ho, e⟩ := hJ.held i hne
      exact ⟨h, ⟨hm, ho⟩, e⟩
    · rintro ⟨h, ⟨hm, ho⟩, rfl⟩
      exact ⟨hJ.owner_lt hm ho, hJ.owner_held hm ho⟩
  rw [hp.length_eq, List.length_map]

theorem heldCount_lt_iff {s : Sys} : heldCount s < s.n ↔ ∃ i, i < s.n ∧ (s.slot i).st = .none := by
  have := List.length_filter_lt_length_iff_exists (l := List.range s.n) (p := fun i => decide ((s.slot i).st ≠ .none))
  simpa [heldCount] using this

theorem full_of_count {s : Sys} (h : heldCount s = s.n) (i : Nat) (hi : i < s.n) : (s.slot i).st ≠ .none :=
  fun hn => Nat.ne_of_lt (heldCount_lt_iff.mpr ⟨i, hi, hn⟩) h

/-- The operation that disposes of a live handle: drop it or, for the TX side's `SendableFrame`,
    complete the send (with outcome `o reg`). -/
def drainOp (o : Nat → Nat) (h : Hd) : Op :=
  match h.kind with
  | .created _ _ => .dropCreated h.reg
  | .fut _ _ _ _ => .dropFut h.reg
  | .sendable => .txSend h.reg (o h.reg)
  | .received => .dropReceived h.reg
  | .view _ _ _ => .dropView h.reg

def drainReg (o : Nat → Nat) (w : World) (r : Nat) : World :=
  match getH w.2 r with
  | some h => (step w (drainOp o h)).1
  | none => w

def drain (o : Nat → Nat) (w : World) (rs : List Nat) : World := rs.foldl (drainReg o) w

theorem drainReg_handles (o : Nat → Nat) (w : World) (r : Nat) : (drainReg o w r).2 = delH w.2 r := by
  unfold drainReg
  split
  · next h e =>
    obtain ⟨_, hr⟩ := getH_some e
    obtain ⟨reg, k, kind⟩ := h
    simp only at hr; subst hr
    cases kind <;> simp [drainOp, step, opDropCreated, opDropFut, opTxSend, opDropReceived, opDropView, e]
  · next e => exact (delH_fresh (getH_none e)).symm

theorem drain_eq_run (o : Nat → Nat) (w : World) (rs : List Nat) : ∃ ops, drain o w rs = run w ops := by
  induction rs generalizing w with
  | nil => exact ⟨[], rfl⟩
  | cons r rs ih =>
    show ∃ ops, drain o (drainReg o w r) rs = run w ops
    unfold drainReg
    split
    · next h _ => obtain ⟨ops, e⟩ := ih (step w (drainOp o h)).1; exact ⟨drainOp o h :: ops, e⟩
    · exact ih w

theorem mem_drain (o : Nat → Nat) (w : World) (rs : List Nat) (h : Hd) :
    h ∈ (drain o w rs).2 ↔ h ∈ w.2 ∧ h.reg ∉ rs := by
  induction rs generalizing w with
  | nil => simp [drain]
  | cons r rs ih =>
    have : drain o w (r :: rs) = drain o (drainReg o w r) rs := rfl
    rw [this, ih, drainReg_handles, mem_delH]
    simp only [List.mem_cons, not_or]
    constructor
    · rintro ⟨⟨a, b⟩, c⟩; exact ⟨a, b, c⟩
    · rintro ⟨a, b, c⟩; exact ⟨⟨a, b⟩, c⟩

theorem drain_empties (o : Nat → Nat) {w : World} (rs : List Nat) (hJ : J (drain o w rs).1 (drain o w rs).2)
    (hall : ∀ h ∈ w.2, h.reg ∈ rs) :
    (drain o w rs).2 = [] ∧ ∀ i, ((drain o w rs).1.slot i).st = .none := by
  have he : (drain o w rs).2 = [] :=
    List.eq_nil_iff_forall_not_mem.mpr fun h hm => ((mem_drain o w rs h).mp hm).2 (hall h ((mem_drain o w rs h).mp hm).1)
  refine ⟨he, fun i => Classical.byContradiction fun hne => ?_⟩
  obtain ⟨h, hm, _⟩ := hJ.held i hne
  rw [he] at hm
  cases hm

theorem alloc_step_ok {n data : Nat} {w : World} (hr : Reach n data w) (hd : n ∣ 256) {i : Nat} (hi : i < n)
    (hnone : (w.1.slot i).st = .none) (r : Nat) (hf : ∀ h ∈ w.2, h.reg ≠ r) :
    ∃ k, k < n ∧ (w.1.slot k).st = .none ∧ (step w (.alloc r)).2 = s!"ok.{k}" ∧
      (step w (.alloc r)).1.2 = putH w.2 ⟨r, k, .created 0 none⟩ ∧
      ((step w (.alloc r)).1.1.slot k).st = .created := by
  have hn : 0 < n := Nat.pos_of_dvd_of_pos hd (by decide)
  have hne := hr.n_eq hn
  obtain ⟨s', k, e⟩ := allocLoop_complete w.1 (hne ▸ hd) i (hne ▸ hi) hnone
  obtain ⟨hk, hkn, f, rfl⟩ := allocLoop_some (hne ▸ hn) e
  refine ⟨k, hne ▸ hk, hkn, ?_, ?_, ?_⟩ <;> simp only [step, getH_isNone.mpr hf, if_true, opAlloc, e]
  rw [slot_setSlot, if_pos ⟨rfl, hk⟩]; rfl

theorem alloc_step_full {n data : Nat} {w : World} (hn : 0 < n) (hr : Reach n data w)
    (hfull : ∀ i, i < n → (w.1.slot i).st ≠ .none) (r : Nat) (hf : ∀ h ∈ w.2, h.reg ≠ r) :
    (step w (.alloc r)).2 = "err.swapstate" := by
  have hne := hr.n_eq hn
  simp only [step, getH_isNone.mpr hf, if_true]
  unfold opAlloc
  split
  · next s' i e =>
    obtain ⟨hi, hnone, _⟩ := allocLoop_some (hne ▸ hn) e
    exact absurd hnone (hfull i (hne ▸ hi))
  · rfl

theorem alloc_free_slot {n data : Nat} {w : World} (hr : Reach n data w) (hd : n ∣ 256) {k : Nat} (hk : k < n)
    (hnone : (w.1.slot k).st = .none) (r : Nat) (hf : ∀ h ∈ w.2, h.reg ≠ r) :
    ∃ i, (step w (.alloc r)).2 = s!"ok.{i}" ∧ (step w (.alloc r)).1.2 = putH w.2 ⟨r, i, .created 0 none⟩ ∧
      ((∀ j, j < n → j ≠ k → (w.1.slot j).st ≠ .none) → i = k) := by
  obtain ⟨i, hi, hin, hout, hhs, _⟩ := alloc_step_ok hr hd hk hnone r hf
  exact ⟨i, hout, hhs, fun hfull => Classical.byContradiction fun hik => hfull i hi hik hin⟩

def allocsOk (w : World) : List Nat → Prop
  | [] => True
  | r :: rs => (∃ i : Nat, (step w (.alloc r)).2 = s!"ok.{i}") ∧ allocsOk (step w (.alloc r)).1 rs

/-- The allocation probe the harness runs after a history: allocations into fresh registers `rs` all succeed
    as long as owner handles and `rs` together do not exceed the `n` slots, and each adds one owner. -/
theorem probe {n data : Nat} {w : World} (hr : Reach n data w) (hd : n ∣ 256) (rs : List Nat) (hnd : rs.Nodup)
    (hf : ∀ h ∈ w.2, h.reg ∉ rs) (hle : owners w.2 + rs.length ≤ n) :
    allocsOk w rs ∧ owners (run w (rs.map Op.alloc)).2 = owners w.2 + rs.length ∧
    ∀ h ∈ (run w (rs.map Op.alloc)).2, h ∈ w.2 ∨ h.reg ∈ rs := by
  have hn : 0 < n := Nat.pos_of_dvd_of_pos hd (by decide)
  induction rs generalizing w with
  | nil => exact ⟨trivial, rfl, fun h hm => Or.inl hm⟩
  | cons r rs ih =>
    simp only [List.length_cons] at hle
    have hne := hr.n_eq hn
    have hfr : ∀ h ∈ w.2, h.reg ≠ r := fun h hm e => hf h hm (by simp [e])
    -- held slots = owner handles < n: some slot is free
    obtain ⟨i0, hi0, h0⟩ := heldCount_lt_iff.mp
      ((J_reach hn hr).count ▸ hne ▸ Nat.lt_of_lt_of_le (Nat.lt_add_of_pos_right (Nat.succ_pos _)) hle)
    obtain ⟨i, hi, hnone, hout, hhs, _⟩ := alloc_step_ok hr hd (hne ▸ hi0) h0 r hfr
    have hown : owners (step w (.alloc r)).1.2 = owners w.2 + 1 := by
      rw [hhs, owners, putH, delH_fresh hfr]; rfl
    simp only [List.nodup_cons] at hnd
    have := ih (hr.step (.alloc r)) hnd.2
      (by
        intro h hm
        rw [hhs] at hm
        rcases mem_putH.mp hm with rfl | ⟨hm', _⟩
        · exact hnd.1
        · intro hin; exact hf h hm' (by simp [hin]))
      (by rw [hown]; omega)
    refine ⟨⟨⟨i, hout⟩, this.1⟩, ?_, ?_⟩
    · simp only [List.map_cons, run_cons]
      rw [this.2.1, hown, List.length_cons]; omega
    · intro h hm
      simp only [List.map_cons, run_cons] at hm
      rcases this.2.2 h hm with h1 | h1
      · rw [hhs] at h1
        rcases mem_putH.mp h1 with rfl | ⟨hm', _⟩
        · right; simp
        · left; exact hm'
      · right; simp [h1]

end Ec
