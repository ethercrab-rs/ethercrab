/-
  The layouts of /repo (Generated/Layouts.lean) pass the decidable side conditions of the struct and enum theorems (C19).
  Each table is evaluated once; Generated/LayoutsLawful.lean takes the single types from here by position.
-/
import EcModel.Lemmas.WireEnum
import EcModel.Lemmas.WireRoundtrip
import EcModel.Generated.Layouts

namespace Ec.Gen.Layouts
open Ec.Wire

theorem enums_good : ∀ x ∈ enums, enumGood x.2.2 = true := by decide +kernel

theorem structs_good : ∀ x ∈ structs, structDeclGood x.2.2 = true := by decide +kernel

theorem enum_lawful_at (i : Nat) (e : EnumDecl) (h : enums[i]?.map (·.2.2) = some e) : Lawful (enumCodec e) := by
  obtain ⟨x, hx, rfl⟩ := Option.map_eq_some_iff.mp h
  exact enumCodec_lawful _ (enums_good x (List.mem_of_getElem? hx))

theorem struct_lawful_at (i : Nat) (d : StructDecl) (h : structs[i]?.map (·.2.2) = some d)
    (hl : AllLawfulC (d.fields.map (·.codec))) : Lawful (structCodec d) := by
  obtain ⟨x, hx, rfl⟩ := Option.map_eq_some_iff.mp h
  exact structCodec_lawful_of_decl _ (structs_good x (List.mem_of_getElem? hx)) hl

end Ec.Gen.Layouts
