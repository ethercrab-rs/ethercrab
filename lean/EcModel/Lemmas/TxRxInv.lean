/-
  The invariants of the process-data loop (C07). First the vocabulary the property is stated in, independent of how
  the loop works (the datagrams of a cycle, tiling of an address window, pairing of request and answer datagrams)
  and what the three parts of one pass's plan contribute to it. Then the invariant of the transmit side (`FrInv`),
  its preservation by a digested pass and what follows for a whole run (`run_final`: a run with more fuel than
  `Phi` ends in a pass that stops). Then the receive side: what a pass does on a well-shaped answer, in the terms
  of the specification (`digest_shaped`), and the invariant (`RInv`) tying image, working-counter sum, states and
  clock value to the answers consumed so far.
-/
import EcModel.Lemmas.TxRxStep

namespace Ec.TxRx
open Ec

/-- All datagrams of a cycle in transmission order. -/
def allDgrams (frames : List Frame) : List Dgram := frames.flatMap (·.dgrams)

/-- ... as (command, length, data). -/
def allDescs (frames : List Frame) : List (Cmd × Nat × List Nat) := (allDgrams frames).map desc

def lrwOf (d : Cmd × Nat × List Nat) : Option (Nat × Nat) :=
  match d.1 with
  | .lrw a => some (a, d.2.1)
  | _ => none

def fprdOf (d : Cmd × Nat × List Nat) : Option Nat :=
  match d.1 with
  | .fprd a _ => some a
  | _ => none

def isFrmw (d : Cmd × Nat × List Nat) : Bool :=
  match d.1 with
  | .frmw _ _ => true
  | _ => false

/-- (logical address, length) of the LRW datagrams of a cycle, in order. -/
def lrws (frames : List Frame) : List (Nat × Nat) := (allDescs frames).filterMap lrwOf

def lrwDataOf (d : Cmd × Nat × List Nat) : Option (List Nat) :=
  match d.1 with
  | .lrw _ => some d.2.2
  | _ => none

/-- The image bytes a cycle transmitted: data of the LRW datagrams, concatenated in order. -/
def lrwData (frames : List Frame) : List Nat := ((allDescs frames).filterMap lrwDataOf).flatten

/-- Station addresses of the state-check datagrams of a cycle, in order. -/
def fprds (frames : List Frame) : List Nat := (allDescs frames).filterMap fprdOf

/-- `l` tiles `[a, b)`: consecutive, non-empty, no gap, no overlap. -/
def Tiles : Nat → List (Nat × Nat) → Nat → Prop
  | a, [], b => a = b
  | a, (x, l) :: r, b => x = a ∧ 0 < l ∧ Tiles (a + l) r b

theorem Tiles.append {b c : Nat} {l1 l2 : List (Nat × Nat)} (h2 : Tiles b l2 c) :
    ∀ {a : Nat}, Tiles a l1 b → Tiles a (l1 ++ l2) c := by
  induction l1 with
  | nil => intro a h1; cases (h1 : a = b); exact h2
  | cons x r ih => exact fun h1 => ⟨h1.1, h1.2.1, ih h1.2.2⟩

/-- The clock datagram: FRMW to the reference, register 0x0910, eight zero bytes. -/
def frmwDesc (r : Nat) : Cmd × Nat × List Nat := (.frmw r 0x0910, 8, [0, 0, 0, 0, 0, 0, 0, 0])

theorem allDescs_append (f1 f2 : List Frame) : allDescs (f1 ++ f2) = allDescs f1 ++ allDescs f2 := by
  simp [allDescs, allDgrams]

theorem allDescs_single (fr : Frame) : allDescs [fr] = fr.dgrams.map desc := by
  simp [allDescs, allDgrams]

def isLrw (d : Dgram) : Bool :=
  match d.cmd with
  | .lrw _ => true
  | _ => false

def isFprd (d : Dgram) : Bool :=
  match d.cmd with
  | .fprd _ _ => true
  | _ => false

/-- Every transmitted datagram with the datagram that came back in its place. -/
def pairs (frames : List Frame) (resps : List (List RPdu)) : List (Dgram × RPdu) :=
  (frames.zip resps).flatMap (fun x => x.1.dgrams.zip x.2)

/-- The answers to the LRW datagrams, in order. -/
def lrwAnswers (frames : List Frame) (resps : List (List RPdu)) : List RPdu :=
  ((pairs frames resps).filter (fun x => isLrw x.1)).map (·.2)

/-- What the network returned for the group's logical window, byte by byte from `pdiStart` on. -/
def returned (frames : List Frame) (resps : List (List RPdu)) : List Nat :=
  (lrwAnswers frames resps).flatMap (·.data)

/-- Sum of the working counters of the process-data datagrams. -/
def lrwWkcSum (frames : List Frame) (resps : List (List RPdu)) : Nat :=
  ((lrwAnswers frames resps).map (·.wkc)).sum

/-- The AL states the devices reported, in the order of the state checks. -/
def stateAnswers (frames : List Frame) (resps : List (List RPdu)) : List Nat :=
  ((pairs frames resps).filter (fun x => isFprd x.1)).map (fun x => nib x.2)

/-- Every frame was answered, datagram for datagram, with data of the requested length. -/
def Shaped (frames : List Frame) (resps : List (List RPdu)) : Prop :=
  frames.length ≤ resps.length ∧ ∀ x ∈ frames.zip resps, ShapedOne x.1.dgrams x.2

theorem zip_append_extra {α β : Type} (l1 : List α) (r : List β) : ∀ (l2 : List β), l1.length = l2.length →
    l1.zip (l2 ++ r) = l1.zip l2 := by
  induction l1 with
  | nil => intro l2 _; rw [List.zip_nil_left, List.zip_nil_left]
  | cons a l1 ih =>
    intro l2 h
    cases l2 with
    | nil => cases h
    | cons b l2 => exact congrArg ((a, b) :: ·) (ih l2 (Nat.succ.inj h))

theorem pairs_single (fr : Frame) (r : List RPdu) : pairs [fr] [r] = fr.dgrams.zip r :=
  List.append_nil _

/-- One more frame and its answer add that frame's LRW answers and state answers at the end. -/
theorem answers_snoc (frames : List Frame) (used : List (List RPdu)) (fr : Frame) (r : List RPdu)
    (h : used.length = frames.length) :
    lrwAnswers (frames ++ [fr]) (used ++ [r]) = lrwAnswers frames used ++ lrwAnswers [fr] [r] ∧
    stateAnswers (frames ++ [fr]) (used ++ [r]) = stateAnswers frames used ++ stateAnswers [fr] [r] := by
  have hp : pairs (frames ++ [fr]) (used ++ [r]) = pairs frames used ++ pairs [fr] [r] := by
    unfold pairs
    rw [List.zip_append h.symm, List.flatMap_append]
  unfold lrwAnswers stateAnswers
  rw [hp, List.filter_append, List.filter_append, List.map_append, List.map_append]
  exact ⟨rfl, rfl⟩

theorem lrwOf_fprdDesc (a : Nat) : lrwOf (fprdDesc a) = none := rfl
theorem fprdOf_fprdDesc (a : Nat) : fprdOf (fprdDesc a) = some a := rfl
theorem isFrmw_fprdDesc (a : Nat) : isFrmw (fprdDesc a) = false := rfl

theorem isLrw_eq (d : Dgram) : isLrw d = (lrwOf (desc d)).isSome := by
  unfold isLrw lrwOf desc; cases d.cmd <;> rfl

theorem isFprd_eq (d : Dgram) : isFprd d = (fprdOf (desc d)).isSome := by
  unfold isFprd fprdOf desc; cases d.cmd <;> rfl

theorem dcDescs_kind (c : Cfg) (s : St) :
    (dcDescs c s).length = (if needDc c s then 1 else 0) ∧
    ∀ x ∈ dcDescs c s, lrwOf x = none ∧ fprdOf x = none ∧ lrwDataOf x = none ∧ x.2.1 = 8 := by
  unfold dcDescs needDc
  cases c.dc with
  | none => exact ⟨rfl, List.forall_mem_nil _⟩
  | some r =>
    cases s.timeRead with
    | true => exact ⟨rfl, List.forall_mem_nil _⟩
    | false => exact ⟨rfl, fun x hx => by cases List.mem_singleton.1 hx; exact ⟨rfl, rfl, rfl, rfl⟩⟩

theorem lrwDescs_kind (c : Cfg) (s : St) :
    (lrwDescs c s).length = (if (pushedOf c s).isSome then 1 else 0) ∧
    ∀ x ∈ lrwDescs c s, (lrwOf x).isSome = true ∧ fprdOf x = none ∧ isFrmw x = false ∧ x.2.1 = kOf c s := by
  unfold lrwDescs pushedOf
  split
  · exact ⟨rfl, List.forall_mem_nil _⟩
  · exact ⟨rfl, fun x hx => by cases List.mem_singleton.1 hx; exact ⟨rfl, rfl, rfl, rfl⟩⟩

theorem fprdDescs_kind (l : List Nat) :
    ∀ x ∈ l.map fprdDesc,
      lrwOf x = none ∧ (fprdOf x).isSome = true ∧ lrwDataOf x = none ∧ isFrmw x = false ∧ x.2.1 = 2 := by
  intro x hx
  obtain ⟨a, _, rfl⟩ := List.mem_map.1 hx
  exact ⟨rfl, rfl, rfl, rfl, rfl⟩

theorem plan_lrws (c : Cfg) (s : St) :
    (planDescs c s).filterMap lrwOf = if remOf s = 0 then [] else [(c.pdiStart + s.sent, kOf c s)] := by
  rw [planDescs, List.filterMap_append, List.filterMap_append,
    List.filterMap_eq_nil_iff.2 fun x hx => ((dcDescs_kind c s).2 x hx).1,
    List.filterMap_eq_nil_iff.2 fun x hx => (fprdDescs_kind _ x hx).1, lrwDescs]
  split <;> rfl

theorem plan_lrwData (c : Cfg) (s : St) :
    (planDescs c s).filterMap lrwDataOf
      = if remOf s = 0 then [] else [(s.image.drop s.sent).take (kOf c s)] := by
  rw [planDescs, List.filterMap_append, List.filterMap_append,
    List.filterMap_eq_nil_iff.2 fun x hx => ((dcDescs_kind c s).2 x hx).2.2.1,
    List.filterMap_eq_nil_iff.2 fun x hx => (fprdDescs_kind _ x hx).2.2.1, lrwDescs]
  split <;> rfl

theorem plan_fprds (c : Cfg) (s : St) :
    (planDescs c s).filterMap fprdOf = s.subs.take (tOf c s) := by
  rw [planDescs, List.filterMap_append, List.filterMap_append,
    List.filterMap_eq_nil_iff.2 fun x hx => ((dcDescs_kind c s).2 x hx).2.1,
    List.filterMap_eq_nil_iff.2 fun x hx => ((lrwDescs_kind c s).2 x hx).2.1, List.filterMap_map]
  exact List.filterMap_some

theorem plan_rest_not_frmw (c : Cfg) (s : St) :
    ∀ d ∈ lrwDescs c s ++ (s.subs.take (tOf c s)).map fprdDesc, isFrmw d = false :=
  List.forall_mem_append.2
    ⟨fun x hx => ((lrwDescs_kind c s).2 x hx).2.2.1, fun x hx => (fprdDescs_kind _ x hx).2.2.2.1⟩

/-- `FrameGood` without the plan: what stays true of a frame after the pass that sent it. -/
structure FrameOk (c : Cfg) (fr : Frame) : Prop where
  nonempty : fr.dgrams ≠ []
  bytes : fr.bytes = encodeFrame fr.dgrams
  size : dgramsSize fr.dgrams ≤ c.cap - 16
  len : fr.bytes.length ≤ c.cap

/-- Where the clock datagram is: nowhere (plain), or first and only once. -/
def DcOk (c : Cfg) (s : St) : Prop :=
  match c.dc with
  | none => s.timeRead = false ∧ ∀ d ∈ allDescs s.frames, isFrmw d = false
  | some r =>
    if s.timeRead then ∃ rest, allDescs s.frames = frmwDesc r :: rest ∧ ∀ d ∈ rest, isFrmw d = false
    else s.frames = []

/-- Transmit side, between passes (`image0`: the image the cycle started with). `count`: the frames sent plus the
    frames still due (`Phi`) never exceed `bound`, so `bound` limits the frames of the whole run. -/
structure FrInv (c : Cfg) (image0 : List Nat) (bound : Nat) (s : St) : Prop where
  len : s.image.length = image0.length
  sent : s.sent ≤ image0.length
  checks : s.checks ≤ c.addrs.length
  subs : s.subs = c.addrs.drop s.checks
  tiles : Tiles c.pdiStart (lrws s.frames) (c.pdiStart + s.sent)
  fprd : fprds s.frames = c.addrs.take s.checks
  frames : ∀ fr ∈ s.frames, FrameOk c fr
  dc : DcOk c s
  outs : s.image.drop c.readLen = image0.drop c.readLen
  unsent : s.image.drop s.sent = image0.drop s.sent
  sentData : lrwData s.frames = image0.take s.sent
  count : s.frames.length + Phi c s ≤ bound

theorem FrameGood.ok {c : Cfg} {s : St} {fr : Frame} (h : FrameGood c s fr) : FrameOk c fr :=
  ⟨h.nonempty, h.bytes, h.size, h.len⟩

theorem FrInv.sent_le {c : Cfg} {image0 : List Nat} {bound : Nat} {s : St} (hi : FrInv c image0 bound s) :
    s.sent ≤ s.image.length := hi.len ▸ hi.sent

theorem FrInv.frames_snoc {c : Cfg} {image0 : List Nat} {bound : Nat} {s : St} (hi : FrInv c image0 bound s)
    {fr : Frame} (hg : FrameGood c s fr) : ∀ f ∈ s.frames ++ [fr], FrameOk c f := by
  rw [List.forall_mem_append, List.forall_mem_singleton]; exact ⟨hi.frames, hg.ok⟩

theorem DcOk.snoc {c : Cfg} {s s' : St} {fr : Frame} (hdc : DcOk c s) (hfr : s'.frames = s.frames ++ [fr])
    (hd : fr.dgrams.map desc = planDescs c s) (htr : s'.timeRead = (s.timeRead || needDc c s)) : DcOk c s' := by
  have hdescs : allDescs s'.frames = allDescs s.frames ++ (dcDescs c s ++ (lrwDescs c s ++
      (s.subs.take (tOf c s)).map fprdDesc)) := by
    rw [hfr, allDescs_append, allDescs_single, hd, planDescs, List.append_assoc]
  have hrest := plan_rest_not_frmw c s
  revert hdc
  unfold DcOk
  rw [htr, hdescs]
  unfold dcDescs needDc
  cases c.dc with
  | none =>
    intro hdc
    rw [hdc.1]; exact ⟨rfl, List.forall_mem_append.2 ⟨hdc.2, hrest⟩⟩
  | some r =>
    dsimp only
    cases s.timeRead with
    | true =>
      rw [if_pos rfl, if_pos rfl]
      intro ⟨rest, hr, hnf⟩
      exact ⟨rest ++ _, by rw [hr]; rfl, List.forall_mem_append.2 ⟨hnf, hrest⟩⟩
    | false =>
      rw [if_neg Bool.false_ne_true, if_neg Bool.false_ne_true]
      intro hdc
      exact ⟨_, by rw [hdc]; rfl, hrest⟩

/-- In the clock variants nothing was sent exactly as long as the clock datagram is due. -/
theorem DcOk.frames_nil_iff {c : Cfg} {s : St} (h : DcOk c s) (hdc : c.dc.isSome = true) :
    s.frames = [] ↔ needDc c s = true := by
  unfold DcOk at h; unfold needDc
  cases hd : c.dc with
  | none => rw [hd] at hdc; cases hdc
  | some r =>
    rw [hd] at h
    cases ht : s.timeRead with
    | false => rw [ht] at h; exact ⟨fun _ => rfl, fun _ => h⟩
    | true =>
      rw [ht] at h
      obtain ⟨rest, hr, _⟩ := h
      exact ⟨fun hn => (by rw [hn] at hr; cases hr), nofun⟩

theorem FrInv.advance {c : Cfg} {image0 : List Nat} {bound : Nat} {s s' : St} (hc : CfgOk c image0.length)
    (hi : FrInv c image0 bound s) (ha : Advance c s s') : FrInv c image0 bound s' := by
  obtain ⟨fr, r, hg, hp⟩ := ha.passed
  have hc' : CfgOk c s.image.length := hi.len ▸ hc
  have hk := kOf_le c s
  have ht := tOf_le c s
  have hsent0 := hi.sent
  have hchk0 := hi.checks
  have hsl : s.subs.length = c.addrs.length - s.checks := by rw [hi.subs, List.length_drop]
  have hremS : remOf s = image0.length - s.sent := by rw [remOf, hi.len]
  have hsent := hp.sent
  have hdescs : allDescs s'.frames = allDescs s.frames ++ planDescs c s := by
    rw [hp.frames, allDescs_append, allDescs_single, hg.descs]
  have hphi := phi_step hc hg.plan_ne hp.rem hp.subs hp.timeRead
  have hcount := hi.count
  exact {
    len := hp.len.trans hi.len
    sent := by
      rw [hsent]; split
      · exact hsent0
      · exact Nat.add_le_of_le_sub' hsent0 (hremS ▸ hk)
    checks := by rw [hp.checks]; exact Nat.add_le_of_le_sub' hchk0 (hsl ▸ ht)
    subs := by rw [hp.subs, hi.subs, List.drop_drop, hp.checks]
    tiles := by
      rw [lrws, hdescs, List.filterMap_append, plan_lrws]
      refine Tiles.append ?_ hi.tiles
      rw [hsent]
      split
      · rfl
      · rename_i hr; exact ⟨rfl, kOf_pos hc' hr, Nat.add_assoc .. ▸ rfl⟩
    fprd := by
      rw [fprds, hdescs, List.filterMap_append, plan_fprds, ← fprds, hi.fprd, hi.subs, hp.checks, List.take_add]
    frames := by rw [hp.frames]; exact hi.frames_snoc hg
    dc := hi.dc.snoc hp.frames hg.descs hp.timeRead
    outs := hp.outs.trans hi.outs
    unsent := by rw [hp.unsent, hsent, ← List.drop_drop, hi.unsent, List.drop_drop]
    sentData := by
      rw [lrwData, hdescs, List.filterMap_append, plan_lrwData, List.flatten_append, ← lrwData, hi.sentData, hsent]
      split
      · rw [Nat.add_zero]; exact List.append_nil _
      · rw [List.flatten_singleton, hi.unsent, List.take_add]
    count := by
      rw [hp.frames, List.length_append, List.length_singleton, Nat.add_assoc, Nat.add_comm 1]
      exact Nat.le_trans (Nat.add_le_add_left hphi _) hcount }

theorem FrInv.init (c : Cfg) (image : List Nat) (resps : List (List RPdu)) (idx0 : Nat) :
    FrInv c image (Phi c (initSt c image resps idx0)) (initSt c image resps idx0) := by
  refine ⟨rfl, Nat.zero_le _, Nat.zero_le _, rfl, rfl, rfl, List.forall_mem_nil _, ?_, rfl, rfl, rfl,
    Nat.le_of_eq (Nat.zero_add _)⟩
  unfold DcOk; cases c.dc
  · exact ⟨rfl, List.forall_mem_nil _⟩
  · rfl

/-- A run that starts with more fuel than `Phi` ends in a pass that does not continue, from a state `sl` that
    satisfies the invariant and whatever else (`P`) digested passes preserve. -/
theorem run_final {c : Cfg} {image0 : List Nat} {bound : Nat} (hc : CfgOk c image0.length) {P : St → Prop}
    (hP : ∀ s s', FrInv c image0 bound s → P s → Advance c s s' → P s') (fuel : Nat) :
    ∀ (s : St), FrInv c image0 bound s → P s → Phi c s < fuel →
    ∃ sl o, FrInv c image0 bound sl ∧ P sl ∧ (step c sl).out = some o ∧ loop c fuel s = ((step c sl).st, o) := by
  induction fuel with
  | zero => exact fun _ _ _ hlt => absurd hlt (Nat.not_lt_zero _)
  | succ fuel ih =>
    intro s hi hp hlt
    rw [loop_succ]
    cases ho : (step c s).out with
    | some o => exact ⟨s, o, hi, hp, ho, rfl⟩
    | none =>
      have ha := advance_of_continue (hi.len ▸ hc) hi.sent_le (Step.out_none ho)
      obtain ⟨fr, r, hg, hpa⟩ := ha.passed
      have := phi_step hc hg.plan_ne hpa.rem hpa.subs hpa.timeRead
      exact ih _ (hi.advance hc ha) (hP _ _ hi hp ha) (Nat.lt_of_succ_lt_succ (Nat.lt_of_le_of_lt this hlt))

/-- Where the clock datagram is, in terms of the frames alone. -/
def DcFrames (c : Cfg) (frames : List Frame) : Prop :=
  match c.dc with
  | none => ∀ d ∈ allDescs frames, isFrmw d = false
  | some r => frames = [] ∨ ∃ rest, allDescs frames = frmwDesc r :: rest ∧ ∀ d ∈ rest, isFrmw d = false

theorem DcOk.toFrames {c : Cfg} {s : St} (h : DcOk c s) : DcFrames c s.frames := by
  revert h
  unfold DcOk DcFrames
  cases c.dc with
  | none => exact And.right
  | some r =>
    dsimp only
    split
    · exact .inr
    · exact .inl

/-- What holds of the state a run ends in, whatever the outcome. -/
structure WInv (c : Cfg) (image0 : List Nat) (bound : Nat) (s : St) : Prop where
  frames : ∀ fr ∈ s.frames, FrameOk c fr
  count : s.frames.length ≤ bound
  len : s.image.length = image0.length
  outs : s.image.drop c.readLen = image0.drop c.readLen
  dc : DcFrames c s.frames

theorem FrInv.weak {c : Cfg} {image0 : List Nat} {bound : Nat} {s : St} (h : FrInv c image0 bound s) :
    WInv c image0 bound s :=
  ⟨h.frames, Nat.le_trans (Nat.le_add_right _ _) h.count, h.len, h.outs, h.dc.toFrames⟩

/-- In the clock variants a run has sent a frame: if the last pass sent none, the clock was read before, in a
    frame. -/
theorem loop_weak {c : Cfg} {image0 : List Nat} {bound : Nat} (hc : CfgOk c image0.length) (fuel : Nat) (s : St)
    (hi : FrInv c image0 bound s) (hlt : Phi c s < fuel) :
    WInv c image0 bound (loop c fuel s).1 ∧ (c.dc.isSome = true → (loop c fuel s).1.frames ≠ []) := by
  obtain ⟨sl, o, hl, _, _, h⟩ := run_final hc (P := fun _ => True) (fun _ _ _ _ _ => trivial) fuel s hi trivial hlt
  rw [h]
  rcases step_cases (hl.len ▸ hc) hl.sent_le with ⟨hd, _, _, hn⟩ | ⟨fr, _, hg, hfr, hlen, hd, _⟩
  · rw [hd]
    exact ⟨hl.weak, fun hdc hnil => Bool.false_ne_true (hn.symm.trans ((hl.dc.frames_nil_iff hdc).1 hnil))⟩
  · exact ⟨{
      frames := hfr ▸ hl.frames_snoc hg
      count := by
        rw [hfr, List.length_append, List.length_singleton]
        exact Nat.le_trans (Nat.add_le_add_left (phi_pos hc hg.plan_ne) _) hl.count
      len := hlen.trans hl.len
      outs := hd.trans hl.outs
      dc := (hl.dc.snoc (s' := { (step c sl).st with timeRead := sl.timeRead || needDc c sl }) hfr hg.descs
        rfl).toFrames },
      fun _ => hfr ▸ List.append_ne_nil_of_right_ne_nil _ (List.cons_ne_nil _ _)⟩

theorem loop_ok {c : Cfg} {image0 : List Nat} {bound : Nat} (hc : CfgOk c image0.length) {P : St → Prop}
    (hP : ∀ s s', FrInv c image0 bound s → P s → Advance c s s' → P s') (fuel : Nat) (s : St)
    (hi : FrInv c image0 bound s) (hp : P s) (hlt : Phi c s < fuel) (hok : (loop c fuel s).2 = .ok ()) :
    FrInv c image0 bound (loop c fuel s).1 ∧ P (loop c fuel s).1 ∧ (loop c fuel s).1.sent = image0.length ∧
      (loop c fuel s).1.checks = c.addrs.length ∧ needDc c (loop c fuel s).1 = false := by
  obtain ⟨sl, o, hl, hpl, ho, h⟩ := run_final hc hP fuel s hi hp hlt
  rw [h] at hok ⊢
  cases hok
  have fin : ∀ t : St, FrInv c image0 bound t → P t → remOf t = 0 → c.addrs.length ≤ t.checks →
      needDc c t = false →
      FrInv c image0 bound t ∧ P t ∧ t.sent = image0.length ∧ t.checks = c.addrs.length ∧ needDc c t = false := by
    intro t ht hpt hr hn hd
    exact ⟨ht, hpt, Nat.le_antisymm ht.sent (ht.len ▸ Nat.le_of_sub_eq_zero hr), Nat.le_antisymm ht.checks hn, hd⟩
  rcases done_cases (hl.len ▸ hc) hl.sent_le (Step.out_ok ho) with ⟨he, hr, hn, hd⟩ | ⟨ha, hr, hn⟩
  · rw [he]
    refine fin sl hl hpl hr (hn.elim id fun hn => ?_) hd
    have := hl.subs; rw [hn] at this
    exact List.drop_eq_nil_iff.1 this.symm
  · obtain ⟨_, _, _, hp⟩ := ha.passed
    exact fin _ (hl.advance hc ha) (hP _ _ hl hpl ha) (by rw [hp.rem, hr]; rfl) hn (needDc_after hp.timeRead)

theorem phi_init_le {c : Cfg} {image : List Nat} {n : Nat} (hc : CfgOk c n) (resps : List (List RPdu)) (idx0 : Nat) :
    Phi c (initSt c image resps idx0) < fuelFor c image := by
  have := hc.capLo
  have h1 : ceilDiv (remOf (initSt c image resps idx0)) (c.cap - 28) ≤ image.length := ceilDiv_le (by omega)
  have h2 : ceilDiv (initSt c image resps idx0).subs.length (perFrame c) ≤ c.addrs.length :=
    ceilDiv_le (perFrame_pos hc)
  unfold Phi fuelFor
  split <;> omega

theorem ShapedOne.all_len {n : Nat} : ∀ {ds : List Dgram} {r : List RPdu}, ShapedOne ds r →
    (∀ d ∈ ds, d.len = n) → ∀ p ∈ r, p.data.length = n := by
  intro ds
  induction ds with
  | nil => intro r h _; cases r with
    | nil => exact fun _ hp => nomatch hp
    | cons _ _ => exact h.elim
  | cons d ds ih => intro r h hd; cases r with
    | nil => exact h.elim
    | cons p ps =>
      rw [List.forall_mem_cons] at hd ⊢
      exact ⟨h.1.trans hd.1, ih h.2 hd.2⟩

theorem eq_ite_singleton {l : List RPdu} {b : Bool} (h : l.length = if b then 1 else 0) :
    ∃ x, l = if b then [x] else [] := by
  cases b with
  | false => exact ⟨⟨[], 0⟩, List.eq_nil_of_length_eq_zero h⟩
  | true =>
    match l, h with
    | [x], _ => exact ⟨x, rfl⟩

/-- A stretch of datagrams that are all of one kind (LRW or not, state check or not, one data length), and its
    answers. -/
theorem ShapedOne.part {D : List Dgram} {ri : List RPdu} {L : List (Cmd × Nat × List Nat)} {n : Nat}
    {bl bf : Bool} (hs : ShapedOne D ri) (m : D.map desc = L)
    (hk : ∀ x ∈ L, (lrwOf x).isSome = bl ∧ (fprdOf x).isSome = bf ∧ x.2.1 = n) :
    ri.length = L.length ∧ (∀ p ∈ ri, p.data.length = n) ∧
    ((D.zip ri).filter (fun x => isLrw x.1)).map (·.2) = (if bl then ri else []) ∧
    ((D.zip ri).filter (fun x => isFprd x.1)).map (fun x => nib x.2) = (if bf then ri.map nib else []) := by
  have hk' : ∀ d ∈ D, isLrw d = bl ∧ isFprd d = bf ∧ d.len = n := fun d hd =>
    let ⟨h1, h2, h3⟩ := hk _ (m ▸ List.mem_map_of_mem hd)
    ⟨(isLrw_eq d).trans h1, (isFprd_eq d).trans h2, h3⟩
  have sel : ∀ (q : Dgram → Bool) (b : Bool), (∀ d ∈ D, q d = b) →
      (D.zip ri).filter (fun x => q x.1) = if b then D.zip ri else [] := fun q b h => by
    cases b
    · exact List.filter_eq_nil_iff.2 fun x hx => by rw [h _ (List.of_mem_zip hx).1]; exact Bool.false_ne_true
    · exact List.filter_eq_self.2 fun x hx => h _ (List.of_mem_zip hx).1
  have hsnd := List.map_snd_zip (Nat.le_of_eq hs.length)
  refine ⟨by rw [hs.length, ← m, List.length_map], hs.all_len fun d hd => (hk' d hd).2.2, ?_, ?_⟩
  · rw [sel isLrw bl fun d hd => (hk' d hd).1]
    cases bl
    · rfl
    · exact hsnd
  · rw [sel isFprd bf fun d hd => (hk' d hd).2.1]
    cases bf
    · rfl
    · exact (List.map_map (f := Prod.snd) (g := nib)).symm.trans (congrArg _ hsnd)

theorem states_room {c : Cfg} {image0 : List Nat} {bound : Nat} {s : St} (hn : c.addrs.length ≤ c.maxSd)
    (hi : FrInv c image0 bound s) (hns : s.states.length = s.checks) : s.states.length + tOf c s ≤ c.maxSd := by
  have ht : tOf c s ≤ c.addrs.length - s.checks := by rw [← List.length_drop, ← hi.subs]; exact tOf_le c s
  rw [hns]
  exact Nat.le_trans (Nat.add_le_of_le_sub' hi.checks ht) hn

/-- The pass from `s` that sent `fr`, on an answer of the requested shape, in the terms of the specification: it
    panics in the working-counter addition or goes through, having appended the state answers and landed the answer
    to the LRW datagram, if there was one. -/
theorem digest_shaped {c : Cfg} {s : St} {fr : Frame} {r : List RPdu} (idx' : Nat) (rs : List (List RPdu))
    (hd : fr.dgrams.map desc = planDescs c s) (hsh : ShapedOne fr.dgrams r)
    (hst : s.states.length + tOf c s ≤ c.maxSd) :
    (∃ x w, digest c s fr idx' rs r = .panic x w) ∨
    ∃ x, (digest c s fr idx' rs r).Ok x ∧ x.states = s.states ++ stateAnswers [fr] [r] ∧
      (stateAnswers [fr] [r]).length = tOf c s ∧
      (remOf s = 0 → lrwAnswers [fr] [r] = [] ∧ x.image = s.image ∧ x.wkc = s.wkc) ∧
      (remOf s ≠ 0 → ∃ pl, lrwAnswers [fr] [r] = [pl] ∧ pl.data.length = kOf c s ∧
        x.image = setRange s.image (min s.sent c.readLen)
          (pl.data.take (min (s.sent + kOf c s) c.readLen - min s.sent c.readLen)) ∧
        addU 16 c.mode s.wkc pl.wkc = some x.wkc) := by
  -- frame and answer fall into the three parts of the plan: clock (`D1`, `r1`), LRW (`D2`, `r2`), state checks
  obtain ⟨D12, D3, e1, m12, m3⟩ := List.map_eq_append_iff.1 hd
  obtain ⟨D1, D2, rfl, m1, m2⟩ := List.map_eq_append_iff.1 m12
  rw [e1] at hsh
  obtain ⟨r12, r3, er, s12, s3⟩ := ShapedOne.append_inv hsh
  obtain ⟨r1, r2, rfl, s1, s2⟩ := ShapedOne.append_inv s12
  obtain ⟨l1, a1, b1, c1⟩ := s1.part m1 (n := 8) (bl := false) (bf := false) fun x hx =>
    let ⟨h1, h2, _, h4⟩ := (dcDescs_kind c s).2 x hx
    ⟨by rw [h1]; rfl, by rw [h2]; rfl, h4⟩
  obtain ⟨l2, a2, b2, c2⟩ := s2.part m2 (n := kOf c s) (bl := true) (bf := false) fun x hx =>
    let ⟨h1, h2, _, h4⟩ := (lrwDescs_kind c s).2 x hx
    ⟨h1, by rw [h2]; rfl, h4⟩
  obtain ⟨l3, a3, b3, c3⟩ := s3.part m3 (n := 2) (bl := false) (bf := true) fun x hx =>
    let ⟨h1, h2, _, _, h5⟩ := fprdDescs_kind _ x hx
    ⟨by rw [h1]; rfl, h2, h5⟩
  obtain ⟨pd, hr1⟩ := eq_ite_singleton (l1.trans (dcDescs_kind c s).1)
  obtain ⟨pl, hr2⟩ := eq_ite_singleton (l2.trans (lrwDescs_kind c s).1)
  have hz : pairs [fr] [r] = D1.zip r1 ++ D2.zip r2 ++ D3.zip r3 := by
    rw [pairs_single, e1, er, List.zip_append (by rw [List.length_append, List.length_append, s1.length, s2.length]),
      List.zip_append s1.length.symm]
  have hla : lrwAnswers [fr] [r] = r2 := by
    rw [lrwAnswers, hz, List.filter_append, List.filter_append, List.map_append, List.map_append, b1, b2, b3]
    exact List.append_nil _
  have hsa : stateAnswers [fr] [r] = r3.map nib := by
    rw [stateAnswers, hz, List.filter_append, List.filter_append, List.map_append, List.map_append, c1, c2, c3]
    rfl
  have hpd : needDc c s = true → pd.data.length = 8 := fun hn =>
    a1 pd (by rw [hr1, hn]; exact List.mem_singleton_self pd)
  have hpl : ∀ k, pushedOf c s = some k → pl.data.length = k := fun k hk => by
    have := a2 pl (by rw [hr2, hk]; exact List.mem_singleton_self pl)
    rw [pushedOf] at hk; split at hk <;> cases hk
    exact this
  have hl3 : r3.length = tOf c s := by rw [l3, List.length_map, List.length_take, Nat.min_eq_left (tOf_le c s)]
  rw [hla, hsa, List.length_map, digest, er, hr1, hr2]
  obtain ⟨x, w, hx⟩ | ⟨x, hx, hst', hnone, hsome⟩ := consume_shaped c (needDc c s) (pushedOf c s) (remOf s)
    { sentState s fr idx' (tOf c s) with resps := rs } pd pl r3 hpd hpl a3 (by rw [hl3]; exact hst)
  · exact .inl ⟨x, w, hx⟩
  · refine .inr ⟨x, hx, hst', hl3, fun hr => ?_, fun hr => ?_⟩
    · have hpu : pushedOf c s = none := if_pos hr
      rw [hpu]; exact ⟨rfl, hnone hpu⟩
    · have hpu : pushedOf c s = some (kOf c s) := if_neg hr
      rw [hpu]; exact ⟨pl, rfl, hpl _ hpu, hsome _ hpu⟩

/-- The image is the returned bytes `R` up to `RL` (`read_pdi_len`), then the original; landing the answer `d` to the
    next chunk keeps that form. -/
theorem land_step (img0 R d : List Nat) (sent k RL : Nat) (hR : R.length = sent) (hd : d.length = k) :
    setRange (R.take (min sent RL) ++ img0.drop (min sent RL)) (min sent RL)
        (d.take (min (sent + k) RL - min sent RL))
      = (R ++ d).take (min (sent + k) RL) ++ img0.drop (min (sent + k) RL) := by
  have hlo : min sent RL = (R.take (min sent RL)).length := by
    rw [List.length_take, hR, Nat.min_eq_left (Nat.min_le_left _ _)]
  rw [setRange_append _ _ _ _ hlo, List.drop_drop, List.length_take, hd, List.take_append, hR]
  by_cases hle : RL ≤ sent
  · rw [Nat.min_eq_right hle, Nat.min_eq_right (Nat.le_trans hle (Nat.le_add_right _ _)), Nat.sub_self,
      Nat.sub_eq_zero_of_le hle]; rfl
  · have hi : sent ≤ min (sent + k) RL ∧ min (sent + k) RL ≤ sent + k := by omega
    have e1 : R.take sent = R := hR ▸ List.take_length
    have e2 : R.take (min (sent + k) RL) = R := List.take_of_length_le (hR ▸ hi.1)
    rw [Nat.min_eq_left (by omega : sent ≤ RL), Nat.min_eq_left (by omega : min (sent + k) RL - sent ≤ k), e1, e2,
      Nat.add_sub_cancel' hi.1]

/-- What the answers consumed so far (`used`, one per transmitted frame) did to the state, if they all had the
    requested shape. -/
structure RFacts (c : Cfg) (image0 : List Nat) (s : St) (used : List (List RPdu)) : Prop where
  retLen : (returned s.frames used).length = s.sent
  image : s.image = (returned s.frames used).take (min s.sent c.readLen) ++ image0.drop (min s.sent c.readLen)
  wkc : s.wkc = lrwWkcSum s.frames used % 65536
  wkcChk : c.mode = .checked → lrwWkcSum s.frames used < 65536
  states : s.states = stateAnswers s.frames used
  nstates : s.states.length = s.checks

theorem RFacts.of_pairs {c : Cfg} {image0 : List Nat} {s : St} {u1 u2 : List (List RPdu)}
    (hp : pairs s.frames u1 = pairs s.frames u2) (h : RFacts c image0 s u1) : RFacts c image0 s u2 := by
  have e1 : lrwAnswers s.frames u1 = lrwAnswers s.frames u2 := by unfold lrwAnswers; rw [hp]
  have e2 : stateAnswers s.frames u1 = stateAnswers s.frames u2 := by unfold stateAnswers; rw [hp]
  obtain ⟨h1, h2, h3, h4, h5, h6⟩ := h
  unfold returned at h1 h2
  unfold lrwWkcSum at h3 h4
  rw [e1] at h1 h2 h3 h4
  exact ⟨h1, h2, h3, h4, e2 ▸ h5, h6⟩

/-- Receive side, between passes: the answers `resps0` split into those consumed (`used`, one per frame sent) and
    those pending; a clock value that was read is the head of the first answer; and if every consumed answer had
    the requested shape, the state is what they say (`RFacts`). -/
def RInv (c : Cfg) (image0 : List Nat) (resps0 : List (List RPdu)) (s : St) : Prop :=
  ∃ used, resps0 = used ++ s.resps ∧ used.length = s.frames.length ∧
    (s.timeRead = true → ∃ p0 rest0 restU, used = (p0 :: rest0) :: restU ∧ s.time = rd64 p0.data) ∧
    ((∀ x ∈ s.frames.zip used, ShapedOne x.1.dgrams x.2) → RFacts c image0 s used)

theorem RInv.init (c : Cfg) (image : List Nat) (resps : List (List RPdu)) (idx0 : Nat) :
    RInv c image resps (initSt c image resps idx0) :=
  ⟨[], rfl, rfl, nofun, fun _ => ⟨rfl, rfl, rfl, fun _ => Nat.zero_lt_succ _, rfl, rfl⟩⟩

theorem addU16_some {m : Mode} {a b w S : Nat} (h : addU 16 m a b = some w) (ha : a = S % 65536)
    (hS : m = .checked → S < 65536) : w = (S + b) % 65536 ∧ (m = .checked → S + b < 65536) := by
  have hmod : (a + b) % 65536 = (S + b) % 65536 := ha ▸ Nat.mod_add_mod S 65536 b
  unfold addU at h
  split at h
  · rename_i hlt
    cases h
    exact ⟨hmod ▸ (Nat.mod_eq_of_lt hlt).symm, fun hm => by rwa [ha, Nat.mod_eq_of_lt (hS hm)] at hlt⟩
  · cases m with
    | checked => cases h
    | wrapping => cases h; exact ⟨hmod, nofun⟩

theorem RInv.advance {c : Cfg} {image0 : List Nat} {bound : Nat} {resps0 : List (List RPdu)} {s s' : St}
    (hc : CfgOk c image0.length) (hn : c.addrs.length ≤ c.maxSd) (hi : FrInv c image0 bound s)
    (hr : RInv c image0 resps0 s) (ha : Advance c s s') : RInv c image0 resps0 s' := by
  obtain ⟨fr, idx', r, rs, hg, hresp, hres⟩ := ha
  replace hres : (digest c s fr idx' rs r).Ok s' := hres
  obtain ⟨used, hu, hul, htime, hfacts⟩ := hr
  have hp := passed hresp hres
  have hrs : s'.resps = rs := List.tail_eq_of_cons_eq (hresp.symm.trans hp.resps) |>.symm
  refine ⟨used ++ [r], by rw [hu, hresp, hrs, List.append_assoc]; rfl,
    by rw [hp.frames, List.length_append, List.length_append, hul]; rfl, fun htr' => ?_, fun hsh => ?_⟩
  · -- the clock datagram is due only while nothing was sent: its answer is the head of the first answer
    by_cases hd : needDc c s = true
    · obtain ⟨p, rest, hrp, ht⟩ := hp.time.1 hd
      have hfr0 : s.frames = [] := (hi.dc.frames_nil_iff (Bool.and_eq_true_iff.1 hd).1).2 hd
      have hu0 : used = [] := List.eq_nil_of_length_eq_zero (by rw [hul, hfr0]; rfl)
      exact ⟨p, rest, [], by rw [hu0, hrp]; rfl, ht⟩
    · have hdf := Bool.eq_false_iff.2 hd
      obtain ⟨p0, rest0, restU, hu0, ht0⟩ := htime (by rw [hp.timeRead, hdf, Bool.or_false] at htr'; exact htr')
      exact ⟨p0, rest0, restU ++ [r], by rw [hu0]; rfl, by rw [hp.time.2 hdf, ht0]⟩
  · have hz : s'.frames.zip (used ++ [r]) = s.frames.zip used ++ [(fr, r)] := by
      rw [hp.frames, List.zip_append hul.symm]; rfl
    rw [hz, List.forall_mem_append, List.forall_mem_singleton] at hsh
    have F := hfacts hsh.1
    obtain ⟨hla, hsa⟩ := answers_snoc s.frames used fr r hul
    rw [← hp.frames] at hla hsa
    have hnew : ShapedOne fr.dgrams r := hsh.2
    obtain ⟨x, w, hx⟩ | ⟨x, hx, hst', hlen, hnone, hsome⟩ :=
      digest_shaped idx' rs hg.descs hnew (states_room hn hi F.nstates)
    · rw [hx] at hres; rcases hres with h | h <;> cases h
    obtain rfl : s' = x := (Step.Ok.st hres).symm.trans hx.st
    have hstates : s'.states = stateAnswers s'.frames (used ++ [r]) := by rw [hsa, hst', F.states]
    have hnst : s'.states.length = s'.checks := by
      rw [hst', hp.checks, List.length_append, hlen, F.nstates]
    by_cases hr : remOf s = 0
    · obtain ⟨hl0, himg, hw⟩ := hnone hr
      rw [hl0, List.append_nil] at hla
      have hsent : s'.sent = s.sent := by rw [hp.sent, if_pos hr]; rfl
      exact {
        retLen := by rw [returned, hla, hsent]; exact F.retLen
        image := by rw [returned, hla, hsent, himg]; exact F.image
        wkc := by rw [lrwWkcSum, hla, hw]; exact F.wkc
        wkcChk := by rw [lrwWkcSum, hla]; exact F.wkcChk
        states := hstates
        nstates := hnst }
    · obtain ⟨pl, hl1, hpl, himg, hw⟩ := hsome hr
      rw [hl1] at hla
      have hret : returned s'.frames (used ++ [r]) = returned s.frames used ++ pl.data := by
        rw [returned, hla, List.flatMap_append]; exact congrArg _ (List.append_nil _)
      have hwk : lrwWkcSum s'.frames (used ++ [r]) = lrwWkcSum s.frames used + pl.wkc := by
        rw [lrwWkcSum, hla, List.map_append, List.sum_append]; exact congrArg _ (Nat.add_zero _)
      have hsent : s'.sent = s.sent + kOf c s := by rw [hp.sent, if_neg hr]
      obtain ⟨hw1, hw2⟩ := addU16_some hw F.wkc F.wkcChk
      exact {
        retLen := by rw [hret, List.length_append, F.retLen, hpl, hsent]
        image := by
          rw [hret, hsent, himg, F.image]
          exact land_step image0 (returned s.frames used) pl.data s.sent _ c.readLen F.retLen hpl
        wkc := by rw [hwk]; exact hw1
        wkcChk := by rw [hwk]; exact hw2
        states := hstates
        nstates := hnst }

theorem loop_err_misshaped {c : Cfg} {image0 : List Nat} {bound : Nat} {resps0 : List (List RPdu)}
    (hc : CfgOk c image0.length) (hn : c.addrs.length ≤ c.maxSd) (fuel : Nat) (s : St)
    (hi : FrInv c image0 bound s) (hr : RInv c image0 resps0 s) (hlt : Phi c s < fuel) (e : TxErr)
    (herr : (loop c fuel s).2 = .err e) : ¬ Shaped (loop c fuel s).1.frames resps0 := by
  obtain ⟨sl, o, hl1, hl2, ho, h⟩ :=
    run_final hc (fun _ _ hi hr ha => RInv.advance hc hn hi hr ha) fuel s hi hr hlt
  rw [h] at herr ⊢
  cases herr
  have hst := Step.out_err ho
  obtain ⟨used, hu, hul, _, hfacts⟩ := hl2
  intro hsh
  rcases step_cases (hl1.len ▸ hc) hl1.sent_le with ⟨hd, _⟩ | ⟨fr, idx', hg, hfr, _, _, ⟨hr0, hf⟩ | ⟨r, rs, hr1, hcn⟩⟩
  · rw [hd] at hst; cases hst
  · -- timeout: one frame more than answers
    have := hsh.1
    rw [hfr, hu, hr0, List.append_nil, List.length_append, hul] at this
    exact Nat.not_succ_le_self _ this
  · have hz : (step c sl).st.frames.zip resps0 = sl.frames.zip used ++ [(fr, r)] := by
      rw [hfr, hu, hr1, List.append_cons used r rs,
        zip_append_extra _ _ _ (by rw [List.length_append, List.length_append, hul]; rfl),
        List.zip_append hul.symm]; rfl
    have hsh2 := hsh.2
    rw [hz, List.forall_mem_append, List.forall_mem_singleton] at hsh2
    rw [hcn] at hst
    have hnew : ShapedOne fr.dgrams r := hsh2.2
    obtain ⟨x, w, hx⟩ | ⟨x, hx, _⟩ :=
      digest_shaped idx' rs hg.descs hnew (states_room hn hl1 (hfacts hsh2.1).nstates)
    · rw [hx] at hst; cases hst
    · rw [hst] at hx; rcases hx with h | h <;> cases h

end Ec.TxRx
