/-
  C15 helper lemmas: what the specification server answers to the requests the client sends, and the client's
  `sdo_read` / `sdo_write` and their array helpers against it.
-/
import EcModel.Lemmas.CoeReply

namespace Ec.Coe
open Ec.Gen.Coe Ec.CoeSrv

theorem server_eta (srv : Server) (he : srv.emergencies = []) :
    { srv with counter := srv.counter, emergencies := [] } = srv := by
  cases srv
  simp_all

/-- A request with mailbox type CoE and service "SDO request" passes the server's filter. -/
theorem sdoRequest_passes (c : Nat) : ((3 + 16 * (c % 8)) % 16 != 3 || (32 : Nat) / 16 != 2) = false := by
  rw [Nat.add_mul_mod_self_left]; rfl

theorem uploadRequest_image (wmbx ctr index : Nat) (access : SubIndex) (hw : 12 ≤ wmbx) :
    image wmbx (uploadRequest ctr index access) =
      10 :: 0 :: 0 :: 0 :: 0 :: (3 + 16 * (ctr % 8)) :: 0 :: 32 ::
        (sdoByte false false 0 access.completeAccess cmdUpload) :: (index % 256) :: (index / 256 % 256) ::
        (access.subIndex % 256) :: zeros (wmbx - 12) := by
  have hl : (uploadRequest ctr index access).length = 12 := rfl
  rw [image_of_le (by rw [hl]; exact hw), hl]
  simp [uploadRequest, packMailboxHeader, REQ_LEN_upload, mbxCoe_eq, svcSdoRequest_eq]

theorem sdoByte_upload (c : Bool) :
    sdoByte false false 0 c cmdUpload / 32 % 8 = 2 ∧ (sdoByte false false 0 c cmdUpload / 16 % 2 == 1) = c := by
  cases c <;> decide

theorem serve_upload {srv d' : Server} {m : List Nat} {wmbx ctr index : Nat} {access : SubIndex} (hw : 12 ≤ wmbx)
    (hi : index < 65536) (hs : access.subIndex < 256) (he : srv.emergencies = [])
    (hup : srv.upload (nextCtr srv.counter) index access.subIndex access.completeAccess = (d', m)) :
    serverWorld.respond srv (image wmbx (uploadRequest ctr index access)) = (d', [m]) := by
  show serve srv _ = _
  rw [uploadRequest_image _ _ _ _ hw]
  unfold serve
  rw [if_neg (by simp)]
  have hb := sdoByte_upload access.completeAccess
  simp only [List.getD_cons_zero, List.getD_cons_succ, sdoRequest_passes, Bool.false_eq_true, if_false, he,
    emitEmergencies, List.nil_append, hb.1, hb.2, beq_self_eq_true, if_true, le16_index hi, Nat.mod_eq_of_lt hs,
    server_eta srv he, hup]

theorem upload_expedited {srv : Server} {c index sub : Nat} {complete : Bool} {obj : List Nat}
    (hobj : srv.objectBytes index sub complete = .ok obj) (hmode : srv.mode = .auto) (h1 : 1 ≤ obj.length)
    (h4 : obj.length ≤ 4) :
    srv.upload c index sub complete =
      ({ srv with counter := c, seg := none }, expeditedResponse c index sub complete obj) := by
  unfold Server.upload
  rw [hobj]
  simp [hmode, h1, h4]

theorem upload_normal {srv : Server} {c index sub : Nat} {complete : Bool} {obj : List Nat}
    (hobj : srv.objectBytes index sub complete = .ok obj)
    (hmode : srv.mode = .normal ∨ (srv.mode = .auto ∧ (obj.length = 0 ∨ 4 < obj.length)))
    (hfit : obj.length + 16 ≤ srv.rmbx) :
    srv.upload c index sub complete =
      ({ srv with counter := c, seg := none }, normalResponse c index sub complete obj.length obj) := by
  unfold Server.upload
  rw [hobj]
  have hroom : min obj.length srv.normalRoom = obj.length := by
    unfold Server.normalRoom; omega
  rcases hmode with hm | ⟨hm, hn⟩
  · simp [hm, hroom]
  · have hne : ¬ (1 ≤ obj.length ∧ obj.length ≤ 4) := by omega
    simp [hm, hroom, hne]

theorem upload_abort {srv : Server} {c index sub : Nat} {complete : Bool} {code : Nat}
    (hobj : srv.objectBytes index sub complete = .error code) :
    srv.upload c index sub complete = ({ srv with counter := c, seg := none }, abortMessage c index sub code) := by
  unfold Server.upload
  rw [hobj]

theorem upload_initiate {srv : Server} (c : Nat) {index sub : Nat} {complete : Bool} {obj : List Nat}
    (hobj : srv.objectBytes index sub complete = .ok obj)
    (hne : ¬ (srv.mode = .auto ∧ 1 ≤ obj.length ∧ obj.length ≤ 4)) :
    ∃ first seg, first ≤ srv.normalRoom ∧
      srv.upload c index sub complete =
        ({ srv with counter := c, seg := seg }, normalResponse c index sub complete obj.length (obj.take first)) := by
  unfold Server.upload
  rw [hobj]
  have hc : (srv.mode == UploadMode.auto && decide (1 ≤ obj.length) && decide (obj.length ≤ 4)) = false :=
    Bool.eq_false_iff.mpr fun h => by
      simp only [Bool.and_eq_true, beq_iff_eq, decide_eq_true_eq] at h
      exact hne ⟨h.1.1, h.1.2, h.2⟩
  simp only [hc, Bool.false_eq_true, if_false]
  refine ⟨_, _, ?_, rfl⟩
  cases srv.mode with
  | auto => exact Nat.min_le_right _ _
  | normal => exact Nat.min_le_right _ _
  | segmented f sz =>
    dsimp only
    split
    · exact Nat.le_trans (Nat.min_le_left _ _) (Nat.min_le_right _ _)
    · exact Nat.min_le_right _ _

/-- Command byte of the expedited download request for a value of `n` bytes: download, expedited, size given, size
    field `4 - n`; without complete access it is `0x23 | (4 - n) << 2`. -/
theorem sdoByte_download (n : Nat) (c : Bool) (h1 : 1 ≤ n) (h4 : n ≤ 4) :
    sdoByte true true (DOWNLOAD_SIZE_BASE - n % 256) c cmdDownload / 32 % 8 = 1 ∧
    (sdoByte true true (DOWNLOAD_SIZE_BASE - n % 256) c cmdDownload / 16 % 2 == 1) = c ∧
    (sdoByte true true (DOWNLOAD_SIZE_BASE - n % 256) c cmdDownload / 2 % 2 == 1) = true ∧
    (sdoByte true true (DOWNLOAD_SIZE_BASE - n % 256) c cmdDownload % 2 == 1) = true ∧
    4 - sdoByte true true (DOWNLOAD_SIZE_BASE - n % 256) c cmdDownload / 4 % 4 = n ∧
    sdoByte true true (DOWNLOAD_SIZE_BASE - n % 256) false cmdDownload = 35 + 4 * ((4 - n) % 4) := by
  have : n = 1 ∨ n = 2 ∨ n = 3 ∨ n = 4 := by omega
  rcases this with rfl | rfl | rfl | rfl <;> cases c <;> decide

theorem downloadRequest_image (wmbx ctr index : Nat) (access : SubIndex) (value : List Nat) (hw : 16 ≤ wmbx)
    (h4 : value.length ≤ 4) :
    image wmbx (downloadRequest ctr index access (value ++ zeros (4 - value.length)) value.length) =
      10 :: 0 :: 0 :: 0 :: 0 :: (3 + 16 * (ctr % 8)) :: 0 :: 32 ::
        (sdoByte true true (DOWNLOAD_SIZE_BASE - value.length % 256) access.completeAccess cmdDownload) ::
        (index % 256) :: (index / 256 % 256) :: (access.subIndex % 256) ::
        (value ++ zeros (4 - value.length) ++ zeros (wmbx - 16)) := by
  have hl : (downloadRequest ctr index access (value ++ zeros (4 - value.length)) value.length).length = 16 := by
    simp [downloadRequest, packMailboxHeader, zeros]; omega
  rw [image_of_le (by rw [hl]; exact hw), hl]
  simp [downloadRequest, packMailboxHeader, REQ_LEN_download, mbxCoe_eq, svcSdoRequest_eq]

theorem serve_download {srv d' : Server} {m : List Nat} {wmbx ctr index : Nat} {access : SubIndex} {value : List Nat}
    (hw : 16 ≤ wmbx) (hi : index < 65536) (hs : access.subIndex < 256) (h1 : 1 ≤ value.length) (h4 : value.length ≤ 4)
    (he : srv.emergencies = [])
    (hdown : srv.download (nextCtr srv.counter) index access.subIndex access.completeAccess value = (d', m)) :
    serverWorld.respond srv
      (image wmbx (downloadRequest ctr index access (value ++ zeros (4 - value.length)) value.length)) = (d', [m]) := by
  show serve srv _ = _
  rw [downloadRequest_image _ _ _ _ _ hw h4]
  unfold serve
  rw [if_neg (by simp)]
  have hb := sdoByte_download value.length access.completeAccess h1 h4
  have htake : List.take value.length (value ++ zeros (4 - value.length) ++ zeros (wmbx - 16)) = value := by
    rw [List.append_assoc, List.take_left' rfl]
  simp only [List.getD_cons_zero, List.getD_cons_succ, sdoRequest_passes, Bool.false_eq_true, if_false, he,
    emitEmergencies, List.nil_append, hb.1, hb.2.1, hb.2.2.1, hb.2.2.2.1, hb.2.2.2.2,
    show ((1 : Nat) == 2) = false from rfl, show ((1 : Nat) == 3) = false from rfl, beq_self_eq_true, if_true,
    le16_index hi, Nat.mod_eq_of_lt hs, server_eta srv he, List.drop_succ_cons, List.drop_zero, htake, hdown]

theorem download_stores {srv : Server} {c index sub : Nat} {value old : List Nat}
    (hab : (srv.aborts.find? fun e => e.1.1 == index && e.1.2 == sub) = none)
    (hold : srv.dict.get index sub = some old) (hlen : srv.strictLen = true → old.length = value.length) :
    srv.download c index sub false value =
      ({ srv with counter := c, dict := srv.dict.set index sub value }, downloadResponse c index sub false) := by
  unfold Server.download
  rw [hab]
  simp only [Bool.false_eq_true, if_false, hold]
  cases hs : srv.strictLen with
  | false => simp
  | true => simp [hlen hs]

theorem sdoWrite_server (cfg : Cfg) {index sub : Nat} {value old : List Nat} (s : St Server)
    (hm : cfg.hasMailbox = true) (hq : s.outq.length ≤ DRAIN_ROUNDS) (hr : 16 ≤ cfg.rmbx) (hw : 16 ≤ cfg.wmbx)
    (hi : index < 65536) (hs : sub < 256) (h1 : 1 ≤ value.length) (h4 : value.length ≤ 4) (he : s.dev.emergencies = [])
    (hab : (s.dev.aborts.find? fun e => e.1.1 == index && e.1.2 == sub) = none)
    (hold : s.dev.dict.get index sub = some old) (hlen : s.dev.strictLen = true → old.length = value.length) :
    sdoWrite serverWorld cfg index (.index sub) value s =
      (.ok (), afterReply cfg s { s.dev with counter := nextCtr s.dev.counter, dict := s.dev.dict.set index sub value }
        (downloadRequest s.ctr index (.index sub) (value ++ zeros (4 - value.length)) value.length) []) := by
  unfold sdoWrite
  dsimp only
  rw [if_neg (show ¬ value.length > WRITE_MAX from Nat.not_lt.mpr h4), mailboxCounter_fst,
    mwr_answered serverWorld cfg s hm hq _ _ (serve_download (access := .index sub) hw hi hs h1 h4 he
      (download_stores hab hold hlen)),
    show downloadResponse (nextCtr s.dev.counter) index (SubIndex.index sub).subIndex false =
      frame _ 3 (0x60 :: _ :: _ :: _ :: [0, 0, 0, 0]) from rfl,
    image_frame hr,
    triageB_response hi (by decide) (by decide) (by decide) (if_neg (by simp [frame, LEN_SdoExpedited]))]
  rfl

/-- A pending emergency message is the first thing the server sends in answer to an SDO request. -/
theorem serve_emergency_head (srv : Server) {req : List Nat} {a0 a1 a2 a3 a4 c a6 a8 a9 a10 a11 code reg : Nat}
    {tl data : List Nat} {es : List (Nat × Nat × List Nat)}
    (hreq : req = a0 :: a1 :: a2 :: a3 :: a4 :: (3 + 16 * (c % 8)) :: a6 :: 32 :: a8 :: a9 :: a10 :: a11 :: tl)
    (he : srv.emergencies = (code, reg, data) :: es) :
    ∃ d' rest, serve srv req = (d', emergencyMessage (nextCtr srv.counter) code reg data :: rest) := by
  subst hreq
  unfold serve
  rw [if_neg (by simp)]
  simp only [List.getD_cons_zero, List.getD_cons_succ, sdoRequest_passes, Bool.false_eq_true, if_false, he,
    emitEmergencies, List.cons_append]
  exact ⟨_, _, rfl⟩

theorem Dict.get_set_same {d : Dict} {i s : Nat} {v : List Nat} : (d.set i s v).get i s = some v := by
  induction d with
  | nil => simp [Dict.set, Dict.get]
  | cons e rest ih =>
    obtain ⟨k, old⟩ := e
    unfold Dict.set
    split
    · next h => simp [Dict.get, h]
    · next h => simp [Dict.get, h, ih]

theorem Dict.get_set_other {d : Dict} {i s i' s' : Nat} {v : List Nat} (hne : ¬ (i' = i ∧ s' = s)) :
    (d.set i s v).get i' s' = d.get i' s' := by
  have hkey : ∀ k : Nat × Nat, (k.1 == i && k.2 == s) = true → (k.1 == i' && k.2 == s') = false := by
    intro k h
    refine Bool.eq_false_iff.mpr fun h' => ?_
    simp only [Bool.and_eq_true, beq_iff_eq] at h h'
    exact hne ⟨h'.1.symm.trans h.1, h'.2.symm.trans h.2⟩
  induction d with
  | nil => simp [Dict.set, Dict.get, hkey (i, s)]
  | cons e rest ih =>
    obtain ⟨k, old⟩ := e
    unfold Dict.set
    split
    · next h => simp [Dict.get, hkey k h]
    · simp only [Dict.get, ih]

theorem Dict.get_some_hasIndex {d : Dict} {i s : Nat} {v : List Nat} (h : d.get i s = some v) : d.hasIndex i = true := by
  induction d with
  | nil => simp [Dict.get] at h
  | cons e rest ih =>
    obtain ⟨k, old⟩ := e
    simp only [Dict.get] at h
    unfold Dict.hasIndex
    split at h
    · next hk =>
      simp only [Bool.and_eq_true, beq_iff_eq] at hk
      simp [hk.1]
    · have := ih h
      unfold Dict.hasIndex at this
      simp [this]

/-- A server that answers plainly: no scripted aborts, no emergency pending, automatic choice of the upload mode. -/
structure Plain (srv : Server) : Prop where
  aborts : srv.aborts = []
  emerg : srv.emergencies = []
  mode : srv.mode = .auto

theorem objectBytes_plain {srv : Server} (hp : Plain srv) {index sub : Nat} {v : List Nat}
    (h : srv.dict.get index sub = some v) : srv.objectBytes index sub false = .ok v := by
  unfold Server.objectBytes
  rw [hp.aborts]
  simp [Dict.get_some_hasIndex h, h]

/-- Sub-indices `i, i+1, …` of `index` exist in `d` and can take the values `vs`: 1..4 bytes each, and of the stored
    length if the server insists on it. -/
def Slots (d : Dict) (strict : Bool) (index i : Nat) (vs : List (List Nat)) : Prop :=
  ∀ k, k < vs.length → ∃ old, d.get index (i + k) = some old ∧
    (strict = true → old.length = (vs.getD k []).length) ∧ 1 ≤ (vs.getD k []).length ∧ (vs.getD k []).length ≤ 4

theorem Slots.set_below {d : Dict} {strict : Bool} {index i : Nat} {vs : List (List Nat)} (h : Slots d strict index i vs)
    (j : Nat) (hj : j < i) (v : List Nat) : Slots (d.set index j v) strict index i vs := fun k hk => by
  obtain ⟨o, ho, hrest⟩ := h k hk
  exact ⟨o, by rw [Dict.get_set_other (by omega)]; exact ho, hrest⟩

theorem Slots.tail {d : Dict} {strict : Bool} {index i : Nat} {v : List Nat} {vs : List (List Nat)}
    (h : Slots d strict index i (v :: vs)) : Slots d strict index (i + 1) vs := fun k hk => by
  have := h (k + 1) (Nat.succ_lt_succ hk)
  rwa [show i + (k + 1) = i + 1 + k from by omega] at this

/-- A quiet state of a plain server: nothing waits in the OUT mailbox, the dictionary is `d`, and downloads are
    length-checked iff `strict`. -/
def Quiet (s : St Server) (d : Dict) (strict : Bool) : Prop :=
  Plain s.dev ∧ s.outq = [] ∧ s.dev.dict = d ∧ s.dev.strictLen = strict

variable (cfg : Cfg) {index : Nat} (hm : cfg.hasMailbox = true) (hr : 16 ≤ cfg.rmbx) (hw : 16 ≤ cfg.wmbx)
  (hi : index < 65536) {d : Dict} {strict : Bool}
include hm hr hw hi

theorem sdoReadT_plain {α : Type} (fuel : Nat) (T : Dest α) {sub : Nat} {v : List Nat} {s : St Server}
    (hs : Quiet s d strict) (hsub : sub < 256) (hv : d.get index sub = some v) (h1 : 1 ≤ v.length) (h4 : v.length ≤ 4) :
    ∃ s', sdoReadT serverWorld cfg fuel T index (.index sub) s =
        ((match T.decode v with | some x => .ok x | none => .err .decode), s') ∧ Quiet s' d strict := by
  obtain ⟨hp, hq, rfl, rfl⟩ := hs
  have hresp := serve_upload (wmbx := cfg.wmbx) (ctr := s.ctr) (access := .index sub) (by omega) hi hsub hp.emerg
    (upload_expedited (objectBytes_plain hp hv) hp.mode h1 h4)
  refine ⟨afterReply cfg s { s.dev with counter := nextCtr s.dev.counter, seg := none }
    (uploadRequest s.ctr index (.index sub)) [], ?_, ⟨hp.aborts, hp.emerg, hp.mode⟩, rfl, rfl, rfl⟩
  unfold sdoReadT
  rw [sdoRead_expedited_reply serverWorld cfg s hm (by rw [hq]; exact Nat.zero_le _) hr hi h1 h4 hresp]
  rfl

theorem readEach_plain {α : Type} (fuel : Nat) (T : Dest α) (val : Nat → List Nat) (x : Nat → α) :
    ∀ (n i : Nat) (s : St Server), Quiet s d strict → i + n ≤ 256 →
      (∀ j, i ≤ j → j < i + n → d.get index j = some (val j) ∧ 1 ≤ (val j).length ∧ (val j).length ≤ 4 ∧
        T.decode (val j) = some (x j)) →
      (readEach serverWorld cfg fuel T index n i s).1 = .ok ((List.range' i n).map x) := by
  intro n
  induction n with
  | zero => intro i s _ _ _; rfl
  | succ n ih =>
    intro i s hs hin hall
    obtain ⟨hv, h1, h4, hd⟩ := hall i (Nat.le_refl i) (by omega)
    obtain ⟨s', hrd, hs'⟩ := sdoReadT_plain cfg hm hr hw hi fuel T hs (by omega) hv h1 h4
    have hrest := ih (i + 1) s' hs' (by omega) fun j h1 h2 => hall j (by omega) (by omega)
    unfold readEach
    rw [hrd, hd]
    dsimp only
    generalize readEach serverWorld cfg fuel T index n (i + 1) s' = r2 at hrest
    obtain ⟨r21, s''⟩ := r2
    rw [show r21 = _ from hrest]
    rfl

theorem sdoReadArray_plain {α : Type} (fuel : Nat) (T : Dest α) (maxEntries n : Nat) (val : Nat → List Nat)
    (x : Nat → α) (s : St Server) (hs : Quiet s d strict) (hn : n ≤ 255) (hmax : n ≤ maxEntries)
    (h0 : d.get index 0 = some [n])
    (hall : ∀ j, 1 ≤ j → j < 1 + n → d.get index j = some (val j) ∧ 1 ≤ (val j).length ∧ (val j).length ≤ 4 ∧
      T.decode (val j) = some (x j)) :
    (sdoReadArray serverWorld cfg fuel T maxEntries index s).1 = .ok ((List.range' 1 n).map x) := by
  obtain ⟨s', hrd, hs'⟩ := sdoReadT_plain cfg hm hr hw hi fuel destU8 hs (by decide) h0 (Nat.le_refl 1)
    (by decide : 1 ≤ 4)
  unfold sdoReadArray
  rw [hrd]
  dsimp only [destU8, List.head?_cons]
  rw [if_neg (Nat.not_lt.mpr hmax)]
  exact readEach_plain cfg hm hr hw hi fuel T val x n 1 s' hs' (by omega) hall

theorem sdoWrite_plain {sub : Nat} (value : List Nat) {old : List Nat} {s : St Server} (hs : Quiet s d strict) (hsub : sub < 256)
    (h1 : 1 ≤ value.length) (h4 : value.length ≤ 4) (hold : d.get index sub = some old)
    (hlen : strict = true → old.length = value.length) :
    ∃ s', sdoWrite serverWorld cfg index (.index sub) value s = (.ok (), s') ∧
      Quiet s' (d.set index sub value) strict := by
  obtain ⟨hp, hq, rfl, rfl⟩ := hs
  have hab : (s.dev.aborts.find? fun e => e.1.1 == index && e.1.2 == sub) = none := by rw [hp.aborts]; rfl
  exact ⟨_, sdoWrite_server cfg s hm (by rw [hq]; exact Nat.zero_le _) hr hw hi hsub h1 h4 hp.emerg
    hab hold hlen, ⟨hp.aborts, hp.emerg, hp.mode⟩, rfl, rfl, rfl⟩

theorem writeEach_plain : ∀ (vs : List (List Nat)) (i : Nat) (s : St Server) (d : Dict), Quiet s d strict →
    i + vs.length ≤ 256 → Slots d strict index i vs →
    ∃ s' d', writeEach serverWorld cfg index i vs s = (.ok (), s') ∧ Quiet s' d' strict ∧
      (∀ k, k < vs.length → d'.get index (i + k) = some (vs.getD k [])) ∧
      (∀ j, (j < i ∨ i + vs.length ≤ j) → d'.get index j = d.get index j) := by
  intro vs
  induction vs with
  | nil => intro i s d hs _ _; exact ⟨s, d, rfl, hs, fun k hk => absurd hk (Nat.not_lt_zero k), fun _ _ => rfl⟩
  | cons v vs ih =>
    intro i s d hs hin hall
    rw [List.length_cons] at hin
    obtain ⟨old, hold, hlen, h1, h4⟩ := hall 0 (Nat.succ_pos _)
    obtain ⟨s1, hw1, hs1⟩ := sdoWrite_plain cfg hm hr hw hi (sub := i) v hs (by omega) h1 h4 hold hlen
    obtain ⟨s', d', hw', hs', hget', hframe'⟩ := ih (i + 1) s1 _ hs1 (by omega)
      (hall.tail.set_below i (Nat.lt_succ_self i) v)
    refine ⟨s', d', ?_, hs', fun k hk => ?_, fun j hj => ?_⟩
    · unfold writeEach
      rw [Nat.mod_eq_of_lt (by omega), hw1]
      exact hw'
    · cases k with
      | zero => exact (hframe' i (Or.inl (Nat.lt_succ_self i))).trans Dict.get_set_same
      | succ k =>
        rw [show i + (k + 1) = i + 1 + k from by omega]
        exact hget' k (Nat.lt_of_succ_lt_succ hk)
    · rw [List.length_cons] at hj
      rw [hframe' j (by omega), Dict.get_set_other (by omega)]

theorem sdoWriteArray_plain (values : List (List Nat)) (s : St Server) (hs : Quiet s d strict) (hn : values.length ≤ 255)
    (h0 : ∃ old0, d.get index 0 = some old0 ∧ (strict = true → old0.length = 1))
    (hall : Slots d strict index 1 values) :
    ∃ s' d', sdoWriteArray serverWorld cfg index values s = (.ok (), s') ∧ Quiet s' d' strict ∧
      d'.get index 0 = some [values.length] ∧
      (∀ k, k < values.length → d'.get index (1 + k) = some (values.getD k [])) := by
  obtain ⟨old0, hold0, hl0⟩ := h0
  obtain ⟨s1, hw1, hs1⟩ := sdoWrite_plain cfg hm hr hw hi [0] hs (by decide) (by decide) (by decide) hold0 hl0
  obtain ⟨s2, d2, hw2, hs2, hget2, hframe2⟩ := writeEach_plain cfg hm hr hw hi values 1 s1 _ hs1 (by omega)
    (hall.set_below 0 (by decide) [0])
  have hold2 : d2.get index 0 = some [0] := (hframe2 0 (Or.inl (by decide))).trans Dict.get_set_same
  obtain ⟨s3, hw3, hs3⟩ := sdoWrite_plain cfg hm hr hw hi [values.length % 256] hs2 (by decide)
    (Nat.le_refl 1) (by decide : 1 ≤ 4) hold2 (fun _ => rfl)
  refine ⟨s3, _, ?_, hs3, ?_, fun k hk => ?_⟩
  · unfold sdoWriteArray
    rw [hw1]
    dsimp only
    rw [hw2]
    exact hw3
  · rw [Dict.get_set_same, Nat.mod_eq_of_lt (by omega)]
  · rw [Dict.get_set_other (by omega)]
    exact hget2 k hk

end Ec.Coe
