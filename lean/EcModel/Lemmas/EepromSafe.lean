/-
  Totality / boundedness calculus for the EEPROM model (C13): a Hoare-style predicate on the cost-counting
  monad and its rules, then one lemma per translated function, for arbitrary memories and both build modes.
-/
import EcModel.Lemmas.EepromBasic

namespace Ec.Eeprom
open Ec

/-- The arithmetic sites of the translated code at which a `u16` overflow is still possible: none. (Before the
    repairs in /repo this list had eight entries: `category:add`, `category:mul`, `new:mul`, `new:add`,
    `size:add`, `size:mul`, `skip_ahead_bytes:add`, `read_byte:add`.) -/
def knownSites : List String := []

/-- Panic sites that can fire in a build mode: the overflow sites with overflow checks, none without. -/
def sites : Mode → List String
  | .checked => knownSites
  | .wrapping => []

/-- `Tri K hang B Q x`: `x` makes at most `B` provider calls; it runs out of fuel (= does not terminate) only
    if `hang` allows it; if it panics, the site is in `K`; if it returns `a`, then `Q a`. -/
structure Tri {α : Type} (K : List String) (hang : Bool) (B : Nat) (Q : α → Prop) (x : M α) : Prop where
  cost : x.2 ≤ B
  nofuel : hang = false → x.1 ≠ .err .fuel
  panics : ∀ w, x.1 = .panic w → w ∈ K
  post : ∀ a, x.1 = .ok a → Q a

namespace Tri
variable {α β : Type} {K : List String} {hang : Bool}

theorem ok {Q : α → Prop} {B c : Nat} {a : α} (hc : c ≤ B) (h : Q a) : Tri K hang B Q (.ok a, c) :=
  ⟨hc, fun _ h' => (by cases h'), fun _ h' => (by cases h'), fun _ h' => by cases h'; exact h⟩

theorem err {Q : α → Prop} {B c : Nat} {e : Err} (hc : c ≤ B) (he : hang = false → e ≠ .fuel) :
    Tri K hang B Q (.err e, c) :=
  ⟨hc, fun hh h' => (by cases h'; exact he hh rfl), fun _ h' => (by cases h'), fun _ h' => (by cases h')⟩

theorem panic {Q : α → Prop} {B c : Nat} {w : String} (hc : c ≤ B) (hw : w ∈ K) : Tri K hang B Q (.panic w, c) :=
  ⟨hc, fun _ h' => (by cases h'), fun _ h' => (by cases h'; exact hw), fun _ h' => (by cases h')⟩

theorem ret {Q : α → Prop} {a : α} (B : Nat) (h : Q a) : Tri K hang B Q (ret a) := ok (Nat.zero_le _) h

theorem fail {Q : α → Prop} (B : Nat) (e : Err) (he : e ≠ .fuel) : Tri K hang B Q (fail e : M α) :=
  err (Nat.zero_le _) fun _ => he

theorem panicAt {Q : α → Prop} (B : Nat) (w : String) (hw : w ∈ K) : Tri K hang B Q (panicAt w : M α) :=
  panic (Nat.zero_le _) hw

theorem mono {Q Q' : α → Prop} {B B' : Nat} {x : M α} (h : Tri K hang B Q x) (hB : B ≤ B')
    (hQ : ∀ a, Q a → Q' a) : Tri K hang B' Q' x :=
  ⟨Nat.le_trans h.cost hB, h.nofuel, h.panics, fun a ha => hQ a (h.post a ha)⟩

theorem le {Q : α → Prop} {B B' : Nat} {x : M α} (h : Tri K hang B Q x) (hB : B ≤ B') : Tri K hang B' Q x :=
  h.mono hB fun _ h => h

theorem bind {P : α → Prop} {Q : β → Prop} {B1 B2 : Nat} {x : M α} {f : α → M β}
    (hx : Tri K hang B1 P x) (hf : ∀ a, P a → Tri K hang B2 Q (f a)) :
    Tri K hang (B1 + B2) Q (Eeprom.bind x f) := by
  obtain ⟨o, c⟩ := x
  have hc : c ≤ B1 + B2 := Nat.le_trans hx.cost (Nat.le_add_right _ _)
  cases o with
  | ok a =>
    have hfa := hf a (hx.post a rfl)
    exact ⟨Nat.add_le_add hx.cost hfa.cost, hfa.nofuel, hfa.panics, hfa.post⟩
  | err e => exact err hc fun hh he => hx.nofuel hh (he ▸ rfl)
  | panic w => exact panic hc (hx.panics w rfl)

theorem call {Q : β → Prop} {B : Nat} {a : α} {f : α → M β} (hf : Tri K hang B Q (f a)) :
    Tri K hang (1 + B) Q (Eeprom.bind (Eeprom.call a) f) :=
  ⟨Nat.add_le_add_left hf.cost 1, hf.nofuel, hf.panics, hf.post⟩

theorem addCost {Q : α → Prop} {B : Nat} {x : M α} (n : Nat) (h : Tri K hang B Q x) :
    Tri K hang (n + B) Q (Eeprom.addCost n x) :=
  ⟨Nat.add_le_add_left h.cost n, h.nofuel, h.panics, h.post⟩

theorem of_ok {Q : α → Prop} {B : Nat} {x : M α} {a : α} (h1 : x.1 = .ok a) (h2 : x.2 ≤ B) (hq : Q a) :
    Tri K hang B Q x := by
  obtain ⟨o, c⟩ := x; subst h1; exact ok h2 hq

theorem of_err {Q : α → Prop} {B : Nat} {x : M α} {e : Err} (h1 : x.1 = .err e) (h2 : x.2 ≤ B) (he : e ≠ .fuel) :
    Tri K hang B Q x := by
  obtain ⟨o, c⟩ := x; subst h1; exact err h2 fun _ => he

end Tri

/-- Cursor and end lie inside the SII address space (2^17 bytes): the invariant that keeps the `u32` cursor
    arithmetic of the code exact. -/
def Range.WF (r : Range) : Prop := r.pos ≤ 131072 ∧ r.endp ≤ 131072

theorem new_tri {K : List String} (m : Mode) (hang : Bool) (w n : Nat) (hw : w < 65536) :
    Tri K hang 0 (fun r => r.WF) (Range.new m w n) := by
  rw [new_eq]
  exact Tri.ret 0 ⟨by simp only; omega, Nat.min_le_right _ _⟩

theorem skip_tri {K : List String} (m : Mode) (hang : Bool) (r : Range) (hr : r.WF) (k : Nat) :
    Tri K hang 0 (fun r' => r'.WF) (Range.skip m r k) := by
  unfold Range.skip
  split
  · exact Tri.fail 0 _ (by decide)
  · exact Tri.ret 0 ⟨by have := hr.2; simp only; omega, hr.2⟩

theorem readByte_tri {K : List String} (m : Mode) (hang : Bool) (p : Prov) (hcs : 2 ≤ p.cs) (r : Range)
    (hr : r.WF) :
    Tri K hang 2 (fun res => res.2.WF) (Range.readByte m p r) := by
  by_cases hend : r.pos < r.endp
  · have h := readByte_ok m p hcs r hend hr.2
    exact Tri.of_ok h.1 (Nat.le_of_eq h.2) ⟨by have := hr.2; simp only; omega, hr.2⟩
  · rw [Range.readByte, if_pos (Nat.le_of_not_lt hend)]
    exact Tri.fail _ _ (by decide)

theorem read_tri {K : List String} (m : Mode) (hang : Bool) (p : Prov) (hcs : 2 ≤ p.cs) (r : Range) (hr : r.WF)
    (n : Nat) :
    Tri K hang (n + 1) (fun res => res.1 = slice p.rd r.pos (min n (r.endp - r.pos))) (Range.read m p r n) := by
  have h := read_ok m p hcs r n hr.2
  exact Tri.of_ok h.1 (by have := h.2; omega) rfl

theorem readExact_tri {K : List String} (m : Mode) (hang : Bool) (p : Prov) (hcs : 2 ≤ p.cs) (r : Range)
    (hr : r.WF) (n : Nat) :
    Tri K hang (n + 1) (fun res => res.1 = slice p.rd r.pos n ∧ res.2.WF) (Range.readExact m p r n) := by
  by_cases hfit : r.pos + n ≤ r.endp
  · have h := readExact_ok m p hcs r n hr.2 hfit
    exact Tri.of_ok h.1 h.2 ⟨rfl, by have := hr.2; simp only; omega, hr.2⟩
  · by_cases hn : n = 0
    · subst hn; exact Tri.ok (Nat.zero_le _) ⟨rfl, hr⟩
    · have h := readExact_eof m p hcs r n hr.2 (by omega) hfit
      exact Tri.of_err h.1 h.2 (by decide)

theorem eofToOverrun_tri {α : Type} {K : List String} {hang : Bool} {B : Nat} {Q : α → Prop} {x : M α}
    (h : Tri K hang B Q x) : Tri K hang B Q (eofToOverrun x) := by
  unfold eofToOverrun
  split
  · exact Tri.err h.cost fun _ => by decide
  · exact h

/-- How `station_alias`, `size`, `identity` and `mailbox_config` fetch their fixed header fields. -/
theorem readAt_tri {α : Type} {K : List String} (m : Mode) (hang : Bool) (p : Prov) (hcs : 2 ≤ p.cs) (w n : Nat)
    (hw : w < 65536) {Q : α → Prop} {f : List Nat × Range → M α} (hf : ∀ res, Tri K hang 0 Q (f res)) :
    Tri K hang (n + 1) Q (bind (startAt m w n) fun r => bind (eofToOverrun (Range.readExact m p r n)) f) :=
  (Tri.bind (new_tri m hang w _ hw) fun r hr =>
    Tri.bind (eofToOverrun_tri (readExact_tri m hang p hcs r hr n)) fun res _ => hf res).le (by omega)

/-- What one loop iteration guarantees about its result: the next word address is a `u16` and at least 2 beyond
    the current one (checked addition), in every build mode. -/
def CatStepPost (wa : Nat) : CatStep → Prop
  | .done (some r) => r.WF
  | .done none => True
  | .next wa' ne' => wa' < 65536 ∧ ne' < 32 ∧ wa + 2 ≤ wa'

theorem catStep_tri (m : Mode) (hang : Bool) (cat : Nat) (chunk : List Nat) (wa ne : Nat)
    (hch : 4 ≤ chunk.length) :
    Tri (sites m) hang 0 (CatStepPost wa) (catStep m cat chunk wa ne) := by
  have hnone : Tri (sites m) hang 0 (CatStepPost wa) (ret (.done none)) := Tri.ret 0 trivial
  unfold catStep
  by_cases h1 : wa + 2 ≥ 65536
  · rw [if_pos h1]; exact hnone
  · rw [if_neg h1, if_neg (by omega : ¬ chunk.length < 4)]
    generalize hdef : (if rd16 (chunk.drop 2) = 0 then ne + 1 else ne) = ne'
    by_cases h2 : ne' ≥ Gen.Eeprom.EMPTY_CATEGORY_LIMIT
    · simp only [hdef, if_pos h2]; exact hnone
    · simp only [hdef, if_neg h2]
      split
      · exact Tri.bind (new_tri m hang (wa + 2) _ (by omega)) fun r hr =>
          Tri.ret 0 (show CatStepPost wa (.done (some r)) from hr)
      · split
        · exact hnone
        · split
          · next h5 =>
            exact Tri.ret 0 ⟨h5, by simp only [Gen.Eeprom.EMPTY_CATEGORY_LIMIT] at h2; omega, by omega⟩
          · exact Tri.fail 0 _ (by decide)

/-- **The walk terminates in every build mode**: the word address grows by at least 2 per iteration, so the
    walk ends after at most `(65536 − wa) / 2 + 1` provider calls — it never runs out of fuel. -/
theorem catLoop_terminates (m : Mode) (p : Prov) (hcs : 4 ≤ p.cs) (cat : Nat) :
    ∀ (fuel wa ne calls : Nat), wa < 65536 → 65536 - wa < 2 * fuel →
      Tri (sites m) false (calls + (65536 - wa) / 2 + 1) (fun r => ∀ x, r = some x → x.WF)
        (catLoop m p cat fuel wa ne calls) := by
  intro fuel
  induction fuel with
  | zero => intro wa ne calls h1 h3; omega
  | succ fuel ih =>
    intro wa ne calls hwa hfuel
    unfold catLoop
    have hst := catStep_tri m false cat (chunkAt p wa) wa ne (by simp; omega)
    generalize catStep m cat (chunkAt p wa) wa ne = st at hst
    obtain ⟨o, c⟩ := st
    have hc : c = 0 := Nat.le_zero.1 hst.cost
    subst hc
    cases o with
    | ok s =>
      cases s with
      | done r => exact Tri.ok (by omega) fun x hx => by subst hx; exact hst.post _ rfl
      | next wa' ne' =>
        have hp : wa' < 65536 ∧ ne' < 32 ∧ wa + 2 ≤ wa' := hst.post _ rfl
        exact (ih wa' ne' (calls + 1) hp.1 (by omega)).le (by omega)
    | err e => exact Tri.err (by omega) fun _ he => hst.nofuel rfl (he ▸ rfl)
    | panic w => exact Tri.panic (by omega) (hst.panics w rfl)

/-- Provider-call bound of one category search (both build modes). -/
def catBound : Nat := (65536 - Gen.Eeprom.SII_FIRST_CATEGORY_START) / 2 + 1

theorem category_tri (m : Mode) (p : Prov) (hcs : 4 ≤ p.cs) (cat : Nat) :
    Tri (sites m) false catBound (fun r => ∀ x, r = some x → x.WF) (category m p cat) :=
  (catLoop_terminates m p hcs cat catFuel Gen.Eeprom.SII_FIRST_CATEGORY_START 0 0 (by decide) (by decide)).le
    (by decide)

theorem nextItem_tri {α : Type} {K : List String} (m : Mode) (hang : Bool) (p : Prov) (hcs : 2 ≤ p.cs)
    (r : Range) (hr : r.WF) (sz : Nat) (parse : List Nat → M α) (P : α → Prop)
    (hparse : ∀ b, b = slice p.rd r.pos sz → Tri K hang 0 P (parse b)) :
    Tri K hang (sz + 1) (fun res => res.2.WF ∧ ∀ a, res.1 = some a → P a) (nextItem m p r sz parse) := by
  unfold nextItem
  have h := readExact_tri (K := K) m hang p hcs r hr sz
  generalize Range.readExact m p r sz = x at h
  obtain ⟨o, c⟩ := x
  have hc : c ≤ sz + 1 := h.cost
  cases o with
  | ok res =>
    have hp := h.post res rfl
    exact (Tri.addCost c (Tri.bind (hparse res.1 hp.1) (B2 := 0) fun a ha =>
      Tri.ret 0 ⟨hp.2, fun a' h' => by cases h'; exact ha⟩)).le (by omega)
  | err e =>
    cases e
    case eof => exact Tri.ok hc ⟨hr, fun a h' => by cases h'⟩
    all_goals exact Tri.err hc fun hh he => h.nofuel hh (he ▸ rfl)
  | panic w => exact Tri.panic hc (h.panics w rfl)

/-- "Every category search is fine": never panics outside `sites m`, runs out of fuel only if `hang` allows it,
    makes at most `CB` provider calls. The lemmas about the queries built on `category` assume this much of
    it; `catOK_all` discharges it for every image. -/
def CatOK (m : Mode) (p : Prov) (hang : Bool) (CB : Nat) : Prop :=
  ∀ cat, Tri (sites m) hang CB (fun r => ∀ x, r = some x → x.WF) (category m p cat)

theorem catOK_all (m : Mode) (p : Prov) (hcs : 4 ≤ p.cs) : CatOK m p false catBound :=
  fun cat => category_tri m p hcs cat

theorem items_tri (m : Mode) (p : Prov) {hang : Bool} {CB : Nat} (hc : CatOK m p hang CB) (cat : Nat) :
    Tri (sites m) hang CB (fun r => r.WF) (items m p cat) := by
  refine Tri.bind (hc cat) (B2 := 0) fun c hcw => ?_
  cases c with
  | some r => exact Tri.ret 0 (hcw r rfl)
  | none => exact new_tri m hang 0 0 (by decide)

theorem collectLoop_tri {α : Type} {K : List String} (m : Mode) (hang : Bool) (p : Prov) (hcs : 2 ≤ p.cs)
    (sz cap capItem : Nat) (parse : List Nat → M α) (hparse : ∀ b, Tri K hang 0 (fun _ => True) (parse b)) :
    ∀ (fuel : Nat) (r : Range) (acc : List α), r.WF → acc.length ≤ cap → cap + 1 - acc.length < fuel →
      Tri K hang (fuel * (sz + 1)) (fun l => l.length ≤ cap)
        (collectLoop m p sz cap capItem parse fuel r acc) := by
  intro fuel
  induction fuel with
  | zero => intro r acc _ _ h; omega
  | succ fuel ih =>
    intro r acc hr hacc hfuel
    unfold collectLoop
    refine (Tri.bind (nextItem_tri m hang p hcs r hr sz parse (fun _ => True) fun b _ => hparse b)
      (B2 := fuel * (sz + 1)) fun res hres => ?_).le (by rw [Nat.succ_mul]; omega)
    split
    · exact Tri.ret _ hacc
    · split
      · exact Tri.fail _ _ (fun h => by cases h)
      · exact ih res.2 _ hres.1 (by simp; omega) (by simp; omega)

/-- `sync_managers` and `fmmu_mappings`. -/
theorem collect_tri {α : Type} (m : Mode) (p : Prov) (hcs : 4 ≤ p.cs) {hang : Bool} {CB : Nat}
    (hc : CatOK m p hang CB) (cat sz cap capItem : Nat) (parse : List Nat → M α)
    (hparse : ∀ b, Tri (sites m) hang 0 (fun _ => True) (parse b)) :
    Tri (sites m) hang (CB + (cap + 2) * (sz + 1)) (fun l => l.length ≤ cap)
      (bind (items m p cat) fun r => collectLoop m p sz cap capItem parse (cap + 2) r []) :=
  Tri.bind (items_tri m p hc cat) fun r hr =>
    collectLoop_tri m hang p (by omega) sz cap capItem parse hparse (cap + 2) r [] hr (Nat.zero_le _)
      (by simp only [List.length_nil]; omega)

theorem parseSm_tri {K : List String} {hang : Bool} (b : List Nat) : Tri K hang 0 (fun _ => True) (parseSm b) := by
  unfold parseSm; split
  · exact Tri.ret 0 trivial
  · exact Tri.fail 0 _ (by decide)

theorem parseFmmus_tri {K : List String} {hang : Bool} :
    ∀ (b : List Nat), Tri K hang 0 (fun l => l.length ≤ b.length) (parseFmmus b) := by
  intro b
  induction b with
  | nil => exact Tri.ret 0 (Nat.le_refl _)
  | cons x rest ih =>
    unfold parseFmmus
    split
    · exact Tri.bind ih (B2 := 0) fun us hus => Tri.ret 0 (Nat.succ_le_succ hus)
    · exact Tri.fail 0 _ (by decide)

theorem parseMailbox_tri {K : List String} {hang : Bool} (b : List Nat) :
    Tri K hang 0 (fun _ => True) (parseMailbox b) := by
  unfold parseMailbox; split
  · exact Tri.ret 0 trivial
  · exact Tri.fail 0 _ (by decide)

theorem parseGeneral_tri {K : List String} {hang : Bool} (b : List Nat) :
    Tri K hang 0 (fun g => g.orderIdx = b.getD 2 0 ∧ g.nameIdx = b.getD 3 0) (parseGeneral b) := by
  unfold parseGeneral; split
  · exact Tri.ret 0 ⟨rfl, rfl⟩
  · exact Tri.fail 0 _ (by decide)

theorem syncManagers_tri (m : Mode) (p : Prov) (hcs : 4 ≤ p.cs) {hang : Bool} {CB : Nat} (hc : CatOK m p hang CB) :
    Tri (sites m) hang (CB + 90) (fun l => l.length ≤ 8) (syncManagers m p) :=
  collect_tri m p hcs hc _ 8 8 0 parseSm fun b => parseSm_tri b

theorem fmmuMappings_tri (m : Mode) (p : Prov) (hcs : 4 ≤ p.cs) {hang : Bool} {CB : Nat} (hc : CatOK m p hang CB) :
    Tri (sites m) hang (CB + 72) (fun l => l.length ≤ 16) (fmmuMappings m p) :=
  collect_tri m p hcs hc _ 3 16 1 parseFmmuEx fun _ => Tri.ret 0 trivial

theorem fmmus_tri (m : Mode) (p : Prov) (hcs : 4 ≤ p.cs) {hang : Bool} {CB : Nat} (hc : CatOK m p hang CB) :
    Tri (sites m) hang (CB + 17) (fun l => l.length ≤ 16) (fmmus m p) := by
  refine Tri.bind (hc _) (B2 := 17) fun c hc => ?_
  cases c with
  | none => exact Tri.ret _ (Nat.zero_le _)
  | some r =>
    refine Tri.bind (read_tri m hang p (by omega) r (hc r rfl) Gen.Eeprom.FMMU_READ_BUF) (B2 := 0)
      fun res hres => ?_
    refine (parseFmmus_tri res.1).mono (Nat.le_refl _) fun l hl => ?_
    rw [hres, slice_length] at hl
    exact Nat.le_trans hl (Nat.min_le_left _ _)

theorem general_tri (m : Mode) (p : Prov) (hcs : 4 ≤ p.cs) {hang : Bool} {CB : Nat} (hc : CatOK m p hang CB)
    (hb : ∀ a, p.rd a < 256) :
    Tri (sites m) hang (CB + 19) (fun g => g.orderIdx < 256 ∧ g.nameIdx < 256) (general m p) := by
  refine Tri.bind (hc _) (B2 := 19) fun c hc => ?_
  cases c with
  | none => exact Tri.fail _ _ (by decide)
  | some r =>
    refine Tri.bind (eofToOverrun_tri (readExact_tri m hang p (by omega) r (hc r rfl) 18)) (B2 := 0)
      fun res hres => ?_
    refine (parseGeneral_tri res.1).mono (Nat.le_refl _) fun g hg => ?_
    rw [hg.1, hg.2, hres.1]
    exact ⟨slice_getD_lt p.rd hb _ _ _, slice_getD_lt p.rd hb _ _ _⟩

theorem pdoEntries_tri {K : List String} (m : Mode) (hang : Bool) (p : Prov) (hcs : 2 ≤ p.cs)
    (hb : ∀ a, p.rd a < 256) :
    ∀ (n : Nat) (r : Range) (bits : Nat), r.WF → bits + 255 * n < 65536 →
      Tri K hang (n * 9) (fun res => res.2.WF ∧ res.1 ≤ bits + 255 * n) (pdoEntries m p n r bits) := by
  intro n
  induction n with
  | zero => intro r bits hr _; exact Tri.ret _ ⟨hr, Nat.le_refl _⟩
  | succ n ih =>
    intro r bits hr hbits
    unfold pdoEntries
    refine (Tri.bind (nextItem_tri m hang p hcs r hr 8 parsePdoEntry (fun e => e < 256)
      fun b hbeq => Tri.ret 0 (hbeq ▸ slice_getD_lt p.rd hb _ _ _)) (B2 := n * 9) fun res hres => ?_).le
        (by rw [Nat.succ_mul]; omega)
    split
    · exact Tri.fail _ _ (by decide)
    · next e hres1 =>
      have he : e < 256 := hres.2 e hres1
      rw [add16_ok m _ bits e (by omega), bind_ret]
      exact (ih res.2 (bits + e) hres.1 (by omega)).mono (Nat.le_refl _) fun _ h => ⟨h.1, by omega⟩

/-- 65025 = 255 · 255: at most 255 entries of at most 255 bits each, so the `u16` sum cannot overflow.
    2304 = 9 · 256: the PDO header and at most 255 entries are items of 8 bytes, at most nine provider calls each. -/
theorem pdoLoop_tri {K : List String} (m : Mode) (hang : Bool) (p : Prov) (hcs : 2 ≤ p.cs)
    (hb : ∀ a, p.rd a < 256) :
    ∀ (fuel : Nat) (r : Range) (acc : List Pdo), r.WF → acc.length ≤ Gen.Eeprom.CAP_PDOS →
      (∀ x ∈ acc, x.bitLen ≤ 65025) → Gen.Eeprom.CAP_PDOS + 1 - acc.length < fuel →
      Tri K hang (fuel * 2304) (fun l => l.length ≤ Gen.Eeprom.CAP_PDOS ∧ ∀ x ∈ l, x.bitLen ≤ 65025)
        (pdoLoop m p fuel r acc) := by
  intro fuel
  induction fuel with
  | zero => intro r acc _ _ _ h; omega
  | succ fuel ih =>
    intro r acc hr hacc hbits hfuel
    unfold pdoLoop
    refine (Tri.bind (nextItem_tri m hang p hcs r hr 8 parsePdo (fun pdo => pdo.numEntries < 256)
      fun b hbeq => by
        subst hbeq
        exact Tri.ret 0 (show (slice p.rd r.pos 8).getD 2 0 < 256 from slice_getD_lt p.rd hb _ _ _))
      (B2 := 2295 + fuel * 2304) fun res hres => ?_).le
        (by rw [Nat.succ_mul]; omega)
    split
    · exact Tri.ret _ ⟨hacc, hbits⟩
    · next pdo hres1 =>
      have hne : pdo.numEntries < 256 := hres.2 pdo hres1
      refine Tri.bind ((pdoEntries_tri m hang p hcs hb pdo.numEntries res.2 0 hres.1 (by omega)).le
        (show pdo.numEntries * 9 ≤ 2295 by omega)) (B2 := fuel * 2304) fun er her => ?_
      split
      · exact Tri.fail _ _ (by decide)
      · refine ih er.2 _ her.1 (by simp; omega) (fun x hx => ?_) (by simp; omega)
        rcases List.mem_append.1 hx with hx | hx
        · exact hbits x hx
        · cases List.mem_singleton.1 hx
          have := her.2
          simp only
          omega

theorem pdos_tri (m : Mode) (p : Prov) (hcs : 4 ≤ p.cs) {hang : Bool} {CB : Nat} (hc : CatOK m p hang CB)
    (hb : ∀ a, p.rd a < 256) (cat : Nat) :
    Tri (sites m) hang (CB + 152064) (fun l => l.length ≤ 64 ∧ ∀ x ∈ l, x.bitLen ≤ 65025) (pdos m p cat) :=
  Tri.bind (items_tri m p hc cat) fun r hr =>
    pdoLoop_tri m hang p (by omega) hb (Gen.Eeprom.CAP_PDOS + 2) r [] hr (by decide) (fun _ h => nomatch h)
      (by decide)

theorem skipStrings_tri (m : Mode) (hang : Bool) (p : Prov) (hcs : 2 ≤ p.cs) :
    ∀ (n : Nat) (r : Range), r.WF → Tri (sites m) hang (2 * n) (fun r' => r'.WF) (skipStrings m p n r) := by
  intro n
  induction n with
  | zero => intro r hr; exact Tri.ret _ hr
  | succ n ih =>
    intro r hr
    unfold skipStrings
    exact (Tri.bind (readByte_tri m hang p hcs r hr) fun res hres =>
      Tri.bind (skip_tri m hang res.2 hres res.1) fun r' hr' => ih r' hr').le (by omega)

theorem findString_tri (m : Mode) (p : Prov) (hcs : 4 ≤ p.cs) {hang : Bool} {CB : Nat} (hc : CatOK m p hang CB)
    (N idx : Nat) :
    Tri (sites m) hang (CB + 2 * idx + N + 5) (fun s => ∀ b, s = some b → b.length ≤ N)
      (findString m p N idx) := by
  have hnone : ∀ B,
      Tri (sites m) hang B (fun s : Option (List Nat) => ∀ b, s = some b → b.length ≤ N) (ret none) :=
    fun B => Tri.ret B fun _ h => nomatch h
  unfold findString
  split
  · exact hnone _
  · refine (Tri.bind (hc _) (B2 := 2 * idx + N + 5) fun c hc => ?_).le (by omega)
    cases c with
    | none => exact hnone _
    | some r =>
      refine (Tri.bind (readByte_tri m hang p (by omega) r (hc r rfl)) (B2 := 2 * idx + N + 3) fun nb hnb => ?_).le
        (by omega)
      split
      · exact hnone _
      · refine (Tri.bind (skipStrings_tri m hang p (by omega) (idx - 1) nb.2 hnb) (B2 := N + 5)
          fun r' hr' => ?_).le (by omega)
        refine (Tri.bind (readByte_tri m hang p (by omega) r' hr') (B2 := N + 1) fun lb hlb => ?_).le (by omega)
        split
        · exact Tri.fail _ _ (fun h => by cases h)
        · refine (Tri.bind (eofToOverrun_tri (readExact_tri m hang p (by omega) lb.2 hlb lb.1))
            (B2 := 0) fun res hres => Tri.ret 0 fun b hbq => ?_).le (by omega)
          cases hbq
          rw [cleanString, List.length_map]
          refine Nat.le_trans (List.length_filter_le _ _) ?_
          rw [hres.1, slice_length]; omega

theorem ignoreNoCategory_tri {α : Type} {K : List String} {hang : Bool} {B : Nat} {Q : α → Prop} {x : M α}
    (h : Tri K hang B Q x) : Tri K hang B (fun o => ∀ a, o = some a → Q a) (ignoreNoCategory x) := by
  unfold ignoreNoCategory
  split
  · next a ha => exact Tri.ok h.cost fun b hb => by cases hb; exact h.post a ha
  · exact Tri.ok h.cost fun b hb => nomatch hb
  · next e _ he => exact Tri.err h.cost fun hh hf => h.nofuel hh (hf ▸ he)
  · next w hw => exact Tri.panic h.cost (h.panics w hw)

theorem deviceName_tri (m : Mode) (p : Prov) (hcs : 4 ≤ p.cs) {hang : Bool} {CB : Nat} (hc : CatOK m p hang CB)
    (hb : ∀ a, p.rd a < 256) (N : Nat) :
    Tri (sites m) hang (2 * CB + N + 534) (fun s => ∀ b, s = some b → b.length ≤ N)
      (deviceName m p N) := by
  -- 515 = 2 · 255 + 5: the string index is a byte of the General category
  refine (Tri.bind (ignoreNoCategory_tri (general_tri m p hcs hc hb)) (B2 := CB + N + 515) fun g hg => ?_).le
    (by omega)
  cases g with
  | none => exact Tri.ret _ fun _ h => nomatch h
  | some g =>
    have hidx := (hg g rfl).1
    refine (Tri.bind (ignoreNoCategory_tri (findString_tri m p hcs hc N g.orderIdx)) (B2 := 0)
      fun s hs => Tri.ret 0 fun b hbq => ?_).le (by omega)
    cases s with
    | none => cases hbq
    | some inner => cases hbq; exact hs _ rfl b rfl

theorem deviceDescription_tri (m : Mode) (p : Prov) (hcs : 4 ≤ p.cs) {hang : Bool} {CB : Nat}
    (hc : CatOK m p hang CB) (hb : ∀ a, p.rd a < 256) (N : Nat) :
    Tri (sites m) hang (2 * CB + N + 534) (fun s => ∀ b, s = some b → b.length ≤ N)
      (deviceDescription m p N) :=
  (Tri.bind (general_tri m p hcs hc hb) (B2 := CB + N + 515) fun g hg =>
    (findString_tri m p hcs hc N g.nameIdx).le (by have := hg.2; omega)).le (by omega)

end Ec.Eeprom
