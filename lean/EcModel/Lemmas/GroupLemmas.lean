/-
  Group state transitions and summaries (C10; C11 uses the request and transition lemmas): the OR-fold behind
  `group_state`, the frames of a status round, what `is_state`, the wait loop and the request loop consumed
  and sent (`_spec`).
-/
import EcModel.GroupState
import EcModel.Lemmas.WkcLemmas

namespace Ec.Group
open Ec Ec.Wkc

section Summaries

/-- `groupState` before its truncation to `GroupState::all()`. -/
def orAll (l : List Nat) : Nat := l.foldl (fun acc s => acc ||| s) 0

theorem orAll_cons (x : Nat) (l : List Nat) : orAll (x :: l) = x ||| orAll l := by
  rw [orAll, List.foldl_cons, Nat.zero_or, ← Nat.or_zero x, List.foldl_assoc, Nat.or_zero]
  rfl

theorem orAll_lt (l : List Nat) (h : ∀ s ∈ l, s < 16) : orAll l < 16 := by
  induction l with
  | nil => simp [orAll]
  | cons x l ih =>
    rw [orAll_cons]
    have hx : x < 2 ^ 4 := h x (by simp)
    have hl : orAll l < 2 ^ 4 := ih (fun s hs => h s (by simp [hs]))
    exact Nat.or_lt_two_pow hx hl

theorem groupState_eq_orAll (l : List Nat) (h : ∀ s ∈ l, s < 16) : groupState l = orAll l :=
  (by decide : ∀ n < 16, n &&& GROUP_STATE_ALL = n) _ (orAll_lt l h)

theorem testBit_orAll (l : List Nat) (i : Nat) : (orAll l).testBit i = l.any (·.testBit i) := by
  induction l with
  | nil => exact Nat.zero_testBit i
  | cons x l ih => rw [orAll_cons, Nat.testBit_or, ih, List.any_cons]

theorem orAll_eq_zero (l : List Nat) : orAll l = 0 ↔ ∀ s ∈ l, s = 0 := by
  induction l with
  | nil => simp [orAll]
  | cons x l ih => rw [orAll_cons, Nat.or_eq_zero_iff, ih, List.forall_mem_cons]

theorem eq_two_pow (s k : Nat) (h0 : s ≠ 0) (h : ∀ i, s.testBit i = true → i = k) : s = 2 ^ k := by
  obtain ⟨j, hj⟩ := Nat.exists_testBit_of_ne_zero h0
  have hk : s.testBit k = true := h j hj ▸ hj
  apply Nat.eq_of_testBit_eq
  intro i
  rw [Nat.testBit_two_pow]
  by_cases hi : k = i
  · rw [← hi, hk, decide_eq_true rfl]
  · rw [decide_eq_false hi]
    cases hs : s.testBit i
    · rfl
    · exact absurd (h i hs).symm hi

theorem orAll_eq_two_pow (k : Nat) (l : List Nat) :
    orAll l = 2 ^ k ↔ (∃ s ∈ l, s = 2 ^ k) ∧ ∀ s ∈ l, s = 2 ^ k ∨ s = 0 := by
  constructor
  · intro h
    have hall : ∀ s ∈ l, s = 2 ^ k ∨ s = 0 := fun s hs => by
      by_cases h0 : s = 0
      · exact Or.inr h0
      · refine Or.inl (eq_two_pow s k h0 fun i hi => ?_)
        have : (orAll l).testBit i = true := by rw [testBit_orAll]; exact List.any_eq_true.2 ⟨s, hs, hi⟩
        rw [h, Nat.testBit_two_pow] at this
        exact (of_decide_eq_true this).symm
    refine ⟨?_, hall⟩
    apply Classical.byContradiction
    intro hex
    have : orAll l = 0 := (orAll_eq_zero l).2 fun s hs => (hall s hs).resolve_left fun e => hex ⟨s, hs, e⟩
    rw [h] at this
    exact absurd this (Nat.pos_iff_ne_zero.1 (Nat.two_pow_pos k))
  · rintro ⟨⟨s, hs, rfl⟩, hall⟩
    apply Nat.eq_of_testBit_eq
    intro i
    rw [testBit_orAll, Bool.eq_iff_iff, List.any_eq_true]
    constructor
    · rintro ⟨t, ht, hti⟩
      rcases hall t ht with rfl | rfl
      · exact hti
      · simp at hti
    · exact fun hi => ⟨_, hs, hi⟩

theorem orAll_eq_bit_nonone (v : Nat) (hv : v = 1 ∨ v = 2 ∨ v = 4 ∨ v = 8) (l : List Nat) (h : ∀ s ∈ l, s < 16)
    (hn : ∀ s ∈ l, s ≠ 0) : orAll l = v ↔ l ≠ [] ∧ ∀ s ∈ l, s = v := by
  -- `h` plays no part: `orAll_eq_two_pow` holds for entries of any width
  obtain ⟨k, rfl⟩ : ∃ k, v = 2 ^ k := by
    rcases hv with rfl | rfl | rfl | rfl
    · exact ⟨0, rfl⟩
    · exact ⟨1, rfl⟩
    · exact ⟨2, rfl⟩
    · exact ⟨3, rfl⟩
  rw [orAll_eq_two_pow]
  constructor
  · rintro ⟨⟨s, hs, _⟩, hall⟩
    exact ⟨List.ne_nil_of_mem hs, fun t ht => (hall t ht).resolve_right (hn t ht)⟩
  · rintro ⟨hne, hall⟩
    obtain ⟨x, hx⟩ := List.exists_mem_of_ne_nil l hne
    exact ⟨⟨x, hx, hall x hx⟩, fun t ht => Or.inl (hall t ht)⟩

theorem SdState.toNat_ofNat : ∀ v, (SdState.ofNat v).toNat = v
  | 0 | 1 | 2 | 3 | 4 | 5 | 6 | 7 | 8 => rfl
  | n + 9 => by simp [SdState.ofNat, SdState.toNat]

theorem SdState.ofNat_inj (a b : Nat) (h : SdState.ofNat a = SdState.ofNat b) : a = b := by
  rw [← SdState.toNat_ofNat a, h, SdState.toNat_ofNat]

theorem singleState_some (l : List SdState) (d : SdState) :
    singleState l = some d ↔ l ≠ [] ∧ ∀ s ∈ l, s = d := by
  cases l with
  | nil => simp [singleState]
  | cons x rest =>
    simp only [singleState, List.all_eq_true, beq_iff_eq, Option.ite_none_right_eq_some, Option.some.injEq, ne_eq,
      reduceCtorEq, not_false_eq_true, true_and, List.forall_mem_cons]
    constructor
    · rintro ⟨h, rfl⟩; exact ⟨rfl, h⟩
    · rintro ⟨rfl, h⟩; exact ⟨h, rfl⟩

end Summaries

section Chunking

theorem pushStateChecks_bounds (L : Nat) (ms : List Nat) : ∀ used num, num ≤ Gen.Wkc.STATE_CHECKS_BREAK_AFTER →
    (pushStateChecks L used num ms).1.length * CHECK_SIZE ≤ L - used ∧
    num + (pushStateChecks L used num ms).1.length ≤ Gen.Wkc.STATE_CHECKS_BREAK_AFTER + 1 := by
  induction ms with
  | nil => exact fun used num h => ⟨Nat.zero_le _, Nat.le_succ_of_le h⟩
  | cons a rest ih =>
    intro used num hnum
    rw [pushStateChecks]
    split
    · rename_i hfit
      split
      · exact ⟨by rw [List.length_singleton, Nat.one_mul]; exact Nat.le_sub_of_add_le' hfit,
          Nat.add_le_add_right hnum 1⟩
      · rename_i hbrk
        obtain ⟨h1, h2⟩ := ih (used + CHECK_SIZE) (num + 1) (Nat.not_lt.1 hbrk)
        rw [Nat.sub_add_eq] at h1
        rw [Nat.add_assoc, Nat.add_comm 1] at h2
        rw [List.length_cons, Nat.succ_mul]
        exact ⟨Nat.add_le_of_le_sub (Nat.le_sub_of_add_le' hfit) h1, h2⟩
    · exact ⟨Nat.zero_le _, Nat.le_succ_of_le hnum⟩

variable {L fuel a : Nat} {ms : List Nat}

theorem pushStateChecks_nonempty (hL : CHECK_SIZE ≤ L) :
    (pushStateChecks L 0 0 (a :: ms)).1 ≠ [] := by
  unfold pushStateChecks
  rw [if_pos (by omega)]
  split <;> simp

theorem chunks_flatten (L fuel : Nat) (ms : List Nat) :
    (chunks L fuel ms).1.flatten ++ (chunks L fuel ms).2 = ms := by
  induction fuel generalizing ms with
  | zero => simp [chunks]
  | succ fuel ih =>
    simp only [chunks]
    split
    · simp
    · simp only [List.flatten_cons, List.append_assoc]
      rw [ih]
      exact pushStateChecks_append L 0 0 ms

theorem chunks_frames (L fuel : Nat) (ms : List Nat) :
    ∀ f ∈ (chunks L fuel ms).1, f ≠ [] ∧ f.length * CHECK_SIZE ≤ L ∧ f.length ≤ Gen.Wkc.STATE_CHECKS_BREAK_AFTER + 1 := by
  induction fuel generalizing ms with
  | zero => simp [chunks]
  | succ fuel ih =>
    simp only [chunks]
    split
    · simp
    · rename_i hne
      intro f hf
      rcases List.mem_cons.1 hf with rfl | hf
      · obtain ⟨h1, h2⟩ := pushStateChecks_bounds L ms 0 0 (Nat.zero_le _)
        rw [Nat.zero_add] at h2
        exact ⟨hne, h1, h2⟩
      · exact ih _ f hf

theorem chunks_rest (hL : CHECK_SIZE ≤ L) (hf : ms.length ≤ fuel) :
    (chunks L fuel ms).2 = [] := by
  induction fuel generalizing ms with
  | zero => cases List.length_eq_zero_iff.1 (Nat.le_zero.1 hf); rfl
  | succ fuel ih =>
    simp only [chunks]
    cases ms with
    | nil => rfl
    | cons a rest =>
      rw [if_neg (pushStateChecks_nonempty hL)]
      apply ih
      have h1 := pushStateChecks_length L 0 0 (a :: rest)
      have h2 := List.length_pos_iff.2 (pushStateChecks_nonempty (a := a) (ms := rest) hL)
      rw [List.length_cons] at hf h1
      omega

theorem round_flatten (h : (round L ms).2 = []) : (round L ms).1.flatten = ms := by
  have := chunks_flatten L ms.length ms
  rwa [show (chunks L ms.length ms).2 = [] from h, List.append_nil] at this

theorem round_complete (hL : CHECK_SIZE ≤ L) : (round L ms).2 = [] ∧ (round L ms).1.flatten = ms :=
  have h := chunks_rest hL (Nat.le_refl ms.length)
  ⟨h, round_flatten h⟩

theorem round_mem {f : List Nat} (hf : f ∈ (round L ms).1) (ha : a ∈ f) : a ∈ ms := by
  rw [← chunks_flatten L ms.length ms]
  exact List.mem_append_left _ (List.mem_flatten.2 ⟨f, hf, ha⟩)

theorem round_first (a : Nat) (ms : List Nat) (hL : CHECK_SIZE ≤ L) :
    ∃ f fs, (round L (a :: ms)).1 = f :: fs := by
  unfold round
  simp only [List.length_cons, chunks]
  rw [if_neg (pushStateChecks_nonempty hL)]
  exact ⟨_, _, rfl⟩

end Chunking

section Status

variable {m : Mode} {L d k : Nat} {members : List Nat} {tr t : List Ev}

theorem takeResps_ok {ps : List Pdu} {r : List Ev} : takeResps k tr = some (ps, r) →
    tr = ps.map Ev.resp ++ r ∧ ps.length = k := by
  fun_induction takeResps k tr generalizing ps r <;> intro h
  case case1 => cases h; exact ⟨rfl, rfl⟩
  case case2 hk ih => cases h; obtain ⟨rfl, rfl⟩ := ih hk; exact ⟨rfl, rfl⟩
  case case3 | case4 => cases h

theorem frameEvents_spec {r} : frameEvents k tr = (r, t) →
    ∃ q, tr = q ++ t ∧ ∀ ps, r = .ok ps → q = ps.map Ev.resp ∧ ps.length = k := by
  fun_cases frameEvents k tr <;> intro h <;> cases h
  case case1 => exact ⟨[], rfl, nofun⟩
  case case2 | case3 | case4 => exact ⟨[_], rfl, nofun⟩
  case case5 hk =>
    obtain ⟨h1, h2⟩ := takeResps_ok hk
    exact ⟨_, h1, fun _ h => by cases h; exact ⟨rfl, h2⟩⟩
  case case6 => exact ⟨_, (List.append_nil _).symm, nofun⟩

/-- A status response reports state `d`: it was answered by exactly one device (working counter
    1), its AL status decodes, the state nibble is `d` and the error indication is clear. -/
def Reports (d : Nat) (p : Pdu) : Prop := p.wkc = 1 ∧ unpackAlControl p.data = .ok ⟨d, false⟩

theorem checkStates_true {ps : List Pdu} : checkStates d ps = .ok true → ∀ p ∈ ps, Reports d p := by
  fun_induction checkStates d ps <;> intro h
  case case1 => nofun
  case case2 | case3 | case4 | case5 => cases h
  case case6 hq c hc herr hs ih =>
    obtain ⟨rfl, hw⟩ := checkWkc_ok hq
    exact List.forall_mem_cons.2 ⟨⟨hw, by rw [hc, ← Bool.eq_false_iff.2 herr, ← Decidable.of_not_not hs]⟩, ih h⟩

theorem checkStates_false (d : Nat) (ps : List Pdu) (h : checkStates d ps = .ok false) : ∃ p ∈ ps, ¬ Reports d p := by
  revert h
  fun_induction checkStates d ps <;> intro h
  case case1 | case2 | case3 | case4 => cases h
  case case5 hq c hc _ hs =>
    obtain ⟨rfl, _⟩ := checkWkc_ok hq
    exact ⟨_, List.mem_cons_self, fun hr => hs (by cases hc.symm.trans hr.2; rfl)⟩
  case case6 ih =>
    obtain ⟨r, hr, hn⟩ := ih h
    exact ⟨r, List.mem_cons_of_mem _ hr, hn⟩

theorem isStateFrames_spec {fs : List (List Nat)} {r s} : isStateFrames d fs tr = (r, t, s) →
    ∃ q, tr = q ++ t ∧ s <+: fs.map (fun f => f.map fun a => Dg.fprd a Gen.Wkc.REG_AL_STATUS) ∧
      (r = .ok true → ∃ ps : List Pdu, q = ps.map Ev.resp ∧ ps.length = fs.flatten.length ∧ (∀ p ∈ ps, Reports d p) ∧
        s = fs.map (fun f => f.map fun a => Dg.fprd a Gen.Wkc.REG_AL_STATUS)) ∧
      (r = .ok false → (∀ f ∈ fs, f ≠ []) → q ≠ []) := by
  fun_induction isStateFrames d fs tr generalizing r t s <;> intro h <;> cases h
  case case1 => exact ⟨[], rfl, List.prefix_refl _, fun _ => ⟨[], rfl, rfl, nofun, rfl⟩, nofun⟩
  case case2 tr hd =>
    match tr, hd with
    | .deadline :: t, _ => exact ⟨[.deadline], rfl, List.nil_prefix, nofun, nofun⟩
  case case3 | case4 =>
    obtain ⟨q, hq, _⟩ := frameEvents_spec ‹frameEvents _ _ = _›
    exact ⟨q, hq, ⟨_, rfl⟩, nofun, nofun⟩
  case case5 f _ _ _ _ pdus _ hfe _ =>
    obtain ⟨q, hq, hok⟩ := frameEvents_spec hfe
    obtain ⟨rfl, hlen⟩ := hok pdus rfl
    refine ⟨_, hq, ⟨_, rfl⟩, nofun, fun _ hne h0 => hne f List.mem_cons_self ?_⟩
    rw [List.map_eq_nil_iff.1 h0] at hlen
    exact List.length_eq_zero_iff.1 hlen.symm
  case case6 pdus _ hfe hcs _ ih =>
    obtain ⟨q1, hq1, hok⟩ := frameEvents_spec hfe
    obtain ⟨rfl, hlen⟩ := hok pdus rfl
    obtain ⟨q, hq, ⟨rest, hpre⟩, htrue, hfalse⟩ := ih rfl
    refine ⟨pdus.map Ev.resp ++ q, by rw [List.append_assoc, ← hq, hq1],
      ⟨rest, by rw [List.map_cons, ← hpre]; rfl⟩, fun h => ?_,
      fun h hne h0 => hfalse h (fun g hg => hne g (List.mem_cons_of_mem _ hg)) (List.append_eq_nil_iff.1 h0).2⟩
    obtain ⟨ps, rfl, hl, hr, hs⟩ := htrue h
    exact ⟨pdus ++ ps, List.map_append.symm,
      by rw [List.length_append, hlen, hl, List.flatten_cons, List.length_append],
      fun p hp => (List.mem_append.1 hp).elim (checkStates_true hcs p) (hr p), congrArg _ hs⟩

theorem isState_frames {r s} : isState m L d members tr = (r, t, s) →
    ∃ r', isStateFrames d (round L members).1 tr = (r', t, s) ∧ (∀ b, r = .ok b → r' = .ok b) ∧
      (r = .ok true → (round L members).2 = [] ∨ m = .wrapping) := by
  fun_cases isState m L d members tr <;> intro h
  case case1 hfr hr => cases h; exact ⟨_, hfr, fun _ h => h, fun _ => Or.inl hr⟩
  case case2 hfr _ => cases h; exact ⟨_, hfr, nofun, nofun⟩
  case case3 hfr _ => cases h; exact ⟨_, hfr, fun _ h => h, fun _ => Or.inr rfl⟩
  case case4 hne => exact ⟨r, h, fun _ h => h, fun hr => absurd (hr ▸ h) (hne t s)⟩

theorem isState_spec {r s} (h : isState m L d members tr = (r, t, s)) :
    ∃ q, tr = q ++ t ∧
      (∀ f ∈ s, ∀ g ∈ f, ∃ a ∈ members, g = Dg.fprd a Gen.Wkc.REG_AL_STATUS) ∧
      (r = .ok true → m = .checked ∨ CHECK_SIZE ≤ L →
        ∃ ps : List Pdu, q = ps.map Ev.resp ∧ ps.length = members.length ∧ (∀ p ∈ ps, Reports d p) ∧
          s.flatten = members.map fun a => Dg.fprd a Gen.Wkc.REG_AL_STATUS) ∧
      (r = .ok false → q ≠ []) := by
  obtain ⟨r', hfr, hb, hrest⟩ := isState_frames h
  obtain ⟨q, hq, hpre, htrue, hfalse⟩ := isStateFrames_spec hfr
  refine ⟨q, hq, fun f hf g hg => ?_, fun ht hm => ?_,
    fun hf => hfalse (hb false hf) fun f hf => (chunks_frames L _ members f hf).1⟩
  · obtain ⟨f', hf', rfl⟩ := List.mem_map.1 (hpre.subset hf)
    obtain ⟨a, ha, rfl⟩ := List.mem_map.1 hg
    exact ⟨a, round_mem hf' ha, rfl⟩
  · have hr : (round L members).2 = [] := by
      rcases hm with rfl | hL
      · exact (hrest ht).resolve_right nofun
      · exact (round_complete hL).1
    have hflat := round_flatten hr
    obtain ⟨ps, hps, hl, hrep, hs⟩ := htrue (hb true ht)
    exact ⟨ps, hps, by rw [hl, hflat], hrep, by rw [hs, ← List.map_flatten, hflat]⟩

theorem isState_false_consumes {s : List (List Dg)} (h : isState m L d members tr = (.ok false, t, s)) :
    t.length < tr.length := by
  obtain ⟨q, rfl, _, _, hfalse⟩ := isState_spec h
  rw [List.length_append]
  exact Nat.lt_add_of_pos_left (List.length_pos_iff.2 (hfalse rfl))

theorem isState_deadline {a : Nat} {ms : List Nat} (hL : CHECK_SIZE ≤ L) :
    isState m L d (a :: ms) (.deadline :: t) = (.error (.timeout .stateTransition), t, []) := by
  obtain ⟨f, fs, hr⟩ := round_first a ms hL
  unfold isState
  rw [hr]
  simp [isStateFrames]

theorem isState_lostDeadline (m : Mode) (d a : Nat) (ms : List Nat) (t : List Ev) (hL : CHECK_SIZE ≤ L) :
    ∃ s, isState m L d (a :: ms) (.lostDeadline :: t) = (.error (.timeout .stateTransition), t, s) := by
  obtain ⟨f, fs, hr⟩ := round_first a ms hL
  refine ⟨[f.map fun a => Dg.fprd a Gen.Wkc.REG_AL_STATUS], ?_⟩
  unfold isState
  rw [hr]
  simp [isStateFrames, frameEvents]

theorem waitLoop_spec {fuel : Nat} {r s} : waitLoop m L d members fuel tr = (r, t, s) →
    ∃ q, tr = q ++ t ∧ (∀ f ∈ s, ∀ g ∈ f, ∃ a ∈ members, g = Dg.fprd a Gen.Wkc.REG_AL_STATUS) ∧
      (r = .ok () → m = .checked ∨ CHECK_SIZE ≤ L →
        ∃ (pre : List Ev) (ps : List Pdu), q = pre ++ ps.map Ev.resp ∧ ps.length = members.length ∧
          ∀ p ∈ ps, Reports d p) := by
  fun_induction waitLoop m L d members fuel tr generalizing r t s <;> intro h
  case case1 => cases h; exact ⟨[], rfl, nofun, nofun⟩
  case case2 his =>
    cases h
    obtain ⟨q, hq, hsent, _⟩ := isState_spec his
    exact ⟨q, hq, hsent, nofun⟩
  case case3 his =>
    cases h
    obtain ⟨q, hq, hsent, htrue, _⟩ := isState_spec his
    exact ⟨q, hq, hsent, fun _ hm => let ⟨ps, h1, h2, h3, _⟩ := htrue rfl hm; ⟨[], ps, h1, h2, h3⟩⟩
  case case4 his _ ih =>
    cases h
    obtain ⟨q, rfl, hsent, _⟩ := isState_spec his
    obtain ⟨q2, hq2, hsent2, hok2⟩ := ih rfl
    refine ⟨q ++ q2, by rw [List.append_assoc, ← hq2],
      fun f hf => (List.mem_append.1 hf).elim (hsent f) (hsent2 f), fun h hm => ?_⟩
    obtain ⟨pre, ps, h1, h2, h3⟩ := hok2 h hm
    exact ⟨q ++ pre, ps, by rw [h1, List.append_assoc], h2, h3⟩

/-- Any fuel above the trace length gives the same result: every failed round consumes an event. -/
theorem waitLoop_fuel {f1 f2 : Nat} (h1 : tr.length < f1) (h2 : tr.length < f2) :
    waitLoop m L d members f1 tr = waitLoop m L d members f2 tr := by
  induction f1 generalizing f2 tr with
  | zero => cases h1
  | succ f1 ih =>
    cases f2 with
    | zero => cases h2
    | succ f2 =>
      simp only [waitLoop]
      rcases his : isState m L d members tr with ⟨r, t, s⟩
      match r with
      | .error e | .ok true => rfl
      | .ok false =>
        have hc := isState_false_consumes his
        dsimp only
        rw [ih (Nat.lt_of_lt_of_le hc (Nat.le_of_lt_succ h1)) (Nat.lt_of_lt_of_le hc (Nat.le_of_lt_succ h2))]

end Status

section Request

theorem requestNowaitL_spec {a d : Nat} {tr : List Ev} {r t s} : requestNowaitL a d tr = (r, t, s) →
    ∃ q, tr = q ++ t ∧
      s <+: [[Dg.fpwr a Gen.Wkc.REG_AL_CONTROL (alControlByte d)], [Dg.fprd a Gen.Wkc.REG_AL_STATUS_CODE]] ∧
      (r = .ok () → ∃ p c, q = [.resp p] ∧ p.wkc = 1 ∧ unpackAlControl p.data = .ok c ∧
        c.error = false ∧ s = [[Dg.fpwr a Gen.Wkc.REG_AL_CONTROL (alControlByte d)]]) := by
  fun_cases requestNowaitL a d tr <;> intro h <;> cases h
  case case1 => exact ⟨[], rfl, List.nil_prefix, nofun⟩
  case case2 => exact ⟨[_], rfl, ⟨_, rfl⟩, nofun⟩
  case case3 => exact ⟨[_], rfl, List.prefix_refl _, nofun⟩
  case case4 | case5 => exact ⟨[_, _], rfl, List.prefix_refl _, nofun⟩
  case case6 c h1 herr =>
    obtain ⟨p, rfl, hw, hu⟩ := sendReceive_exch_ok h1
    exact ⟨[_], rfl, ⟨_, rfl⟩, fun _ => ⟨p, c, rfl, hw, hu, Bool.eq_false_iff.2 herr, rfl⟩⟩

/-- The group's request, apart from the frames it records, is `Wkc.requestNowait`. -/
theorem requestNowaitL_eq (a d : Nat) (tr : List Ev) :
    ((requestNowaitL a d tr).1, (requestNowaitL a d tr).2.1) = requestNowait tr := by
  fun_cases requestNowaitL a d tr <;> simp only [requestNowait, *, if_true, Bool.false_eq_true, if_false]

theorem requestNowaitL_addr {a d : Nat} {s : List (List Dg)}
    (hpre : s <+: [[Dg.fpwr a Gen.Wkc.REG_AL_CONTROL (alControlByte d)], [Dg.fprd a Gen.Wkc.REG_AL_STATUS_CODE]]) :
    ∀ f ∈ s, ∀ g ∈ f, g.addr = a := by
  intro f hf g hg
  have hf := hpre.subset hf
  simp only [List.mem_cons, List.mem_nil_iff, or_false] at hf
  rcases hf with rfl | rfl <;> cases List.mem_singleton.1 hg <;> rfl

theorem requestAll_spec {d : Nat} {members : List Nat} {tr : List Ev} {r t s} : requestAll d members tr = (r, t, s) →
    ∃ q, tr = q ++ t ∧ (∀ f ∈ s, ∀ g ∈ f, g.addr ∈ members) ∧
      (r = .ok () → ∃ ps : List Pdu, q = ps.map Ev.resp ∧ ps.length = members.length ∧
        (∀ p ∈ ps, p.wkc = 1 ∧ ∃ c, unpackAlControl p.data = .ok c ∧ c.error = false) ∧
        s = members.map (fun a => [Dg.fpwr a Gen.Wkc.REG_AL_CONTROL (alControlByte d)])) := by
  fun_induction requestAll d members tr generalizing r t s <;> intro h <;> cases h
  case case1 => exact ⟨[], rfl, nofun, fun _ => ⟨[], rfl, rfl, nofun, rfl⟩⟩
  case case2 hone =>
    obtain ⟨q, hq, hpre, _⟩ := requestNowaitL_spec hone
    exact ⟨q, hq, fun f hf g hg => requestNowaitL_addr hpre f hf g hg ▸ List.mem_cons_self, nofun⟩
  case case3 hone _ ih =>
    obtain ⟨_, rfl, hpre, hok⟩ := requestNowaitL_spec hone
    obtain ⟨p, c, rfl, hw, hu, he, rfl⟩ := hok rfl
    obtain ⟨q2, hq2, haddr2, hok2⟩ := ih rfl
    refine ⟨[.resp p] ++ q2, by rw [List.append_assoc, ← hq2], fun f hf g hg => ?_, fun h => ?_⟩
    · rcases List.mem_append.1 hf with hf | hf
      · exact requestNowaitL_addr hpre f hf g hg ▸ List.mem_cons_self
      · exact List.mem_cons_of_mem _ (haddr2 f hf g hg)
    · obtain ⟨ps, rfl, hl, hall, hs2⟩ := hok2 h
      exact ⟨p :: ps, rfl, congrArg (· + 1) hl, List.forall_mem_cons.2 ⟨⟨hw, c, hu, he⟩, hall⟩,
        by rw [hs2]; rfl⟩

theorem filter_fpwr_requests (reg v : Nat) (l : List Nat) :
    ((l.map (fun a => [Dg.fpwr a reg v])).flatten.filter Dg.isFpwr) =
      l.map (fun a => Dg.fpwr a reg v) := by
  induction l with
  | nil => simp
  | cons a l ih =>
    simp only [List.map_cons, List.flatten_cons, List.singleton_append]
    rw [List.filter_cons_of_pos (by rfl), ih]

theorem transitionTo_ok {m : Mode} {L d : Nat} {members : List Nat} {tr rest : List Ev} {sent : List (List Dg)}
    (h : transitionTo m L d members tr = (.ok (), rest, sent)) :
    ∃ t s1 s2, requestAll d members tr = (.ok (), t, s1) ∧ waitForState m L d members t = (.ok (), rest, s2) ∧
      sent = s1 ++ s2 := by
  unfold transitionTo at h
  split at h
  · cases h
  · rename_i t s hreq
    simp only [Prod.mk.injEq] at h
    exact ⟨t, s, _, hreq, by rw [← h.1, ← h.2.1], h.2.2.symm⟩

end Request

end Ec.Group
