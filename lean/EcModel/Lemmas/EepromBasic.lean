/-
  Helper lemmas for the EEPROM model (C12/C13/C14): the cost-counting monad, memory slices (also of a memory
  after a store), the chunk assembly loop of `EepromRange::read`, `read_exact`, what it means that the memory
  holds given bytes.
-/
import EcModel.Eeprom
import EcModel.EepromSpec

namespace Ec.Eeprom
open Ec Ec.EepromSpec

theorem bind_eq_ok {α β : Type} {x : M α} {a : α} (f : α → M β) (h : x.1 = .ok a) :
    bind x f = ((f a).1, x.2 + (f a).2) := by
  unfold bind; rw [h]

theorem bind_fst_ok {α β : Type} {x : M α} {a : α} (f : α → M β) (h : x.1 = .ok a) :
    (bind x f).1 = (f a).1 := by
  rw [bind_eq_ok f h]

theorem bind_eq_err {α β : Type} {x : M α} {e : Err} (f : α → M β) (h : x.1 = .err e) :
    bind x f = (.err e, x.2) := by
  unfold bind; rw [h]

theorem bind_eq_panic {α β : Type} {x : M α} {w : String} (f : α → M β) (h : x.1 = .panic w) :
    bind x f = (.panic w, x.2) := by
  unfold bind; rw [h]

@[simp] theorem bind_ret {α β : Type} (a : α) (f : α → M β) : bind (ret a) f = f a := by
  simp [bind, ret]

@[simp] theorem bind_call {α β : Type} (a : α) (f : α → M β) : bind (call a) f = ((f a).1, 1 + (f a).2) := by
  simp [bind, call]

@[simp] theorem bind_fail {α β : Type} (e : Err) (f : α → M β) : bind (fail e : M α) f = fail e := by
  simp [bind, fail]

@[simp] theorem bind_panicAt {α β : Type} (w : String) (f : α → M β) : bind (panicAt w : M α) f = panicAt w := by
  simp [bind, panicAt]

@[simp] theorem ret_fst {α : Type} (a : α) : (ret a).1 = .ok a := rfl
@[simp] theorem ret_snd {α : Type} (a : α) : (ret a).2 = 0 := rfl
@[simp] theorem fail_fst {α : Type} (e : Err) : (fail e : M α).1 = .err e := rfl
@[simp] theorem fail_snd {α : Type} (e : Err) : (fail e : M α).2 = 0 := rfl
@[simp] theorem panicAt_fst {α : Type} (w : String) : (panicAt w : M α).1 = .panic w := rfl
@[simp] theorem panicAt_snd {α : Type} (w : String) : (panicAt w : M α).2 = 0 := rfl

theorem add16_ok (m : Mode) (s : String) (a b : Nat) (h : a + b < 65536) : add16 m s a b = ret (a + b) := by
  simp [add16, h]

theorem mul16_ok (m : Mode) (s : String) (a b : Nat) (h : a * b < 65536) : mul16 m s a b = ret (a * b) := by
  simp [mul16, h]

theorem add16_wrapping (s : String) (a b : Nat) : add16 .wrapping s a b = ret ((a + b) % 65536) := by
  unfold add16; split
  · rw [Nat.mod_eq_of_lt (by assumption)]
  · rfl

theorem mul16_wrapping (s : String) (a b : Nat) : mul16 .wrapping s a b = ret ((a * b) % 65536) := by
  unfold mul16; split
  · rw [Nat.mod_eq_of_lt (by assumption)]
  · rfl

theorem add16_checked_ovf (s : String) (a b : Nat) (h : ¬ a + b < 65536) : add16 .checked s a b = panicAt s := by
  simp [add16, h]

theorem mul16_checked_ovf (s : String) (a b : Nat) (h : ¬ a * b < 65536) : mul16 .checked s a b = panicAt s := by
  simp [mul16, h]

theorem slice_eq_map (rd : Nat → Nat) (a n : Nat) : slice rd a n = (List.range' a n).map rd := by
  rw [slice, List.range'_eq_map_range, List.map_map]; rfl

@[simp] theorem slice_length (rd : Nat → Nat) (a n : Nat) : (slice rd a n).length = n := by
  rw [slice_eq_map, List.length_map, List.length_range']

@[simp] theorem slice_zero (rd : Nat → Nat) (a : Nat) : slice rd a 0 = [] := rfl

theorem slice_getElem? (rd : Nat → Nat) (a n i : Nat) :
    (slice rd a n)[i]? = if i < n then some (rd (a + i)) else none := by
  split
  · next h => rw [slice_eq_map, List.getElem?_map, List.getElem?_range' h, Nat.one_mul]; rfl
  · next h => exact List.getElem?_eq_none (by rw [slice_length]; omega)

theorem slice_getD_lt (rd : Nat → Nat) (hb : ∀ a, rd a < 256) (a n i : Nat) : (slice rd a n).getD i 0 < 256 := by
  rw [List.getD_eq_getElem?_getD, slice_getElem?]
  split
  · exact hb _
  · decide

theorem slice_append (rd : Nat → Nat) (a n k : Nat) : slice rd a n ++ slice rd (a + n) k = slice rd a (n + k) := by
  simp only [slice_eq_map, ← List.map_append, List.range'_append_1]

theorem slice_take (rd : Nat → Nat) (a n k : Nat) : (slice rd a n).take k = slice rd a (min k n) := by
  simp only [slice, ← List.map_take, List.take_range]

theorem slice_drop (rd : Nat → Nat) (a n k : Nat) : (slice rd a n).drop k = slice rd (a + k) (n - k) := by
  simp only [slice_eq_map, ← List.map_drop, List.drop_range', Nat.mul_one]

theorem slice_succ (rd : Nat → Nat) (a n : Nat) : slice rd a (n + 1) = rd a :: slice rd (a + 1) n := by
  simp only [slice_eq_map, List.range'_succ, List.map_cons]

theorem storeAt_nil (rd : Nat → Nat) (a : Nat) : storeAt rd a [] = rd :=
  funext fun _ => if_neg fun h => Nat.lt_irrefl _ (Nat.lt_of_le_of_lt h.1 h.2)

theorem storeAt_outside (rd : Nat → Nat) (a : Nat) (bs : List Nat) (x : Nat) (h : x < a ∨ a + bs.length ≤ x) :
    storeAt rd a bs x = rd x :=
  if_neg (by omega)

theorem slice_storeAt_disjoint (rd : Nat → Nat) (a : Nat) (bs : List Nat) (p n : Nat)
    (h : p + n ≤ a ∨ a + bs.length ≤ p) : slice (storeAt rd a bs) p n = slice rd p n :=
  List.map_congr_left fun i hi => storeAt_outside rd a bs (p + i) (by have := List.mem_range.1 hi; omega)

theorem slice_eq_of_getD (rd : Nat → Nat) (a : Nat) (bs : List Nat) (d : Nat)
    (h : ∀ i, i < bs.length → rd (a + i) = bs.getD i d) : slice rd a bs.length = bs := by
  apply List.ext_getElem?
  intro i
  rw [slice_getElem?]
  split
  · next hi => rw [h i hi, List.getD_eq_getElem?_getD, List.getElem?_eq_getElem hi, Option.getD_some]
  · next hi => exact (List.getElem?_eq_none (Nat.le_of_not_lt hi)).symm

theorem slice_storeAt_self (rd : Nat → Nat) (a : Nat) (bs : List Nat) : slice (storeAt rd a bs) a bs.length = bs :=
  slice_eq_of_getD _ a bs 0 fun i hi => by rw [storeAt, if_pos (by omega), Nat.add_sub_cancel_left]

theorem slice_storeAt_within (rd : Nat → Nat) (a : Nat) (bs : List Nat) (p n : Nat) (h1 : p ≤ a)
    (h2 : a + bs.length ≤ p + n) : slice (storeAt rd a bs) p n = setRange (slice rd p n) (a - p) bs := by
  obtain ⟨k, rfl⟩ : ∃ k, a = p + k := ⟨a - p, by omega⟩
  obtain ⟨t, rfl⟩ : ∃ t, n = k + bs.length + t := ⟨n - k - bs.length, by omega⟩
  unfold setRange
  rw [Nat.add_sub_cancel_left, slice_take, slice_drop, Nat.min_eq_left (by omega), Nat.add_sub_cancel_left,
    ← slice_append, ← slice_append, slice_storeAt_disjoint _ _ _ _ _ (Or.inl (Nat.le_refl _)), slice_storeAt_self,
    slice_storeAt_disjoint _ _ _ _ _ (Or.inr (by omega))]

theorem chunkAt_drop (p : Prov) (pos : Nat) :
    (chunkAt p (pos / 2)).drop (pos % 2) = slice p.rd pos (p.cs - pos % 2) := by
  unfold chunkAt; rw [slice_drop]; congr 1; omega

theorem chunkAt_getElem? (p : Prov) (hcs : 2 ≤ p.cs) (pos : Nat) :
    (chunkAt p (pos / 2))[pos % 2]? = some (p.rd pos) := by
  rw [chunkAt, slice_getElem?, if_pos (by omega)]
  congr 2; omega

@[simp] theorem chunkAt_length (p : Prov) (w : Nat) : (chunkAt p w).length = p.cs := by simp [chunkAt]

theorem new_eq (m : Mode) (w n : Nat) : Range.new m w n = ret ⟨2 * w, min (2 * w + 2 * n) 131072⟩ := by
  rw [Range.new, ADDRESS_SPACE_BYTES, Nat.mul_comm w, Nat.mul_comm n]

theorem wordPos_ok (pos : Nat) (h : pos < 131072) : wordPos pos = ret (pos / 2) := by
  unfold wordPos; rw [if_pos (by omega)]

theorem readByte_ok (m : Mode) (p : Prov) (hcs : 2 ≤ p.cs) (r : Range) (h : r.pos < r.endp)
    (he : r.endp ≤ 131072) :
    (Range.readByte m p r).1 = .ok (p.rd r.pos, { r with pos := r.pos + 1 }) ∧ (Range.readByte m p r).2 = 2 := by
  unfold Range.readByte clearErrors readChunk
  rw [if_neg (by omega), wordPos_ok r.pos (by omega), bind_call, bind_ret, bind_call, chunkAt_getElem? p hcs]
  exact ⟨rfl, rfl⟩

theorem readLoop_ok (m : Mode) (p : Prov) (hcs : 2 ≤ p.cs) :
    ∀ (fuel pos rem : Nat) (acc : List Nat), rem < fuel → pos + rem ≤ 131072 →
      (readLoop m p fuel pos rem acc).1 = .ok (acc ++ slice p.rd pos rem, pos + rem) ∧
      (readLoop m p fuel pos rem acc).2 ≤ rem := by
  intro fuel
  induction fuel with
  | zero => intro pos rem acc h; omega
  | succ fuel ih =>
    intro pos rem acc hf hb
    unfold readLoop
    by_cases h0 : rem = 0
    · subst h0; simp
    · rw [if_neg h0, wordPos_ok pos (by omega)]
      simp only [readChunk, bind_ret, bind_call]
      rw [if_neg (by rw [chunkAt_length]; omega), chunkAt_drop, slice_length]
      generalize hk : p.cs - pos % 2 = k
      by_cases hlt : rem < k
      · rw [if_pos hlt, slice_take, Nat.min_eq_left (Nat.le_of_lt hlt)]
        exact ⟨rfl, by simp only [ret_snd]; omega⟩
      · have hle := Nat.le_of_not_lt hlt
        have := ih (pos + k) (rem - k) (acc ++ slice p.rd pos k) (by omega) (by omega)
        rw [if_neg hlt]
        refine ⟨?_, by have := this.2; omega⟩
        rw [this.1, List.append_assoc, slice_append, Nat.add_sub_cancel' hle, Nat.add_assoc, Nat.add_sub_cancel' hle]

theorem read_ok (m : Mode) (p : Prov) (hcs : 2 ≤ p.cs) (r : Range) (n : Nat) (he : r.endp ≤ 131072) :
    (Range.read m p r n).1
      = .ok (slice p.rd r.pos (min n (r.endp - r.pos)), { r with pos := r.pos + min n (r.endp - r.pos) }) ∧
    (Range.read m p r n).2 ≤ min n (r.endp - r.pos) + 1 := by
  unfold Range.read
  by_cases h0 : r.endp - r.pos = 0
  · simp [h0]
  · simp only [h0, if_false, clearErrors, bind_call]
    have := readLoop_ok m p hcs (min n (r.endp - r.pos) + 1) r.pos (min n (r.endp - r.pos)) [] (by omega) (by omega)
    rw [bind_eq_ok _ this.1]
    simp only [ret_fst, ret_snd, List.nil_append]
    exact ⟨trivial, by omega⟩

/-- One round of `read_exact` with bytes still missing: a `read` for all of them, which yields what is left of
    the window. -/
theorem readExactLoop_succ (m : Mode) (p : Prov) (hcs : 2 ≤ p.cs) (fuel : Nat) (r : Range) (rem : Nat)
    (acc : List Nat) (he : r.endp ≤ 131072) (hrem : rem ≠ 0) :
    readExactLoop m p (fuel + 1) r rem acc
      = addCost (Range.read m p r rem).2
          (if min rem (r.endp - r.pos) = 0 then fail .eof
           else readExactLoop m p fuel { r with pos := r.pos + min rem (r.endp - r.pos) }
             (rem - min rem (r.endp - r.pos)) (acc ++ slice p.rd r.pos (min rem (r.endp - r.pos)))) := by
  rw [readExactLoop, if_neg hrem, bind_eq_ok _ (read_ok m p hcs r rem he).1, slice_length]
  rfl

theorem readExact_ok (m : Mode) (p : Prov) (hcs : 2 ≤ p.cs) (r : Range) (n : Nat) (he : r.endp ≤ 131072)
    (hfit : r.pos + n ≤ r.endp) :
    (Range.readExact m p r n).1 = .ok (slice p.rd r.pos n, { r with pos := r.pos + n }) ∧
    (Range.readExact m p r n).2 ≤ n + 1 := by
  unfold Range.readExact
  cases n with
  | zero => exact ⟨rfl, Nat.zero_le _⟩
  | succ k =>
    have hr := (read_ok m p hcs r (k + 1) he).2
    rw [readExactLoop_succ m p hcs _ r _ [] he (Nat.add_one_ne_zero k),
      show min (k + 1) (r.endp - r.pos) = k + 1 by omega, if_neg (Nat.add_one_ne_zero k), Nat.sub_self]
    exact ⟨rfl, by show _ + 0 ≤ _; omega⟩

theorem readExact_eof (m : Mode) (p : Prov) (hcs : 2 ≤ p.cs) (r : Range) (n : Nat) (he : r.endp ≤ 131072)
    (hn : 0 < n) (hfit : ¬ r.pos + n ≤ r.endp) :
    (Range.readExact m p r n).1 = .err .eof ∧ (Range.readExact m p r n).2 ≤ n + 1 := by
  unfold Range.readExact
  have hk : min n (r.endp - r.pos) = r.endp - r.pos := Nat.min_eq_right (by omega)
  have hr := (read_ok m p hcs r n he).2
  rw [hk] at hr
  rw [readExactLoop_succ m p hcs n r n [] he (by omega), hk]
  by_cases hz : r.endp - r.pos = 0
  · rw [if_pos hz]; exact ⟨rfl, by show _ + 0 ≤ _; omega⟩
  · -- the first `read` has exhausted the window: the second returns no byte
    obtain ⟨f, rfl⟩ : ∃ f, n = f + 1 := ⟨n - 1, by omega⟩
    have h0 : min (f + 1 - (r.endp - r.pos)) (r.endp - (r.pos + (r.endp - r.pos))) = 0 :=
      by rw [show r.endp - (r.pos + (r.endp - r.pos)) = 0 by omega, Nat.min_zero]
    have hr2 := (read_ok m p hcs { r with pos := r.pos + (r.endp - r.pos) } (f + 1 - (r.endp - r.pos)) he).2
    rw [h0] at hr2
    rw [if_neg hz, readExactLoop_succ m p hcs f { r with pos := r.pos + (r.endp - r.pos) } _ _ he (by omega),
      if_pos h0]
    exact ⟨rfl, by show _ + (_ + 0) ≤ _; omega⟩

theorem eofToOverrun_ok {α : Type} {x : M α} {a : α} (h : x.1 = .ok a) :
    (eofToOverrun x).1 = .ok a ∧ (eofToOverrun x).2 = x.2 := by
  unfold eofToOverrun; rw [h]; exact ⟨h, rfl⟩

theorem eofToOverrun_eof {α : Type} {x : M α} (h : x.1 = .err .eof) :
    (eofToOverrun x).1 = .err .overrun ∧ (eofToOverrun x).2 = x.2 := by
  unfold eofToOverrun; rw [h]; exact ⟨rfl, rfl⟩

theorem eofToOverrun_snd {α : Type} (x : M α) : (eofToOverrun x).2 = x.2 := by
  unfold eofToOverrun; split <;> rfl

/-- The memory holds the bytes `bs` from byte address `a`. -/
def Holds (rd : Nat → Nat) (a : Nat) (bs : List Nat) : Prop := slice rd a bs.length = bs

theorem Holds.append {rd : Nat → Nat} {a : Nat} {x y : List Nat} (h : Holds rd a (x ++ y)) :
    Holds rd a x ∧ Holds rd (a + x.length) y := by
  unfold Holds at h ⊢
  rw [List.length_append, ← slice_append] at h
  exact List.append_inj h (slice_length _ _ _)

theorem holds_of_append {rd : Nat → Nat} {a : Nat} {x y : List Nat}
    (hx : Holds rd a x) (hy : Holds rd (a + x.length) y) : Holds rd a (x ++ y) := by
  unfold Holds at hx hy ⊢
  rw [List.length_append, ← slice_append, hx, hy]

theorem Holds.cons {rd : Nat → Nat} {a b : Nat} {bs : List Nat} (h : Holds rd a (b :: bs)) :
    rd a = b ∧ Holds rd (a + 1) bs := by
  unfold Holds at h ⊢
  rw [List.length_cons, slice_succ] at h
  exact List.cons.inj h

theorem chunkAt_prefix (p : Prov) (wa : Nat) (bs rest : List Nat) (hh : Holds p.rd (2 * wa) (bs ++ rest))
    (hl : bs.length ≤ p.cs) : ∃ tl, chunkAt p wa = bs ++ tl := by
  obtain ⟨k, hk⟩ : ∃ k, p.cs = bs.length + k := ⟨p.cs - bs.length, by omega⟩
  exact ⟨_, by rw [chunkAt, hk, ← slice_append, show slice p.rd (2 * wa) bs.length = bs from hh.append.1]⟩

end Ec.Eeprom
