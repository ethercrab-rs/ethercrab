/-
  C08: `coeLoop` and `eepromLoop` are one loop (`smLoop`) over two ways of finding a sync manager's bit length and
  FMMU entity. A successful run of it in the checking build is a pure fold (`purePass`) over the direction's sync
  managers ("jobs"); what the fold does to registers, offset and FMMU translation.
-/
import EcModel.Lemmas.ConfigBasic

namespace Ec.Config
open Ec

theorem enumFrom_idx {α : Type} (n : Nat) (l : List α) : (enumFrom n l).map (·.1) = List.range' n l.length := by
  induction l generalizing n with
  | nil => rfl
  | cons a rest ih => simp [enumFrom, ih, List.range'_succ]

theorem enumFrom_length {α : Type} (n : Nat) (l : List α) : (enumFrom n l).length = l.length := by
  simpa using congrArg List.length (enumFrom_idx n l)

theorem mem_enumFrom {α : Type} {n : Nat} {l : List α} {x : Nat × α} (h : x ∈ enumFrom n l) :
    n ≤ x.1 ∧ x.1 < n + l.length :=
  List.mem_range'_1.1 (enumFrom_idx n l ▸ List.mem_map_of_mem h)

theorem enumFrom_inj {α : Type} {n : Nat} {l : List α} {x y : Nat × α}
    (hx : x ∈ enumFrom n l) (hy : y ∈ enumFrom n l) (h : x.1 = y.1) : x = y := by
  induction l generalizing n with
  | nil => simp [enumFrom] at hx
  | cons a rest ih =>
    simp only [enumFrom, List.mem_cons] at hx hy
    rcases hx with rfl | hx <;> rcases hy with rfl | hy
    · rfl
    · have := mem_enumFrom hy; simp at h; omega
    · have := mem_enumFrom hx; simp at h; omega
    · exact ih hx hy

theorem enumFrom_nodup {α : Type} (n : Nat) (l : List α) : ((enumFrom n l).map (·.1)).Nodup :=
  enumFrom_idx n l ▸ List.nodup_range'

/-- One process-data sync manager being configured: index, description, byte length. -/
structure Job where
  i : Nat
  sm : SmDesc
  lb : Nat

/-- The `SyncManagerChannel` that `write_sm_config` sends. -/
def Job.cfg (j : Job) : SmReg :=
  { start := j.sm.start, len := j.lb, control := j.sm.control,
    enable := j.sm.enable % 2 == 1 && decide (j.lb > 0) }

def jobLens (jobs : List Job) : Nat := natSum (jobs.map (·.lb))

def jobWindows (jobs : List Job) : List (Nat × Nat) := jobs.map fun j => (j.sm.start, j.lb)

theorem jobLens_cons (j : Job) (rest : List Job) : jobLens (j :: rest) = j.lb + jobLens rest := rfl

theorem rangesLen_jobWindows (jobs : List Job) : rangesLen (jobWindows jobs) = jobLens jobs := by
  simp [rangesLen, jobWindows, jobLens, List.map_map, Function.comp_def]

/-- The FMMU that `write_fmmu_config` programs when the entity is not yet enabled. -/
def freshFmmu (off : Nat) (cfg : SmReg) (ty : Nat) : Fmmu :=
  { logicalStart := off, length := cfg.len, startBit := 0, endBit := 7, physStart := cfg.start, physBit := 0,
    readEn := ty == 4, writeEn := ty == 3, enable := true }

/-- What `write_fmmu_config` leaves in an entity. -/
def Fmmu.written (f : Fmmu) (off ty : Nat) (cfg : SmReg) : Fmmu :=
  if f.enable then { f with length := f.length + cfg.len } else freshFmmu off cfg ty

theorem writeFmmuConfig_regs {m : Mode} {r : Regs} {fi off ty : Nat} {cfg : SmReg} {p : Regs × Nat}
    (h : writeFmmuConfig m r fi off ty cfg = .ok p) :
    p.1 = r.setFmmu fi ((r.fmmu fi).written off ty cfg) ∧
      ((r.fmmu fi).enable = true → (r.fmmu fi).length + cfg.len < 65536) := by
  simp only [writeFmmuConfig, bind_eq_ok, Outcome.ok.injEq] at h
  obtain ⟨f, hf, _, _, rfl⟩ := h
  unfold Fmmu.written
  split at hf
  · simp only [bind_eq_ok, extendLen_ok, Outcome.ok.injEq] at hf
    obtain ⟨_, ⟨hlt, rfl⟩, rfl⟩ := hf
    exact ⟨by rw [if_pos ‹_›], fun _ => hlt⟩
  · cases hf
    exact ⟨by rw [if_neg ‹_›]; rfl, fun he => absurd he ‹_›⟩

theorem writeFmmuConfig_ok {r : Regs} {fi off ty : Nat} {cfg : SmReg} {p : Regs × Nat}
    (h : writeFmmuConfig .checked r fi off ty cfg = .ok p) :
    p = (r.setFmmu fi ((r.fmmu fi).written off ty cfg), off + cfg.len) := by
  have h1 := (writeFmmuConfig_regs h).1
  simp only [writeFmmuConfig, bind_eq_ok, increment_ok, Outcome.ok.injEq] at h
  obtain ⟨_, _, _, ⟨_, rfl⟩, rfl⟩ := h
  rw [← h1]

/-- `bits i`: bit length of sync manager `i`; `pick i bits`: its FMMU entity (`none`: no FMMU is written). -/
def smLoop (m : Mode) (ty : Nat) (bits : Nat → Out Nat) (pick : Nat → Nat → Out (Option Nat)) :
    List (Nat × SmDesc) → Regs → Nat → Out (Regs × Nat)
  | [], r, off => .ok (r, off)
  | (i, sm) :: rest, r, off =>
    if sm.usageType ≠ ty then smLoop m ty bits pick rest r off
    else
      bind (bits i) fun b =>
      bind (lenBytes b) fun lb =>
      bind (pick i b) fun fo =>
      match fo with
      | none => smLoop m ty bits pick rest (writeSmConfig r i sm lb).1 off
      | some fi =>
        bind (writeFmmuConfig m (writeSmConfig r i sm lb).1 fi off ty (writeSmConfig r i sm lb).2) fun p =>
          smLoop m ty bits pick rest p.1 p.2

def Device.pdos (d : Device) : Dir → List Pdo
  | .input => d.txPdos
  | .output => d.rxPdos

/-- `true`: CoE path. -/
def devBits (m : Mode) (d : Device) (dir : Dir) : Bool → Nat → Out Nat
  | true, i =>
    match d.coe i with
    | none => .err .sdo
    | some pdos => coeSmBitLen m d.oversampling 0 pdos
  | false, i => eepromSmBitLen m d.oversampling i 0 (d.pdos dir)

def devPick (d : Device) (dir : Dir) : Bool → Nat → Nat → Out (Option Nat)
  | true, _, b =>
    if b > 0 then
      match position dir.fmmuType d.fmmuUsage with
      | none => .err .notFoundFmmu
      | some fi => .ok (some fi)
    else .ok none
  | false, i, _ => .ok (some (eepromFmmuIndex d.fmmuEx i))

theorem coeLoop_eq (m : Mode) (d : Device) (dir : Dir) (L : List (Nat × SmDesc)) (r : Regs) (off : Nat) :
    coeLoop m d dir L r off = smLoop m dir.smType (devBits m d dir true) (devPick d dir true) L r off := by
  induction L generalizing r off with
  | nil => rfl
  | cons x rest ih =>
    obtain ⟨i, sm⟩ := x
    simp only [coeLoop, smLoop, devBits, devPick, ih]
    split
    · rfl
    · cases d.coe i with
      | none => rfl
      | some pdos =>
        simp only []
        congr 1; funext b; congr 1; funext lb
        split
        · cases position dir.fmmuType d.fmmuUsage <;> rfl
        · rfl

theorem eepromLoop_eq (m : Mode) (d : Device) (dir : Dir) (L : List (Nat × SmDesc)) (r : Regs) (off : Nat) :
    eepromLoop m d dir (d.pdos dir) L r off =
      smLoop m dir.smType (devBits m d dir false) (devPick d dir false) L r off := by
  induction L generalizing r off with
  | nil => rfl
  | cons x rest ih =>
    obtain ⟨i, sm⟩ := x
    simp only [eepromLoop, smLoop, devBits, devPick, ih]
    rfl

theorem configureFmmus_eq (m : Mode) (d : Device) (st : DevState) (off gs : Nat) (dir : Dir) :
    configureFmmus m d st off gs dir =
      if d.sms.length > 8 then .err .capacity
      else
        bind (smLoop m dir.smType (devBits m d dir st.hasCoe) (devPick d dir st.hasCoe) (enumFrom 0 d.sms)
          st.regs off) fun p =>
        bind (subWrap m USIZE off gs) fun s =>
        bind (subWrap m USIZE p.2 gs) fun e =>
        .ok (p.2, match dir with
          | .input => { st with regs := p.1, input := (s, e) }
          | .output => { st with regs := p.1, output := (s, e) }) := by
  unfold configureFmmus
  cases st.hasCoe
  · rw [← eepromLoop_eq]; cases dir <;> rfl
  · rw [← coeLoop_eq]; rfl

theorem passDir_cons {m : Mode} {dir : Dir} {gs off : Nat} {d : Device} {st : DevState}
    {rest : List (Device × DevState)} {res : Nat × List (Device × DevState)}
    (h : passDir m dir gs off ((d, st) :: rest) = .ok res) :
    ∃ off' st' q, configureFmmus m d st off gs dir = .ok (off', st') ∧
      passDir m dir gs off' rest = .ok q ∧ res = (q.1, (d, st') :: q.2) := by
  simp only [passDir, bind_eq_ok, Outcome.ok.injEq] at h
  obtain ⟨p, hp, q, hq, h⟩ := h
  exact ⟨p.1, p.2, q, hp, hq, h.symm⟩

/-- `init` writes sync managers only, with the two mailbox sizes. -/
theorem initDev_kept {I : Regs → Prop} (d : Device)
    (hI : ∀ {r i sm lb}, I r → lb = d.mailbox.recvSize ∨ lb = d.mailbox.sendSize → I (writeSmConfig r i sm lb).1)
    (h0 : I Regs.zero) : I (initDev d).regs := by
  have hl : ∀ (L : List (Nat × SmDesc)) (r : Regs) (rd : Bool), I r → I (mailboxLoop d.mailbox L r rd).1 := by
    intro L
    induction L with
    | nil => exact fun r rd hr => hr
    | cons x rest ih =>
      intro r rd hr
      simp only [mailboxLoop]
      split
      · exact ih _ _ (hI hr (.inl rfl))
      · split
        · exact ih _ _ (hI hr (.inr rfl))
        · exact ih _ _ hr
  unfold initDev configureMailboxSms
  split
  · exact h0
  · exact hl _ _ _ h0

/-- The registers after one job: its sync manager channel, and the FMMU entity `pick` names (`none`: no FMMU). -/
def Job.write (ty : Nat) (pick : Job → Option Nat) (j : Job) (r : Regs) (off : Nat) : Regs :=
  match pick j with
  | none => r.setSm j.i j.cfg
  | some fi => (r.setSm j.i j.cfg).setFmmu fi ((r.fmmu fi).written off ty j.cfg)

/-- A loop without failures. -/
def purePass (ty : Nat) (pick : Job → Option Nat) : List Job → Regs → Nat → Regs × Nat
  | [], r, off => (r, off)
  | j :: rest, r, off => purePass ty pick rest (j.write ty pick r off) (off + j.lb)

/-- The sync managers of type `ty` as jobs, with the byte lengths the bit lengths `spec` require. -/
def jobsFor (spec : Nat → Nat) (ty : Nat) (L : List (Nat × SmDesc)) : List Job :=
  (L.filter fun x => x.2.usageType == ty).map fun x => ⟨x.1, x.2, (spec x.1 + 7) / 8⟩

theorem jobsFor_cons_pos {spec : Nat → Nat} {ty i : Nat} {sm : SmDesc} {L : List (Nat × SmDesc)}
    (h : sm.usageType = ty) : jobsFor spec ty ((i, sm) :: L) = ⟨i, sm, (spec i + 7) / 8⟩ :: jobsFor spec ty L := by
  simp [jobsFor, List.filter, h]

theorem jobsFor_cons_neg {spec : Nat → Nat} {ty i : Nat} {sm : SmDesc} {L : List (Nat × SmDesc)}
    (h : sm.usageType ≠ ty) : jobsFor spec ty ((i, sm) :: L) = jobsFor spec ty L := by
  simp [jobsFor, List.filter, show (sm.usageType == ty) = false by simp [h]]

theorem smLoop_pure {ty : Nat} {bits : Nat → Out Nat} {pick : Nat → Nat → Out (Option Nat)} {spec : Nat → Nat}
    {ppick : Job → Option Nat} (hb : ∀ i b, bits i = .ok b → b = spec i)
    (hp : ∀ i sm b fo, pick i b = .ok fo →
      fo = ppick ⟨i, sm, (b + 7) / 8⟩ ∧ (fo = none → (b + 7) / 8 = 0))
    {L : List (Nat × SmDesc)} {r : Regs} {off : Nat} {res : Regs × Nat}
    (h : smLoop .checked ty bits pick L r off = .ok res) :
    (∀ j ∈ jobsFor spec ty L, ppick j = none → j.lb = 0) ∧ purePass ty ppick (jobsFor spec ty L) r off = res := by
  induction L generalizing r off with
  | nil => cases h; exact ⟨fun j hj => (nomatch hj), rfl⟩
  | cons x rest ih =>
    obtain ⟨i, sm⟩ := x
    simp only [smLoop] at h
    split at h
    · rw [jobsFor_cons_neg ‹_›]
      exact ih h
    · rw [jobsFor_cons_pos (Decidable.not_not.1 ‹_›)]
      simp only [bind_eq_ok, lenBytes_ok] at h
      obtain ⟨b, hbi, _, ⟨_, rfl⟩, fo, hfo, h⟩ := h
      obtain ⟨rfl, h0⟩ := hp i sm b fo hfo
      obtain rfl := hb i b hbi
      -- the registers and the offset after this sync manager are those after the job
      suffices hs : smLoop .checked ty bits pick rest (Job.write ty ppick ⟨i, sm, (spec i + 7) / 8⟩ r off)
          (off + (spec i + 7) / 8) = .ok res by
        obtain ⟨h3, h4⟩ := ih hs
        refine ⟨fun j hj => ?_, h4⟩
        rcases List.mem_cons.1 hj with rfl | hj
        · exact h0
        · exact h3 j hj
      unfold Job.write
      cases hpk : ppick ⟨i, sm, (spec i + 7) / 8⟩ with
      | none =>
        rw [hpk] at h h0
        rw [show off + (spec i + 7) / 8 = off by have := h0 rfl; omega]
        exact h
      | some fi =>
        rw [hpk] at h
        simp only [bind_eq_ok] at h
        obtain ⟨p, hw, h⟩ := h
        rw [writeFmmuConfig_ok hw] at h
        exact h

section
variable {ty : Nat} {pick : Job → Option Nat} {j : Job} {jobs : List Job} {r : Regs} {off k : Nat}

theorem Job.write_sm : (j.write ty pick r off).sm = (r.setSm j.i j.cfg).sm := by
  unfold Job.write; split <;> rfl

theorem Job.write_fmmu_other (h : pick j ≠ some k) :
    (j.write ty pick r off).fmmu k = r.fmmu k := by
  unfold Job.write
  split
  · rfl
  · rename_i fi e
    exact setFmmu_fmmu_other _ _ fun hk => h (by rw [e, hk])

theorem Job.write_fmmu_same (h : pick j = some k) :
    (j.write ty pick r off).fmmu k = (r.fmmu k).written off ty j.cfg := by
  unfold Job.write; rw [h]; exact setFmmu_fmmu_same _ _ _

theorem purePass_off :
    (purePass ty pick jobs r off).2 = off + jobLens jobs := by
  induction jobs generalizing r off with
  | nil => rfl
  | cons j rest ih => rw [purePass, ih, jobLens_cons, Nat.add_assoc]

theorem purePass_fmmu_frame (hk : ∀ j ∈ jobs, pick j ≠ some k) :
    (purePass ty pick jobs r off).1.fmmu k = r.fmmu k := by
  induction jobs generalizing r off with
  | nil => rfl
  | cons j rest ih =>
    rw [purePass, ih fun j' hj' => hk j' (by simp [hj']), Job.write_fmmu_other (hk j (by simp))]

theorem purePass_sm_frame (hk : k ∉ jobs.map (·.i)) :
    (purePass ty pick jobs r off).1.sm k = r.sm k := by
  induction jobs generalizing r off with
  | nil => rfl
  | cons j rest ih =>
    simp only [List.map, List.mem_cons, not_or] at hk
    rw [purePass, ih hk.2, Job.write_sm, setSm_sm_other _ _ hk.1]

theorem purePass_sm_at (hnd : (jobs.map (·.i)).Nodup) :
    ∀ j ∈ jobs, (purePass ty pick jobs r off).1.sm j.i = j.cfg := by
  induction jobs generalizing r off with
  | nil => intro j hj; simp at hj
  | cons j0 rest ih =>
    intro j hj
    simp only [List.map, List.nodup_cons] at hnd
    rw [purePass]
    rcases List.mem_cons.1 hj with rfl | hj
    · rw [purePass_sm_frame hnd.1, Job.write_sm, setSm_sm_same]
    · exact ih hnd.2 j hj

end

theorem Fmmu.hit_eq_some {f : Fmmu} {w : Bool} {a p : Nat} :
    f.hit w a = some p ↔ f.enable = true ∧ (if w then f.writeEn else f.readEn) = true ∧
      f.logicalStart ≤ a ∧ a < f.logicalStart + f.length ∧ p = f.physStart + (a - f.logicalStart) := by
  unfold Fmmu.hit
  by_cases h : f.enable = true ∧ (if w then f.writeEn else f.readEn) = true ∧ f.logicalStart ≤ a ∧
      a < f.logicalStart + f.length
  · rw [if_pos h, Option.some.injEq]
    exact ⟨fun e => ⟨h.1, h.2.1, h.2.2.1, h.2.2.2, e.symm⟩, fun e => e.2.2.2.2.symm⟩
  · rw [if_neg h]
    exact ⟨fun e => (by cases e), fun e => absurd ⟨e.1, e.2.1, e.2.2.1, e.2.2.2.1⟩ h⟩

/-- An entity can take a sync manager of direction `ty` at logical `off`, physical `s`: it is free, or it is
    one of that direction that ends — logically and physically — exactly there. -/
def Fmmu.Takes (f : Fmmu) (ty off s : Nat) : Prop :=
  f.enable = false ∨
    (f.readEn = (ty == 4) ∧ f.writeEn = (ty == 3) ∧ f.logicalStart + f.length = off ∧ f.physStart + f.length = s)

theorem dir_flag {ty : Nat} (hty : ty = 3 ∨ ty = 4) (w : Bool) :
    (if w then (ty == 3) else (ty == 4)) = true ↔ w = (ty == 3) := by
  rcases hty with rfl | rfl <;> cases w <;> decide

theorem seg_append {ls len n ps a p : Nat} :
    (ls ≤ a ∧ a < ls + (len + n) ∧ p = ps + (a - ls)) ↔
      (ls ≤ a ∧ a < ls + len ∧ p = ps + (a - ls)) ∨
      (ls + len ≤ a ∧ a < ls + len + n ∧ p = ps + len + (a - (ls + len))) := by
  constructor
  · rintro ⟨h1, h2, rfl⟩
    by_cases hlt : a < ls + len
    · exact .inl ⟨h1, hlt, rfl⟩
    · exact .inr ⟨Nat.le_of_not_lt hlt, Nat.add_assoc _ _ _ ▸ h2, by omega⟩
  · rintro (⟨h1, h2, rfl⟩ | ⟨h1, h2, rfl⟩)
    · exact ⟨h1, Nat.lt_of_lt_of_le h2 (Nat.add_le_add_left (Nat.le_add_right _ _) _), rfl⟩
    · exact ⟨Nat.le_trans (Nat.le_add_right _ _) h1, Nat.add_assoc _ _ _ ▸ h2, by omega⟩

theorem Fmmu.written_hit {f : Fmmu} {ty off : Nat} {cfg : SmReg} (hty : ty = 3 ∨ ty = 4)
    (h : f.Takes ty off cfg.start) (w : Bool) (a p : Nat) :
    (f.written off ty cfg).hit w a = some p ↔
      f.hit w a = some p ∨ (w = (ty == 3) ∧ off ≤ a ∧ a < off + cfg.len ∧ p = cfg.start + (a - off)) := by
  unfold Fmmu.written
  rw [Fmmu.hit_eq_some, Fmmu.hit_eq_some, ← dir_flag hty w]
  cases he : f.enable with
  | false =>
    rw [if_neg Bool.false_ne_true]
    exact ⟨fun h => .inr h.2, fun h => h.elim (fun h => Bool.noConfusion h.1) fun h => ⟨rfl, h⟩⟩
  | true =>
    obtain h | ⟨h1, h2, e1, e2⟩ := h
    · rw [he] at h; cases h
    · rw [← e1, ← e2]
      simp only [if_true, h1, h2, true_and, ← and_or_left]
      exact and_congr_right fun _ => seg_append

theorem Fmmu.written_takes {f : Fmmu} {ty off : Nat} {cfg : SmReg} (h : f.Takes ty off cfg.start) :
    (f.written off ty cfg).Takes ty (off + cfg.len) (cfg.start + cfg.len) := by
  unfold Fmmu.written
  cases he : f.enable with
  | false => exact .inr ⟨rfl, rfl, rfl, rfl⟩
  | true =>
    obtain h | ⟨h1, h2, h3, h4⟩ := h
    · rw [he] at h; cases h
    · exact .inr ⟨h1, h2, by simp only [if_true]; omega, by simp only [if_true]; omega⟩

/-- Logical byte `a` is translated to physical `p` by one of the first `cnt` entities. -/
def Translates (fm : Nat → Fmmu) (cnt : Nat) (w : Bool) (a p : Nat) : Prop :=
  ∃ k, k < cnt ∧ (fm k).hit w a = some p

/-- A pass of direction `ty` from logical `off` maps byte `a` to byte `p` of the jobs' sync managers. -/
def Window (ty : Nat) (jobs : List Job) (off : Nat) (w : Bool) (a p : Nat) : Prop :=
  w = (ty == 3) ∧ off ≤ a ∧ a < off + jobLens jobs ∧ physAt (jobWindows jobs) (a - off) = some p

/-- The window of a first range and the window of the rest, one range further on, are the window of all. -/
theorem window_cons {off lb R s a p : Nat} {W : Prop} {ws : List (Nat × Nat)} :
    (W ∧ off ≤ a ∧ a < off + lb ∧ p = s + (a - off)) ∨
      (W ∧ off + lb ≤ a ∧ a < off + lb + R ∧ physAt ws (a - (off + lb)) = some p) ↔
    (W ∧ off ≤ a ∧ a < off + (lb + R) ∧ physAt ((s, lb) :: ws) (a - off) = some p) := by
  simp only [physAt]
  constructor
  · rintro (⟨h1, h2, h3, rfl⟩ | ⟨h1, h2, h3, h4⟩)
    · exact ⟨h1, h2, Nat.lt_of_lt_of_le h3 (Nat.add_le_add_left (Nat.le_add_right _ _) _),
        if_pos ((Nat.sub_lt_iff_lt_add' h2).2 h3)⟩
    · refine ⟨h1, Nat.le_trans (Nat.le_add_right _ _) h2, Nat.add_assoc _ _ _ ▸ h3, ?_⟩
      rw [if_neg (Nat.not_lt.2 (Nat.le_sub_of_add_le' h2)), Nat.sub_sub]; exact h4
  · rintro ⟨h1, h2, h3, h4⟩
    by_cases hk : a - off < lb
    · rw [if_pos hk] at h4
      exact .inl ⟨h1, h2, (Nat.sub_lt_iff_lt_add' h2).1 hk, (Option.some.inj h4).symm⟩
    · rw [if_neg hk, Nat.sub_sub] at h4
      exact .inr ⟨h1, Nat.add_le_of_le_sub' h2 (Nat.not_lt.1 hk), (Nat.add_assoc _ _ _).symm ▸ h3, h4⟩

/-- The job's entity is among the first `cnt` and can take it at `off`; a job without entity is empty. -/
def Job.Ready (ty cnt : Nat) (pick : Job → Option Nat) (j : Job) (r : Regs) (off : Nat) : Prop :=
  match pick j with
  | none => j.lb = 0
  | some k => k < cnt ∧ (r.fmmu k).Takes ty off j.sm.start

/-- Every job of a pass is ready when its turn comes. -/
def Fits (ty cnt : Nat) (pick : Job → Option Nat) : List Job → Regs → Nat → Prop
  | [], _, _ => True
  | j :: rest, r, off => j.Ready ty cnt pick r off ∧ Fits ty cnt pick rest (j.write ty pick r off) (off + j.lb)

section
variable {ty cnt : Nat} {pick : Job → Option Nat} (hty : ty = 3 ∨ ty = 4)
include hty

theorem Job.write_translates {j : Job} {r : Regs} {off : Nat} (h : j.Ready ty cnt pick r off) (w : Bool) (a p : Nat) :
    Translates (j.write ty pick r off).fmmu cnt w a p ↔
      Translates r.fmmu cnt w a p ∨ (w = (ty == 3) ∧ off ≤ a ∧ a < off + j.lb ∧ p = j.sm.start + (a - off)) := by
  unfold Job.write
  unfold Job.Ready at h
  cases hp : pick j with
  | none =>
    rw [hp] at h
    exact ⟨.inl, fun h' => h'.elim id fun h' => by omega⟩
  | some k =>
    rw [hp] at h
    have hw := Fmmu.written_hit (cfg := j.cfg) hty h.2 w a p
    constructor
    · rintro ⟨k', hk', hh⟩
      by_cases e : k' = k
      · subst e
        rw [setFmmu_fmmu_same] at hh
        exact (hw.1 hh).imp (fun h' => ⟨k', hk', h'⟩) id
      · rw [setFmmu_fmmu_other _ _ e] at hh
        exact .inl ⟨k', hk', hh⟩
    · rintro (⟨k', hk', hh⟩ | h')
      · by_cases e : k' = k
        · subst e
          exact ⟨k', hk', by rw [setFmmu_fmmu_same]; exact hw.2 (.inl hh)⟩
        · exact ⟨k', hk', by rw [setFmmu_fmmu_other _ _ e]; exact hh⟩
      · exact ⟨k, h.1, by rw [setFmmu_fmmu_same]; exact hw.2 (.inr h')⟩

theorem purePass_translates {jobs : List Job} {r : Regs} {off : Nat} (h : Fits ty cnt pick jobs r off)
    (w : Bool) (a p : Nat) :
    Translates (purePass ty pick jobs r off).1.fmmu cnt w a p ↔
      Translates r.fmmu cnt w a p ∨ Window ty jobs off w a p := by
  unfold Window
  induction jobs generalizing r off with
  | nil => exact ⟨.inl, fun h' => h'.elim id fun h' => by have := h'.2.2.1; simp [jobLens, natSum] at this; omega⟩
  | cons j rest ih =>
    rw [purePass, ih h.2, Job.write_translates hty h.1, jobLens_cons, or_assoc]
    exact or_congr_right window_cons

end

/-- EEPROM path: FMMU number = sync manager number. -/
def ownEntity (j : Job) : Option Nat := some j.i

theorem own_fits {ty cnt : Nat} {jobs : List Job} {r : Regs} {off : Nat} (hnd : (jobs.map (·.i)).Nodup)
    (hd : ∀ j ∈ jobs, (r.fmmu j.i).enable = false) (hav : ∀ j ∈ jobs, j.i < cnt) :
    Fits ty cnt ownEntity jobs r off := by
  induction jobs generalizing r off with
  | nil => trivial
  | cons j0 rest ih =>
    simp only [List.map, List.nodup_cons] at hnd
    refine ⟨⟨hav j0 (by simp), .inl (hd j0 (by simp))⟩, ih hnd.2 (fun j hj => ?_) fun j hj => hav j (by simp [hj])⟩
    have hne : ownEntity j0 ≠ some j.i := fun e => hnd.1 (by rw [Option.some.inj e]; exact List.mem_map_of_mem hj)
    rw [Job.write_fmmu_other hne]
    exact hd j (by simp [hj])

/-- CoE path: the non-empty sync managers of a direction share the entity `fo`. -/
def sharedEntity (fo : Option Nat) (j : Job) : Option Nat := if j.lb = 0 then none else fo

theorem shared_fits {ty cnt : Nat} {fo : Option Nat} {jobs : List Job} {r : Regs} {off s : Nat}
    (hc : Contig s (jobWindows jobs)) (hfo : ∀ k, fo = some k → k < cnt ∧ (r.fmmu k).Takes ty off s)
    (hne : ∀ j ∈ jobs, sharedEntity fo j = none → j.lb = 0) : Fits ty cnt (sharedEntity fo) jobs r off := by
  induction jobs generalizing r off s with
  | nil => trivial
  | cons j rest ih =>
    have hne' : ∀ j' ∈ rest, sharedEntity fo j' = none → j'.lb = 0 := fun j' hj' => hne j' (by simp [hj'])
    simp only [jobWindows, List.map, Contig] at hc
    unfold Fits Job.Ready
    by_cases h0 : j.lb = 0
    · have hp : sharedEntity fo j = none := if_pos h0
      rw [if_pos h0] at hc
      rw [hp, h0]
      refine ⟨rfl, ih hc (fun k hk => ?_) hne'⟩
      rw [Job.write_fmmu_other (hp ▸ fun e => nomatch e : sharedEntity fo j ≠ some k)]
      exact hfo k hk
    · have hp : sharedEntity fo j = fo := if_neg h0
      rw [if_neg h0] at hc
      obtain ⟨rfl, hc⟩ := hc
      cases fo with
      | none => exact absurd (hne j (by simp) hp) h0
      | some k =>
        rw [hp]
        refine ⟨hfo k rfl, ih hc (fun k' hk' => ?_) hne'⟩
        cases hk'
        rw [Job.write_fmmu_same hp]
        exact ⟨(hfo k rfl).1, Fmmu.written_takes (cfg := j.cfg) (hfo k rfl).2⟩

end Ec.Config
