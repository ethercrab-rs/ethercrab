/-
  The slot table of EcModel.Tasks (C20) as a list: access, `findSlot`, `alloc`, and the pigeonhole
  argument that one slot per task is enough.
-/
import EcModel.Tasks

namespace Ec.Tasks

variable {α β : Type}

theorem slotAt_getElem {l : List (Option α)} {i : Nat} (hi : i < l.length) : slotAt l i = l[i] := by
  rw [slotAt, List.getD_eq_getElem?_getD, List.getElem?_eq_getElem hi]; rfl

theorem slotAt_lt {l : List (Option α)} {i : Nat} {e : α} (h : slotAt l i = some e) : i < l.length := by
  apply Classical.byContradiction
  intro hi
  rw [slotAt, List.getD_eq_getElem?_getD, List.getElem?_eq_none (Nat.le_of_not_lt hi)] at h
  cases h

theorem slotAt_set {l : List (Option α)} {j : Nat} (i : Nat) {v : Option α} (hj : j < l.length) :
    slotAt (l.set j v) i = if i = j then v else slotAt l i := by
  rw [slotAt, slotAt, List.getD_eq_getElem?_getD, List.getD_eq_getElem?_getD, List.getElem?_set]
  by_cases h : j = i
  · subst h; rw [if_pos rfl, if_pos hj, if_pos rfl]; rfl
  · rw [if_neg h, if_neg (Ne.symm h)]

theorem slotAt_set_some {l : List (Option α)} {j i : Nat} {v : Option α} {e : α} (hj : j < l.length)
    (h : slotAt (l.set j v) i = some e) : i = j ∧ v = some e ∨ i ≠ j ∧ slotAt l i = some e := by
  rw [slotAt_set i hj] at h
  by_cases hi : i = j
  · exact .inl ⟨hi, by rwa [if_pos hi] at h⟩
  · exact .inr ⟨hi, by rwa [if_neg hi] at h⟩

theorem slotAt_replicate (n i : Nat) : slotAt (List.replicate n (none : Option α)) i = none := by
  rw [slotAt, List.getD_eq_getElem?_getD, List.getElem?_replicate]
  split <;> rfl

theorem findSlotFrom_some {f : α → Option β} {l : List (Option α)} {o j : Nat} {e : α} {b : β}
    (h : findSlotFrom f l o = some (j, e, b)) : ∃ i, j = o + i ∧ slotAt l i = some e ∧ f e = some b := by
  fun_induction findSlotFrom f l o with
  | case1 => cases h
  | case2 r o ih =>
    obtain ⟨i, rfl, hi⟩ := ih h
    exact ⟨i + 1, by rw [Nat.add_assoc, Nat.add_comm 1], hi⟩
  | case3 r o a b' hb => cases h; exact ⟨0, rfl, rfl, hb⟩
  | case4 r o a hb ih =>
    obtain ⟨i, rfl, hi⟩ := ih h
    exact ⟨i + 1, by rw [Nat.add_assoc, Nat.add_comm 1], hi⟩

theorem findSlotFrom_none {f : α → Option β} {l : List (Option α)} {o : Nat}
    (h : findSlotFrom f l o = none) : ∀ i e, slotAt l i = some e → f e = none := by
  fun_induction findSlotFrom f l o with
  | case1 => intro i e hi; cases hi
  | case2 r o ih => intro i e hi; cases i with
    | zero => cases hi
    | succ i => exact ih h i e hi
  | case3 => cases h
  | case4 r o a hb ih => intro i e hi; cases i with
    | zero => cases hi; exact hb
    | succ i => exact ih h i e hi

theorem findSlot_some {f : α → Option β} {l : List (Option α)} {j : Nat} {e : α} {b : β}
    (h : findSlot f l = some (j, e, b)) : slotAt l j = some e ∧ f e = some b := by
  obtain ⟨i, rfl, hi⟩ := findSlotFrom_some h
  rwa [Nat.zero_add]

theorem findSlot_none {f : α → Option β} {l : List (Option α)} (h : findSlot f l = none) :
    ∀ i e, slotAt l i = some e → f e = none :=
  findSlotFrom_none h

theorem findSlot_isSome {f : α → Option β} {l : List (Option α)} {i : Nat} {e : α} {b : β}
    (hi : slotAt l i = some e) (hf : f e = some b) : ∃ r, findSlot f l = some r := by
  cases h : findSlot f l with
  | some r => exact ⟨r, rfl⟩
  | none => cases (findSlot_none h i e hi).symm.trans hf

theorem allocLoop_some {l : List (Option α)} {c fuel k c' : Nat} (h : allocLoop l c fuel = (some k, c')) :
    k < l.length ∧ slotAt l k = none := by
  fun_induction allocLoop l c fuel with
  | case1 => cases h
  | case2 c fuel k' hc => exact Option.some.inj (Prod.mk.inj h).1 ▸ ⟨hc.2, Option.isNone_iff_eq_none.1 hc.1⟩
  | case3 c fuel k' hc ih => exact ih h

theorem allocLoop_none {l : List (Option α)} {c fuel c' : Nat} (h : allocLoop l c fuel = (none, c')) :
    ∀ j, j < fuel → ¬ ((slotAt l ((c + j) % 256 % l.length)).isNone ∧ (c + j) % 256 % l.length < l.length) := by
  fun_induction allocLoop l c fuel with
  | case1 => intro j hj; cases hj
  | case2 => cases h
  | case3 c fuel k hc ih =>
    intro j hj
    cases j with
    | zero => exact hc
    | succ j =>
      have := ih h j (Nat.lt_of_succ_lt_succ hj)
      rwa [Nat.mod_add_mod, Nat.add_assoc, Nat.add_comm 1] at this

theorem allocLoop_full (l : List (Option α)) (c fuel : Nat) (hfull : ∀ i, i < l.length → slotAt l i ≠ none) :
    (allocLoop l c fuel).1 = none := by
  rcases h : allocLoop l c fuel with ⟨_ | k, c'⟩
  · rfl
  · exact absurd (allocLoop_some h).2 (hfull k (allocLoop_some h).1)

theorem exists_add_mod_eq (a : Nat) {n f : Nat} (hf : f < n) : ∃ d, d < n ∧ (a + d) % n = f := by
  have hn := Nat.zero_lt_of_lt hf
  have hlt := Nat.mod_lt a hn
  refine ⟨(f + (n - a % n)) % n, Nat.mod_lt _ hn, ?_⟩
  have : a + (f + (n - a % n)) = f + n * (a / n + 1) := by
    rw [Nat.mul_add, Nat.mul_one]
    have := Nat.div_add_mod a n
    generalize n * (a / n) = q at *
    generalize a % n = r at *
    omega
  rw [Nat.add_mod_mod, this, Nat.add_mul_mod_self_left, Nat.mod_eq_of_lt hf]

theorem mod_ne_of_sub_lt {a b n : Nat} (h : a < b) (hw : b - a < n) : b % n ≠ a % n :=
  fun e => Nat.sub_ne_zero_of_lt h ((Nat.mod_eq_of_lt hw).symm.trans (Nat.sub_mod_eq_zero_of_mod_eq e))

/-- Within `2n` consecutive values of the wrapping `u8` cursor every residue mod `n` occurs: within `n`
    steps if the cursor does not wrap on the way, else after the wrap, counting up from 0. -/
theorem cursor_covers (c : Nat) {n f : Nat} (hf : f < n) (hn : n ≤ 256) :
    ∃ j, j < 2 * n ∧ (c + j) % 256 % n = f := by
  simp only [← Nat.mod_add_mod c 256]
  have hc := Nat.mod_lt c (show 0 < 256 by decide)
  generalize c % 256 = c0 at *
  obtain ⟨d, hd, hdf⟩ := exists_add_mod_eq c0 hf
  by_cases hw : c0 + d < 256
  · exact ⟨d, Nat.lt_of_lt_of_le hd (Nat.le_mul_of_pos_left n (by decide)), by rw [Nat.mod_eq_of_lt hw, hdf]⟩
  · refine ⟨256 - c0 + f, by omega, ?_⟩
    rw [← Nat.add_assoc, Nat.add_sub_cancel' (Nat.le_of_lt hc), Nat.add_mod_left,
      Nat.mod_eq_of_lt (Nat.lt_of_lt_of_le hf hn), Nat.mod_eq_of_lt hf]

theorem inFlight_le (l : List (Option α)) : inFlight l ≤ l.length := List.countP_le_length

theorem inFlight_eq_length_iff (l : List (Option α)) :
    inFlight l = l.length ↔ ∀ i, i < l.length → slotAt l i ≠ none := by
  rw [inFlight, List.countP_eq_length]
  constructor
  · intro h i hi hn
    have := h _ (List.getElem_mem hi)
    rw [← slotAt_getElem hi, hn] at this
    cases this
  · intro h a ha
    obtain ⟨i, hi, rfl⟩ := List.getElem_of_mem ha
    rw [← slotAt_getElem hi]
    exact Option.isSome_iff_ne_none.2 (h i hi)

theorem inFlight_eq_length_of_full (l : List (Option α)) (h : ∀ i, i < l.length → slotAt l i ≠ none) :
    inFlight l = l.length :=
  (inFlight_eq_length_iff l).2 h

theorem exists_free_of_inFlight_lt {l : List (Option α)} (h : inFlight l < l.length) :
    ∃ f, f < l.length ∧ slotAt l f = none :=
  Classical.byContradiction fun hne =>
    Nat.ne_of_lt h ((inFlight_eq_length_iff l).2 fun i hi hn => hne ⟨i, hi, hn⟩)

theorem alloc_complete (l : List (Option α)) (c : Nat) (hfree : inFlight l < l.length) (hn : l.length ≤ 256) :
    ∃ k c', alloc l c = (some k, c') ∧ k < l.length ∧ slotAt l k = none := by
  obtain ⟨f, hf, hfn⟩ := exists_free_of_inFlight_lt hfree
  rcases hal : alloc l c with ⟨_ | k, c'⟩
  · obtain ⟨j, hj, hje⟩ := cursor_covers c hf hn
    refine absurd ⟨?_, ?_⟩ (allocLoop_none hal j hj) <;> rw [hje]
    · rw [hfn]; rfl
    · exact hf
  · exact ⟨k, c', rfl, allocLoop_some hal⟩

variable {Rq Rs : Type}

def tasksOf (l : List (Option (Entry Rq Rs))) : List Nat := l.filterMap (fun o => o.map Entry.task)

theorem tasksOf_length (l : List (Option (Entry Rq Rs))) : (tasksOf l).length = inFlight l := by
  rw [tasksOf, inFlight, List.length_filterMap_eq_countP]
  congr 1
  funext o
  cases o <;> rfl

theorem tasksOf_nodup {l : List (Option (Entry Rq Rs))}
    (huniq : ∀ i j ei ej, slotAt l i = some ei → slotAt l j = some ej → ei.task = ej.task → i = j) :
    (tasksOf l).Nodup := by
  rw [tasksOf, List.nodup_iff_pairwise_ne, List.pairwise_filterMap, List.pairwise_iff_getElem]
  intro i j hi hj hij b hb b' hb' heq
  obtain ⟨ei, hei, rfl⟩ := Option.map_eq_some_iff.1 hb
  obtain ⟨ej, hej, rfl⟩ := Option.map_eq_some_iff.1 hb'
  exact Nat.ne_of_lt hij (huniq i j ei ej (slotAt_getElem hi ▸ hei) (slotAt_getElem hj ▸ hej) heq)

theorem mem_tasksOf {l : List (Option (Entry Rq Rs))} {x : Nat} (hx : x ∈ tasksOf l) :
    ∃ i e, slotAt l i = some e ∧ e.task = x := by
  obtain ⟨o, ho, hox⟩ := List.mem_filterMap.1 hx
  obtain ⟨e, rfl, he⟩ := Option.map_eq_some_iff.1 hox
  obtain ⟨i, hi, hget⟩ := List.getElem_of_mem ho
  exact ⟨i, e, slotAt_getElem hi ▸ hget, he⟩

/-- Pigeonhole over the tasks below `m` other than `t`. -/
theorem inFlight_lt_tasks {l : List (Option (Entry Rq Rs))} {m t : Nat} (ht : t < m)
    (huniq : ∀ i j ei ej, slotAt l i = some ei → slotAt l j = some ej → ei.task = ej.task → i = j)
    (hb : ∀ i e, slotAt l i = some e → e.task < m ∧ e.task ≠ t) : inFlight l < m := by
  have hsub : tasksOf l ⊆ (List.range m).erase t := by
    intro x hx
    obtain ⟨i, e, hi, rfl⟩ := mem_tasksOf hx
    exact (List.Nodup.mem_erase_iff List.nodup_range).2 ⟨(hb i e hi).2, List.mem_range.2 (hb i e hi).1⟩
  have hle := List.Nodup.length_le_of_subset (tasksOf_nodup huniq) hsub
  rw [tasksOf_length, List.length_erase_of_mem (List.mem_range.2 ht), List.length_range] at hle
  exact Nat.lt_of_le_of_lt hle (Nat.pred_lt (Nat.ne_of_gt (Nat.zero_lt_of_lt ht)))

end Ec.Tasks
