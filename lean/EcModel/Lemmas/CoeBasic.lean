/-
  Helper lemmas for C15/C16: outcomes, views and decoders of `EcModel/Coe.lean`; the triage of `mailbox_write_read` as
  a function of the reply bytes (`triageB`), and the round trip with a device that answers (`mwr_answered`); what the
  decoders and the triage return: never a panic, and what a successful decode says about the length of the reply.
-/
import EcModel.Coe

namespace Ec.Coe
open Ec.Gen.Coe

/-- A property of an `if`: of the one branch, and of the other where the condition fails. For ladders of checks of which
    all but the last branch end the same way; what is known of the `if` is reverted into the property first. -/
@[elab_as_elim]
theorem ite_elim {α : Type} {motive : α → Prop} {c : Prop} [Decidable c] {a b : α} (pos : motive a)
    (neg : ¬ c → motive b) : motive (if c then a else b) := by
  split
  · exact pos
  · exact neg ‹_›

@[simp] theorem Res.bind_ok {α β : Type} (a : α) (f : α → Res β) : Res.bind (.ok a) f = f a := rfl
@[simp] theorem Res.bind_err {α β : Type} (e : Err) (f : α → Res β) : Res.bind (.err e) f = .err e := rfl
@[simp] theorem Res.bind_panic {α β : Type} (w : String) (f : α → Res β) : Res.bind (.panic w) f = .panic w := rfl

@[simp] theorem Res.isPanic_ok {α : Type} (a : α) : Res.isPanic (.ok a : Res α) = false := rfl
@[simp] theorem Res.isPanic_err {α : Type} (e : Err) : Res.isPanic (.err e : Res α) = false := rfl
@[simp] theorem Res.isPanic_panic {α : Type} (w : String) : Res.isPanic (.panic w : Res α) = true := rfl

theorem Res.bind_noPanic {α β : Type} {x : Res α} {f : α → Res β} (hx : Res.isPanic x = false)
    (hf : ∀ a, Res.isPanic (f a) = false) : Res.isPanic (Res.bind x f) = false := by
  cases x with
  | ok a => exact hf a
  | err e => rfl
  | panic w => cases hx

theorem Res.map_isPanic {α β : Type} (f : α → β) (x : Res α) : Res.isPanic (Res.map f x) = Res.isPanic x := by
  cases x <;> rfl

theorem Res.noPanic_iff {α : Type} (x : Res α) :
    Res.isPanic x = false ↔ (∃ a, x = .ok a) ∨ (∃ e, x = .err e) := by
  cases x <;> simp

theorem bind_ok_inv {α β : Type} {x : Res α} {f : α → Res β} {b : β} (h : Res.bind x f = .ok b) :
    ∃ a, x = .ok a ∧ f a = .ok b := by
  cases x with
  | ok a => exact ⟨a, rfl, h⟩
  | err e => cases h
  | panic w => cases h

/-- The view lies inside the reply area `[lo, hi)` of its frame buffer and ends exactly at its end. -/
def Pdu.Inside (p : Pdu) (lo hi : Nat) : Prop := lo ≤ p.start ∧ p.start + p.len = hi ∧ hi ≤ p.frame.length

theorem Pdu.trimFront_inside (p : Pdu) (lo hi ct : Nat) (h : p.Inside lo hi) : (p.trimFront ct).Inside lo hi := by
  obtain ⟨h1, h2, h3⟩ := h
  refine ⟨?_, ?_, h3⟩
  · show lo ≤ p.start + min ct p.len
    omega
  · show p.start + min ct p.len + (p.len - min ct p.len) = hi
    omega

theorem Pdu.trimFront_len (p : Pdu) (ct : Nat) : (p.trimFront ct).len = p.len - ct := by
  show p.len - min ct p.len = p.len - ct
  omega

theorem Pdu.bytes_length (p : Pdu) (h : p.start + p.len ≤ p.frame.length) : p.bytes.length = p.len := by
  simp only [Pdu.bytes, List.length_take, List.length_drop]
  omega

/-- `trim_front` on the view is `drop` on the bytes (this is what the fix of `trim_front` established), even for a
    view that reaches beyond its frame. -/
theorem Pdu.trimFront_bytes (p : Pdu) (ct : Nat) : (p.trimFront ct).bytes = p.bytes.drop ct := by
  simp only [Pdu.bytes, Pdu.trimFront]
  rw [List.drop_take]
  by_cases hc : ct ≤ p.len
  · rw [Nat.min_eq_left hc, List.drop_drop]
  · rw [Nat.min_eq_right (Nat.le_of_not_le hc), Nat.sub_self, Nat.sub_eq_zero_of_le (Nat.le_of_not_le hc), List.take_zero,
      List.take_zero]

theorem Pdu.trimFront_inFrame (p : Pdu) (ct : Nat) (hp : p.start + p.len ≤ p.frame.length) :
    (p.trimFront ct).start + (p.trimFront ct).len ≤ (p.trimFront ct).frame.length := by
  show p.start + min ct p.len + (p.len - min ct p.len) ≤ p.frame.length
  omega

theorem infoTrim_bytes (p : Pdu) (consumed : Bool) :
    (infoTrim p consumed).bytes =
      if !consumed then (p.bytes.drop LEN_ListResponse).drop 2 else p.bytes.drop LEN_ListResponse := by
  unfold infoTrim
  split
  · rw [Pdu.trimFront_bytes, Pdu.trimFront_bytes]
  · rw [Pdu.trimFront_bytes]

theorem infoTrim_inFrame (p : Pdu) (consumed : Bool) (hp : p.start + p.len ≤ p.frame.length) :
    (infoTrim p consumed).start + (infoTrim p consumed).len ≤ (infoTrim p consumed).frame.length := by
  unfold infoTrim
  split
  · exact Pdu.trimFront_inFrame _ _ (Pdu.trimFront_inFrame p _ hp)
  · exact Pdu.trimFront_inFrame p _ hp

theorem mkPdu_inside (cfg : Cfg) (img : List Nat) : (mkPdu cfg img).Inside cfg.pre.length (cfg.pre.length + img.length) := by
  refine ⟨Nat.le_refl _, rfl, ?_⟩
  simp [mkPdu]

theorem mkPdu_bytes (cfg : Cfg) (img : List Nat) : (mkPdu cfg img).bytes = img := by
  simp [mkPdu, Pdu.bytes]

theorem mkPdu_inFrame {cfg : Cfg} {img : List Nat} : (mkPdu cfg img).start + (mkPdu cfg img).len ≤ (mkPdu cfg img).frame.length := by
  simp [mkPdu]

theorem mkPdu_len (cfg : Cfg) (img : List Nat) : (mkPdu cfg img).len = img.length := rfl

/-- `triage` written on the reply bytes alone. -/
def triageB {ρ : Type} (unpackR : List Nat → Res ρ) (validate : Nat → Nat → Bool) (b : List Nat) :
    Res (ρ × List Nat) :=
  (unpackCoeHeaders b).bind fun ch =>
    if ch.2 == svcEmergency then
      (unpackEmergency (b.drop LEN_CoeHeadersRaw)).bind fun d => .err (.emergency d.1 d.2)
    else
      (unpackHeadersRaw b).bind fun h =>
        if h.command == cmdAbort then
          (unpackU32 (b.drop LEN_HeadersRaw)).bind fun code => .err (.aborted code h.address h.subIndex)
        else if h.header.mailboxType != mbxCoe || !validate h.address h.subIndex then
          .err (.responseInvalid h.address h.subIndex)
        else
          (unpackR b).bind fun r => .ok (r, b.drop LEN_HeadersRaw)

theorem triage_eq_bytes {ρ : Type} (cfg : Cfg) (u : List Nat → Res ρ) (v : Nat → Nat → Bool) (p : Pdu) :
    triage cfg u v p = triageB u v p.bytes := by
  simp only [triage, triageB, Pdu.trimFront_bytes]

/-- Client and device after a request that the device answered: the first message was taken out of the mailbox, the
    others wait in it. -/
def afterReply {σ : Type} (cfg : Cfg) (s : St σ) (d' : σ) (req : List Nat) (rest : List (List Nat)) : St σ :=
  { ctr := nextCounter s.ctr, dev := d', outq := rest, reqs := s.reqs ++ [image cfg.wmbx req],
    reads := s.reads + s.outq.length + 1 }

/-- `mailbox_write_read` when no more stale messages wait than are drained and the device answers the request: its
    first message is triaged. -/
theorem mwr_answered {σ ρ : Type} (w : World σ) (cfg : Cfg) (s : St σ) {d' : σ} {m : List Nat} {rest : List (List Nat)}
    (hm : cfg.hasMailbox = true) (hq : s.outq.length ≤ DRAIN_ROUNDS) {req : List Nat} (u : List Nat → Res ρ)
    (v : Nat → Nat → Bool) (hr : w.respond s.dev (image cfg.wmbx req) = (d', m :: rest)) :
    mailboxWriteRead w cfg req u v (mailboxCounter s).2 = (triageB u v (image cfg.rmbx m), afterReply cfg s d' req rest) := by
  unfold mailboxWriteRead
  rw [if_neg (by simp [hm])]
  have hdrop : s.outq.drop DRAIN_ROUNDS = [] := List.drop_eq_nil_of_le hq
  simp only [drainStale, writeRequest, readMailbox, mailboxCounter, hr, hdrop, List.nil_append, Nat.min_eq_right hq,
    triage_eq_bytes, mkPdu_bytes, afterReply]

theorem mailboxCounter_fst {σ : Type} (s : St σ) : (mailboxCounter s).1 = s.ctr := rfl

/-- Byte 5 of a CoE mailbox header with counter `c`: type 3 in the low nibble, the counter in bits 4..6. -/
theorem bits_type (c : Nat) : bitsOf (3 + 16 * (c % 8)) 0 4 = 3 := by
  show (3 + 16 * (c % 8)) / 1 % 16 = 3
  rw [Nat.div_one, Nat.add_mul_mod_self_left]

theorem bits_ctr (c : Nat) : bitsOf (3 + 16 * (c % 8)) 4 3 = c % 8 := by
  show (3 + 16 * (c % 8)) / 16 % 8 = c % 8
  rw [Nat.add_mul_div_left _ _ (by decide : 0 < 16), Nat.add_mod_mod]
  exact congrArg (· % 8) (Nat.zero_add c)

theorem image_length (mbx : Nat) (m : List Nat) : (image mbx m).length = mbx := by
  simp [image, zeros]; omega

theorem unpackMailboxHeader_noPanic (b : List Nat) : (unpackMailboxHeader b).isPanic = false := by
  unfold unpackMailboxHeader
  exact ite_elim rfl fun _ => ite_elim rfl fun _ => ite_elim rfl fun _ => rfl

theorem unpackService_noPanic (b : List Nat) : (unpackService b).isPanic = false := by
  unfold unpackService
  exact ite_elim rfl fun _ => rfl

theorem unpackCommand_noPanic (b : List Nat) : (unpackCommand b).isPanic = false := by
  unfold unpackCommand
  exact ite_elim rfl fun _ => rfl

theorem unpackCoeHeaders_noPanic (b : List Nat) : (unpackCoeHeaders b).isPanic = false := by
  unfold unpackCoeHeaders
  exact ite_elim rfl fun _ => Res.bind_noPanic (unpackMailboxHeader_noPanic _) fun _ =>
    Res.bind_noPanic (unpackService_noPanic _) fun _ => rfl

/-- The common part of the SDO decoders: mailbox header, service and command, then a value built from them. -/
theorem sdoHeaders_noPanic {α : Type} (a b : List Nat) (g : MbxHeader → Nat → Nat → α) :
    ((unpackMailboxHeader a).bind fun h => (unpackService b).bind fun svc => (unpackCommand b).bind fun cmd =>
      .ok (g h svc cmd)).isPanic = false :=
  Res.bind_noPanic (unpackMailboxHeader_noPanic _) fun _ => Res.bind_noPanic (unpackService_noPanic _) fun _ =>
    Res.bind_noPanic (unpackCommand_noPanic _) fun _ => rfl

theorem unpackHeadersRaw_noPanic (b : List Nat) : (unpackHeadersRaw b).isPanic = false := by
  unfold unpackHeadersRaw
  exact ite_elim rfl fun _ => sdoHeaders_noPanic _ _ _

theorem unpackSdoNormal_noPanic (b : List Nat) : (unpackSdoNormal b).isPanic = false := by
  unfold unpackSdoNormal
  exact ite_elim rfl fun _ => sdoHeaders_noPanic _ _ _

theorem unpackSdoExpedited_noPanic (b : List Nat) : (unpackSdoExpedited b).isPanic = false := by
  unfold unpackSdoExpedited
  exact ite_elim rfl fun _ => unpackSdoNormal_noPanic b

theorem unpackSdoSegmented_noPanic (b : List Nat) : (unpackSdoSegmented b).isPanic = false := by
  unfold unpackSdoSegmented
  exact ite_elim rfl fun _ => sdoHeaders_noPanic _ _ _

theorem unpackListResponse_noPanic (b : List Nat) : (unpackListResponse b).isPanic = false := by
  unfold unpackListResponse
  exact ite_elim rfl fun _ => Res.bind_noPanic (unpackMailboxHeader_noPanic _) fun _ =>
    Res.bind_noPanic (unpackService_noPanic _) fun _ => ite_elim rfl fun _ => rfl

theorem unpackU32_noPanic (b : List Nat) : (unpackU32 b).isPanic = false := by
  unfold unpackU32
  exact ite_elim rfl fun _ => rfl

theorem unpackEmergency_noPanic (b : List Nat) : (unpackEmergency b).isPanic = false := by
  unfold unpackEmergency
  exact ite_elim rfl fun _ => rfl

theorem getD_take {α : Type} (l : List α) (n i : Nat) (d : α) (h : i < n) : (l.take n).getD i d = l.getD i d := by
  simp [List.getD_eq_getElem?_getD, h]

theorem rd16_take (b : List Nat) (n : Nat) (h : 2 ≤ n) : rd16 (b.take n) = rd16 b := by
  unfold rd16
  rw [getD_take b n 0 0 (by omega), getD_take b n 1 0 (by omega)]

theorem unpackMailboxHeader_length {b : List Nat} {h : MbxHeader} (hh : unpackMailboxHeader b = .ok h) :
    h.length = rd16 b := by
  revert hh
  unfold unpackMailboxHeader
  refine ite_elim nofun fun _ => ite_elim nofun fun _ => ite_elim nofun fun _ hh => ?_
  cases hh
  rfl

theorem unpackHeadersRaw_length {b : List Nat} {h : HeadersRaw} (hh : unpackHeadersRaw b = .ok h) :
    LEN_HeadersRaw ≤ b.length := by
  revert hh
  unfold unpackHeadersRaw
  exact ite_elim nofun fun hlen _ => Nat.le_of_not_gt hlen

theorem unpackSdoSegmented_length (b : List Nat) (h : SdoSegmented) (hh : unpackSdoSegmented b = .ok h) :
    h.header.length = rd16 b := by
  revert hh
  unfold unpackSdoSegmented
  refine ite_elim nofun fun _ hh => ?_
  obtain ⟨mh, h1, hh⟩ := bind_ok_inv hh
  obtain ⟨sv, _, hh⟩ := bind_ok_inv hh
  obtain ⟨cm, _, hh⟩ := bind_ok_inv hh
  cases hh
  exact (unpackMailboxHeader_length h1).trans (rd16_take b _ (by decide))

theorem unpackListResponse_length (b : List Nat) (h : ListResponse) (hh : unpackListResponse b = .ok h) :
    h.mailbox.length = rd16 b ∧ LEN_ListResponse ≤ b.length := by
  revert hh
  unfold unpackListResponse
  refine ite_elim nofun fun hlen hh => ?_
  obtain ⟨mh, h1, hh⟩ := bind_ok_inv hh
  obtain ⟨sv, _, hh⟩ := bind_ok_inv hh
  revert hh
  refine ite_elim nofun fun _ hh => ?_
  cases hh
  exact ⟨(unpackMailboxHeader_length h1).trans (rd16_take b _ (by decide)), Nat.le_of_not_gt hlen⟩

theorem triageB_noPanic {ρ : Type} {u : List Nat → Res ρ} {v : Nat → Nat → Bool} {b : List Nat}
    (hu : ∀ b, Res.isPanic (u b) = false) : Res.isPanic (triageB u v b) = false := by
  unfold triageB
  refine Res.bind_noPanic (unpackCoeHeaders_noPanic _) fun _ => ?_
  refine ite_elim (Res.bind_noPanic (unpackEmergency_noPanic _) fun _ => rfl) fun _ => ?_
  refine Res.bind_noPanic (unpackHeadersRaw_noPanic _) fun _ => ?_
  refine ite_elim (Res.bind_noPanic (unpackU32_noPanic _) fun _ => rfl) fun _ => ?_
  exact ite_elim rfl fun _ => Res.bind_noPanic (hu _) fun _ => rfl

theorem triageB_ok {ρ : Type} {u : List Nat → Res ρ} {v : Nat → Nat → Bool} {b : List Nat} {r : ρ}
    {data : List Nat} (h : triageB u v b = .ok (r, data)) :
    u b = .ok r ∧ data = b.drop LEN_HeadersRaw ∧ LEN_HeadersRaw ≤ b.length := by
  unfold triageB at h
  obtain ⟨ch, _, h⟩ := bind_ok_inv h
  revert h
  refine ite_elim (fun h => ?_) fun _ h => ?_
  · obtain ⟨_, _, h⟩ := bind_ok_inv h; cases h
  obtain ⟨hd, hh, h⟩ := bind_ok_inv h
  revert h
  refine ite_elim (fun h => ?_) fun _ => ite_elim nofun fun _ h => ?_
  · obtain ⟨_, _, h⟩ := bind_ok_inv h; cases h
  obtain ⟨r', hr, h⟩ := bind_ok_inv h
  cases h
  exact ⟨hr, rfl, unpackHeadersRaw_length hh⟩

end Ec.Coe
