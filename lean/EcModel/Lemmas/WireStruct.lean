/-
  Derived structs (C19): what `parse_struct` guarantees about accepted layouts, specification vocabulary
  (`fieldEnc`, `extractBits`, `fieldsBit`, …) and the invariant of the generated write code.
-/
import EcModel.Lemmas.WireCodecs

namespace Ec.Wire

/-- The encoding of one field as the generated code obtains it: `self.f as u8` for `u8`/`bool` fields,
    `pack_to_slice_unchecked` of the field's type otherwise. -/
def fieldEnc (f : FieldMeta) (v : Val) : List Nat :=
  if f.ty.isU8OrBool then
    match asU8 v with
    | some x => [x]
    | none => []
  else
    match f.codec.enc v with
    | .ok bs => bs
    | _ => []

/-- Bits `[s, s + w)` of `buf` (little-endian bit order) as `⌈w/8⌉` bytes. -/
def extractBits (buf : List Nat) (s w : Nat) : List Nat :=
  leBytes ((w + 7) / 8) (leVal buf / 2 ^ s % 2 ^ w)

/-- How a field's value is obtained from the bytes holding its bits (zero-extended). -/
def decodeField (f : FieldMeta) (fb : List Nat) : Out Val :=
  if f.bitsLen ≤ 8 then
    if f.ty = .bool then .ok (.bool (decide (fb.getD 0 0 > 0)))
    else if f.ty = .u8 then .ok (.int (fb.getD 0 0))
    else f.codec.dec fb
  else f.codec.dec fb

/-- Specification of the derived `unpack_from_slice` body: every non-skipped field is decoded from the bits
    `[bit_start, bit_end)` of the buffer; first error wins. -/
def readFieldsSpec : List FieldMeta → List Nat → Out (List Val)
  | [], _ => .ok []
  | f :: fs, buf =>
    bindO (if f.skip then .ok .dflt else decodeField f (extractBits buf f.bitStart f.bitsLen)) fun v =>
    bindO (readFieldsSpec fs buf) fun vs => .ok (v :: vs)

/-- Bit `k` of the struct image according to the declared layout. -/
def fieldsBit : List FieldMeta → List Val → Nat → Bool
  | f :: fs, v :: vs, k =>
    (!f.skip && decide (f.bitStart ≤ k) && decide (k < f.bitEnd) && bitAt (fieldEnc f v) (k - f.bitStart))
      || fieldsBit fs vs k
  | _, _, _ => false

/-- Shape of a non-skipped field of an accepted layout: either it lies within one byte, or it is byte aligned at
    both ends and longer than one byte. -/
structure FieldMeta.Shaped (f : FieldMeta) : Prop where
  le : f.bitStart ≤ f.bitEnd
  byteStart_eq : f.byteStart = f.bitStart / 8
  byteEnd_eq : f.byteEnd = (f.bitEnd + 7) / 8
  off_eq : f.bitOffset = f.bitStart % 8
  small_or_big : (f.bitsLen ≤ 8 ∧ f.bitOffset + f.bitsLen ≤ 8 ∧ f.bytesLen ≤ 1) ∨
    (f.bitOffset = 0 ∧ f.bitsLen % 8 = 0 ∧ 8 < f.bitsLen ∧ 1 < f.bytesLen)

/-- Non-skipped fields occupy increasing, disjoint bit ranges between the cursor `c` and the end `e`. -/
def Chain : List FieldMeta → Nat → Nat → Prop
  | [], c, e => c ≤ e
  | f :: fs, c, e => if f.skip then Chain fs c e else c ≤ f.bitStart ∧ f.Shaped ∧ Chain fs f.bitEnd e

theorem Chain.cons {f : FieldMeta} {fs : List FieldMeta} {c e : Nat} (h : Chain (f :: fs) c e) :
    (f.skip = true ∧ Chain fs c e) ∨ (f.skip = false ∧ c ≤ f.bitStart ∧ f.Shaped ∧ Chain fs f.bitEnd e) := by
  unfold Chain at h
  split at h
  · exact Or.inl ⟨‹_›, h⟩
  · exact Or.inr ⟨Bool.eq_false_iff.mpr ‹_›, h⟩

theorem Chain.mono : ∀ {fs : List FieldMeta} {c c' e : Nat}, Chain fs c e → c' ≤ c → Chain fs c' e
  | [], _, _, _, h, hc => Nat.le_trans hc h
  | f :: fs, c, c', e, h, hc => by
    unfold Chain
    rcases h.cons with ⟨hs, h⟩ | ⟨hs, hc', hsh, hr⟩
    · rw [if_pos hs]
      exact h.mono hc
    · rw [if_neg (Bool.eq_false_iff.mp hs)]
      exact ⟨Nat.le_trans hc hc', hsh, hr⟩

theorem Chain.le : ∀ {fs : List FieldMeta} {c e : Nat}, Chain fs c e → c ≤ e
  | [], _, _, h => h
  | f :: fs, c, e, h => by
    rcases h.cons with ⟨_, h⟩ | ⟨_, hc, hsh, hr⟩
    · exact h.le
    · exact Nat.le_trans hc (Nat.le_trans hsh.le hr.le)

theorem Chain.mem_bounds : ∀ {fs : List FieldMeta} {c e : Nat}, Chain fs c e → ∀ f ∈ fs, f.skip = false →
    c ≤ f.bitStart ∧ f.bitStart ≤ f.bitEnd ∧ f.bitEnd ≤ e ∧ f.Shaped
  | g :: fs, c, e, h, f, hf, hs => by
    rcases h.cons with ⟨hg, h⟩ | ⟨_, hc, hsh, hr⟩ <;> rcases List.mem_cons.mp hf with rfl | hf'
    · rw [hg] at hs; cases hs
    · exact h.mem_bounds f hf' hs
    · exact ⟨hc, hsh.le, hr.le, hsh⟩
    · have ih := hr.mem_bounds f hf' hs
      exact ⟨Nat.le_trans hc (Nat.le_trans hsh.le ih.1), ih.2⟩

theorem fieldsBit_undeclared : ∀ (fs : List FieldMeta) (vs : List Val) (k : Nat),
    (∀ f ∈ fs, f.skip = false → ¬ (f.bitStart ≤ k ∧ k < f.bitEnd)) → fieldsBit fs vs k = false
  | [], _, _, _ => rfl
  | _ :: _, [], _, _ => rfl
  | f :: fs, v :: vs, k, h => by
    obtain ⟨hf, hfs⟩ := List.forall_mem_cons.mp h
    simp only [fieldsBit]
    rw [fieldsBit_undeclared fs vs k hfs]
    by_cases hs : f.skip = true
    · simp [hs]
    · have := hf (by simpa using hs)
      by_cases h1 : f.bitStart ≤ k <;> by_cases h2 : k < f.bitEnd <;> simp [h1, h2]
      exact absurd ⟨h1, h2⟩ this

theorem fieldsBit_below {fs : List FieldMeta} {c e k : Nat} (vs : List Val) (hch : Chain fs c e) (hk : k < c) :
    fieldsBit fs vs k = false :=
  fieldsBit_undeclared fs vs k fun f hf hs h => by
    have := (hch.mem_bounds f hf hs).1
    omega

theorem fieldsBit_at_field : ∀ (fs : List FieldMeta) (vs : List Val) (c e : Nat), Chain fs c e →
    ∀ (i : Nat) (hi : i < fs.length), fs[i].skip = false → ∀ v, vs[i]? = some v → ∀ j, j < fs[i].bitsLen →
      fieldsBit fs vs (fs[i].bitStart + j) = bitAt (fieldEnc fs[i] v) j
  | [], _, _, _, _, _, hi, _, _, _, _, _ => by cases hi
  | _ :: _, [], _, _, _, _, _, _, _, hv, _, _ => by cases hv
  | f :: fs, v0 :: vs, c, e, hch, i, hi, hs, v, hv, j, hj => by
    unfold fieldsBit
    cases i with
    | zero =>
      simp only [List.getElem_cons_zero] at hs hj ⊢
      cases hv
      rcases hch.cons with ⟨hsk, _⟩ | ⟨_, _, hsh, hrest⟩
      · rw [hs] at hsk; cases hsk
      · have h1 : f.bitStart + j < f.bitEnd := by have := hsh.le; unfold FieldMeta.bitsLen at hj; omega
        simp [hs, h1, fieldsBit_below vs hrest h1]
    | succ i =>
      simp only [List.getElem_cons_succ] at hs hj ⊢
      have hi' : i < fs.length := Nat.lt_of_succ_lt_succ hi
      have ih := fun c' (h : Chain fs c' e) => fieldsBit_at_field fs vs c' e h i hi' hs v hv j hj
      rcases hch.cons with ⟨hsk, hch⟩ | ⟨_, _, hsh, hrest⟩
      · rw [ih c hch, hsk]
        rfl
      · -- the field lies behind the head's range
        have := (hrest.mem_bounds _ (List.getElem_mem hi') hs).1
        rw [ih _ hrest, decide_eq_false (by omega : ¬ fs[i].bitStart + j < f.bitEnd)]
        simp

/-- Layout/type consistency the macro cannot check (it does not know the size of a field's type): a non-`u8`/`bool`
    field of at most 8 bits has a one-byte type, a multi-byte field's type is not longer than its slot. -/
def FieldMeta.slotFits (f : FieldMeta) : Bool :=
  f.skip || (if f.bitsLen ≤ 8 then f.ty.isU8OrBool || f.codec.len == 1 else decide (f.codec.len ≤ f.bytesLen))

/-- What the struct theorems need of one field besides its place in the chain: at least one bit wide, a lawful type that
    is not longer than the slot, and a mask the macro can compute in `u16` (`deriveWriteOk`). -/
structure FieldGood (f : FieldMeta) : Prop where
  pos : f.skip = false → 0 < f.bitsLen
  lawful : Lawful f.codec
  fits : f.slotFits = true
  gen : f.skip = false → f.ty.isU8OrBool = true → f.bitsLen < 16

/-- The alignment check of parse_struct ("Multibyte fields must be byte-aligned at start and end") alone gives the shape. -/
theorem mkFieldMeta_shaped (d : FieldDecl) (s w : Nat)
    (h : ¬((mkFieldMeta d s (s + w)).bytesLen > 1 ∧ ((mkFieldMeta d s (s + w)).bitOffset > 0 ∨ w % 8 > 0))) :
    (mkFieldMeta d s (s + w)).Shaped := by
  refine ⟨Nat.le_add_right .., rfl, rfl, rfl, ?_⟩
  simp only [FieldMeta.bytesLen, FieldMeta.bitsLen, mkFieldMeta, Nat.add_sub_cancel_left] at h ⊢
  by_cases hb : (s + w + 7) / 8 - s / 8 > 1
  · have ha := not_or.mp fun h' => h ⟨hb, h'⟩
    have h1 := Nat.eq_zero_of_not_pos ha.1
    have h2 := Nat.eq_zero_of_not_pos ha.2
    exact Or.inr ⟨h1, h2, by omega, hb⟩
  · have : s % 8 + w ≤ 8 := by omega
    exact Or.inl ⟨Nat.le_trans (Nat.le_add_left ..) this, this, Nat.le_of_not_gt hb⟩

theorem bitWidthAttr_error {bits bytes : Option Nat} {e : ParseError} (h : bitWidthAttr bits bytes = .error e) :
    e = .bitsAndBytes := by
  unfold bitWidthAttr at h
  dsimp only at h
  split at h
  · exact (Except.error.inj h).symm
  · cases h

/-- One iteration of parse_struct's field loop. What it returns when it accepts; and its second validity check ("Fields
    smaller than 8 bits may not cross byte boundaries") is dead code: whenever it would fire, the alignment check before
    it has fired already. -/
theorem parseField_inv (d : FieldDecl) (total : Nat) :
    match parseField d total with
    | .ok (fm, t') => fm.skip = d.skip ∧ fm.ty = d.ty ∧ fm.codec = d.codec ∧ total ≤ t' ∧
        (d.skip = false → total ≤ fm.bitStart ∧ fm.Shaped ∧ fm.bitEnd ≤ t')
    | .error e => e ≠ .smallCrosses := by
  unfold parseField
  cases hw : bitWidthAttr d.bits d.bytes with
  | error e => rw [bitWidthAttr_error hw]; exact nofun
  | ok w0 =>
    dsimp only
    by_cases hs : d.skip = true
    · cases w0.orElse fun _ => autoWidth d.ty <;> dsimp only <;> rw [if_pos hs] <;>
        exact ⟨rfl, rfl, rfl, by omega, fun h' => absurd h' (by rw [hs]; exact nofun)⟩
    cases w0.orElse fun _ => autoWidth d.ty with
    | none => dsimp only; rw [if_neg hs]; exact nofun
    | some w =>
      dsimp only
      rw [if_neg hs]
      by_cases hA : (mkFieldMeta d (total + d.preSkipBits) (total + d.preSkipBits + w)).bytesLen > 1 ∧
          ((mkFieldMeta d (total + d.preSkipBits) (total + d.preSkipBits + w)).bitOffset > 0 ∨ w % 8 > 0)
      · rw [if_pos hA]; exact nofun
      have hsh := mkFieldMeta_shaped d _ _ hA
      rw [if_neg hA, if_neg (by rcases hsh.small_or_big with h | h <;> omega)]
      exact ⟨rfl, rfl, rfl, by omega, fun _ => ⟨by simp only [mkFieldMeta]; omega, hsh, by simp only [mkFieldMeta]; omega⟩⟩

theorem parseFields_inv : ∀ (ds : List FieldDecl) (total : Nat),
    match parseFields ds total with
    | .ok (ms, tot) => Chain ms total tot ∧ ms.map (·.codec) = ds.map (·.codec)
    | .error e => e ≠ .smallCrosses
  | [], total => ⟨Nat.le_refl _, rfl⟩
  | d :: rest, total => by
    unfold parseFields
    have h1 := parseField_inv d total
    cases hf : parseField d total with
    | error e => rw [hf] at h1; exact h1
    | ok p =>
      obtain ⟨fm, total'⟩ := p
      rw [hf] at h1
      have h2 := parseFields_inv rest total'
      dsimp only at h1 ⊢
      cases hr : parseFields rest total' with
      | error e => rw [hr] at h2; exact h2
      | ok q =>
        obtain ⟨ms, tot⟩ := q
        rw [hr] at h2
        obtain ⟨hsk, _, hco, hle, hns⟩ := h1
        refine ⟨?_, by rw [List.map_cons, List.map_cons, hco, h2.2]⟩
        unfold Chain
        split
        · exact h2.1.mono hle
        · rename_i hs
          obtain ⟨a, b, c⟩ := hns (by rw [← hsk]; simpa using hs)
          exact ⟨a, b, h2.1.mono c⟩

theorem parseStruct_inv (d : StructDecl) :
    match parseStruct d with
    | .ok m => parseFields d.fields 0 = .ok (m.fields, m.widthBits)
    | .error e => e ≠ .smallCrosses := by
  unfold parseStruct
  cases hw : bitWidthAttr d.bits d.bytes with
  | error e => rw [bitWidthAttr_error hw]; exact nofun
  | ok w =>
    cases w with
    | none => exact nofun
    | some width =>
      dsimp only
      by_cases hn : (!d.named) = true
      · rw [if_pos hn]; exact nofun
      rw [if_neg hn]
      have h := parseFields_inv d.fields 0
      cases hp : parseFields d.fields 0 with
      | error e => rw [hp] at h; exact h
      | ok q =>
        obtain ⟨ms, total⟩ := q
        dsimp only
        by_cases ht : total ≠ width
        · rw [if_pos ht]; exact nofun
        · rw [if_neg ht, Decidable.not_not.mp ht]

theorem parseStruct_ok {d : StructDecl} {m : StructMeta} (h : parseStruct d = .ok m) :
    parseFields d.fields 0 = .ok (m.fields, m.widthBits) := by
  have := parseStruct_inv d
  rwa [h] at this

theorem parseStruct_chain {d : StructDecl} {m : StructMeta} (h : parseStruct d = .ok m) :
    Chain m.fields 0 m.widthBits := by
  have := parseFields_inv d.fields 0
  rw [parseStruct_ok h] at this
  exact this.1

theorem FieldMeta.Shaped.start_eq {f : FieldMeta} (hsh : f.Shaped) : f.bitStart = 8 * f.byteStart + f.bitOffset := by
  rw [hsh.byteStart_eq, hsh.off_eq, Nat.div_add_mod]

theorem FieldMeta.Shaped.small_facts {f : FieldMeta} (hsh : f.Shaped) (hpos : 0 < f.bitsLen) (hs : f.bitsLen ≤ 8) :
    f.bitStart = 8 * f.byteStart + f.bitOffset ∧ f.bitEnd = f.bitStart + f.bitsLen ∧
      f.bitOffset + f.bitsLen ≤ 8 ∧ f.bytesLen = 1 := by
  have h0 := hsh.start_eq
  have h1 : f.bitEnd = f.bitStart + f.bitsLen := (Nat.add_sub_cancel' hsh.le).symm
  have h2 := hsh.byteEnd_eq
  rcases hsh.small_or_big with h | h
  · refine ⟨h0, h1, h.2.1, ?_⟩
    have := h.2.2
    unfold FieldMeta.bytesLen at this ⊢
    omega
  · omega

theorem FieldMeta.Shaped.big_facts {f : FieldMeta} (hsh : f.Shaped) (hs : 8 < f.bitsLen) :
    f.bitStart = 8 * f.byteStart ∧ f.bitEnd = 8 * f.byteEnd ∧ f.byteStart < f.byteEnd ∧ f.bytesLen ≠ 1 ∧
      f.bitOffset = 0 ∧ f.bitsLen = 8 * (f.byteEnd - f.byteStart) := by
  have h0 := hsh.start_eq
  have h1 : f.bitEnd = f.bitStart + f.bitsLen := (Nat.add_sub_cancel' hsh.le).symm
  have h2 := hsh.byteEnd_eq
  rcases hsh.small_or_big with h | h
  · omega
  · obtain ⟨o, m, _, b⟩ := h
    unfold FieldMeta.bytesLen at b ⊢
    omega

/-- The single-byte OR-merge of generate_struct_write, bitwise. -/
theorem write_small_bits {f : FieldMeta} {buf : List Nat} (x : Nat)
    (hsh : f.Shaped) (hpos : 0 < f.bitsLen) (hs : f.bitsLen ≤ 8) (hlen : f.byteStart < buf.length)
    (hb : AllBytes buf) :
    let buf' := buf.set f.byteStart (buf.getD f.byteStart 0 ||| (((x <<< f.bitOffset) % 256) &&& f.mask))
    buf'.length = buf.length ∧ AllBytes buf' ∧
      ∀ k, bitAt buf' k = (bitAt buf k ||
        (decide (f.bitStart ≤ k) && decide (k < f.bitEnd) && bitAt [x] (k - f.bitStart))) := by
  obtain ⟨e1, e2, e3, _⟩ := hsh.small_facts hpos hs
  refine ⟨List.length_set, allBytes_set hb _ _ (or_lt_256 (allBytes_getD hb _) (mod_and_lt_256 _ _)), fun k => ?_⟩
  rw [bitAt_set _ _ hlen]
  by_cases hk : k / 8 = f.byteStart
  · -- inside the byte: `k = 8 * byteStart + i`
    obtain ⟨i, hi, rfl⟩ : ∃ i, i < 8 ∧ k = 8 * f.byteStart + i :=
      ⟨k % 8, Nat.mod_lt _ (by decide), by rw [← hk, Nat.div_add_mod]⟩
    rw [if_pos hk, Nat.mul_add_mod, Nat.mod_eq_of_lt hi, Nat.testBit_or, FieldMeta.mask, testBit_shl_mask _ _ _ _ e3,
      bitAt_mul_add buf _ hi, e2, e1, Nat.add_sub_add_left, Nat.add_assoc,
      bitAt_singleton _ _ (Nat.lt_of_le_of_lt (Nat.sub_le ..) hi)]
    simp only [Nat.add_le_add_iff_left, Nat.add_lt_add_iff_left]
  · have : ¬ (f.bitStart ≤ k ∧ k < f.bitEnd) := fun h => hk (Nat.div_eq_of_lt_le (by omega) (by omega))
    rw [if_neg hk, ← Bool.decide_and, decide_eq_false this, Bool.false_and, Bool.or_false]

theorem splice_length {buf enc : List Nat} {a b : Nat} (hab : a ≤ b) (hb : b ≤ buf.length) (he : enc.length ≤ b - a) :
    (buf.take a ++ (enc ++ (slice buf a b).drop enc.length) ++ buf.drop b).length = buf.length := by
  simp only [List.length_append, List.length_take, List.length_drop, slice_length hb]
  omega

/-- The byte-aligned delegation of generate_struct_write, bitwise. -/
theorem write_big_bits {f : FieldMeta} {buf encb : List Nat}
    (hsh : f.Shaped) (hbig : 8 < f.bitsLen) (hlen : f.byteEnd ≤ buf.length) (hb : AllBytes buf)
    (hz : ∀ k, f.bitStart ≤ k → bitAt buf k = false)
    (henc : AllBytes encb) (hfit : encb.length ≤ f.byteEnd - f.byteStart) :
    let buf' := buf.take f.byteStart ++ (encb ++ (slice buf f.byteStart f.byteEnd).drop encb.length) ++ buf.drop f.byteEnd
    buf'.length = buf.length ∧ AllBytes buf' ∧
      ∀ k, bitAt buf' k = (bitAt buf k ||
        (decide (f.bitStart ≤ k) && decide (k < f.bitEnd) && bitAt encb (k - f.bitStart))) := by
  obtain ⟨e1, e2, e3, _, _, _⟩ := hsh.big_facts hbig
  have hsl := slice_length (a := f.byteStart) hlen
  have hta : (buf.take f.byteStart).length = f.byteStart := List.length_take_of_le (by omega)
  refine ⟨splice_length (Nat.le_of_lt e3) hlen hfit, ?_, fun k => ?_⟩
  · simp only [allBytes_append]
    exact ⟨⟨allBytes_take _ hb, henc, allBytes_drop _ (allBytes_take _ (allBytes_drop _ hb))⟩, allBytes_drop _ hb⟩
  · -- from the field's start on the old buffer holds no set bit, so behind `take byteStart` only `encb` contributes
    have z1 : ∀ j, bitAt ((slice buf f.byteStart f.byteEnd).drop encb.length) j = false := fun j => by
      rw [bitAt_drop, bitAt_slice, hz _ (by omega), Bool.and_false]
    have z2 : ∀ j, bitAt (buf.drop f.byteEnd) j = false := fun j => by rw [bitAt_drop, hz _ (by omega)]
    rw [List.append_assoc, bitAt_append, hta, bitAt_take, bitAt_append_zero _ z2, bitAt_append_zero _ z1]
    by_cases h1 : k < 8 * f.byteStart
    · have : ¬ f.bitStart ≤ k := by omega
      simp [h1, this]
    · rw [if_neg h1, hz k (by omega), e1]
      by_cases h2 : k < f.bitEnd
      · simp [Nat.le_of_not_lt h1, h2]
      · rw [bitAt_of_le (by omega)]
        simp

theorem packU_eq_ok {c : Codec} {v : Val} {dst out : List Nat} (h : c.packU v dst = .ok out) :
    c.len ≤ dst.length ∧ ∃ bs, c.enc v = .ok bs ∧ out = bs ++ dst.drop c.len := by
  unfold Codec.packU at h
  split at h
  · cases h
  · obtain ⟨bs, hbs, h⟩ := bindO_eq_ok.mp h
    cases h
    exact ⟨Nat.le_of_not_lt ‹_›, bs, hbs, rfl⟩

theorem writeField_bits {f : FieldMeta} {v : Val} {buf buf' : List Nat}
    (hns : f.skip = false) (hsh : f.Shaped) (hg : FieldGood f)
    (hz : ∀ k, f.bitStart ≤ k → bitAt buf k = false) (hb : AllBytes buf) (h : writeField f v buf = .ok buf') :
    buf'.length = buf.length ∧ AllBytes buf' ∧
      ∀ k, bitAt buf' k = (bitAt buf k ||
        (decide (f.bitStart ≤ k) && decide (k < f.bitEnd) && bitAt (fieldEnc f v) (k - f.bitStart))) := by
  have hpos := hg.pos hns
  unfold writeField at h
  unfold fieldEnc
  rw [if_neg (Bool.eq_false_iff.mp hns)] at h
  by_cases hu : f.ty.isU8OrBool = true
  · -- u8 / bool
    have hs : f.bitsLen ≤ 8 := by
      have := hg.gen hns hu
      rcases hsh.small_or_big with h' | h' <;> omega
    rw [if_pos hu] at h ⊢
    cases hx : asU8 v with
    | none => rw [hx] at h; cases h
    | some x =>
      rw [hx] at h
      dsimp only at h ⊢
      split at h
      · cases h
        exact write_small_bits x hsh hpos hs ‹_› hb
      · cases h
  · rw [if_neg hu] at h ⊢
    by_cases h1 : f.bytesLen = 1
    · -- any other type within one byte
      have hs : f.bitsLen ≤ 8 := by
        rcases hsh.small_or_big with h' | h'
        · exact h'.1
        · omega
      rw [if_pos h1] at h
      obtain ⟨fb, hfb, h⟩ := bindO_eq_ok.mp h
      obtain ⟨hl, bs, hbs, rfl⟩ := packU_eq_ok hfb
      obtain ⟨hbl, hba⟩ := hg.lawful.enc_len v bs hbs
      rw [← hbl, List.take_left' rfl] at h
      rw [hbs]
      cases bs with
      | nil => cases h
      | cons res tl =>
        cases tl with
        | cons _ _ => simp only [List.length_cons, List.length_nil] at hl hbl; omega
        | nil =>
          dsimp only at h ⊢
          split at h
          · cases h
            exact write_small_bits res hsh hpos hs ‹_› hb
          · cases h
    · -- byte aligned, more than one byte
      have hbig : 8 < f.bitsLen := by
        rcases hsh.small_or_big with h' | h'
        · exact absurd (hsh.small_facts hpos h'.1).2.2.2 h1
        · exact h'.2.2.1
      rw [if_neg h1] at h
      split at h
      · rename_i hr
        obtain ⟨sub, hsub, h⟩ := bindO_eq_ok.mp h
        cases h
        obtain ⟨hl, bs, hbs, rfl⟩ := packU_eq_ok hsub
        obtain ⟨hbl, hba⟩ := hg.lawful.enc_len v bs hbs
        rw [slice_length hr.2] at hl
        have := write_big_bits (encb := bs) hsh hbig hr.2 hb hz hba (by omega)
        rw [hbs, ← hbl]
        exact this
      · cases h

/-- Invariant of `#(#fields_pack)*`: every step ORs the field's bits into a region that is still zero. -/
theorem writeFields_bits : ∀ (fs : List FieldMeta) (vs : List Val) (buf buf' : List Nat) (c e : Nat),
    Chain fs c e → (∀ f ∈ fs, FieldGood f) → (∀ k, c ≤ k → bitAt buf k = false) → AllBytes buf →
    writeFields fs vs buf = .ok buf' →
    buf'.length = buf.length ∧ AllBytes buf' ∧ ∀ k, bitAt buf' k = (bitAt buf k || fieldsBit fs vs k)
  | [], [], buf, buf', c, e, _, _, _, hb, h => by
    cases h
    exact ⟨rfl, hb, fun k => (Bool.or_false _).symm⟩
  | [], _ :: _, _, _, _, _, _, _, _, _, h => by cases h
  | _ :: _, [], _, _, _, _, _, _, _, _, h => by cases h
  | f :: fs, v :: vs, buf, buf', c, e, hch, hg, hz, hb, h => by
    obtain ⟨b1, h1, h2⟩ := bindO_eq_ok.mp h
    obtain ⟨hf, hgs⟩ := List.forall_mem_cons.mp hg
    rcases hch.cons with ⟨hs, hch⟩ | ⟨hs, hc, hsh, hrest⟩
    · rw [writeField, if_pos hs] at h1
      cases h1
      obtain ⟨r1, r2, r3⟩ := writeFields_bits fs vs buf buf' c e hch hgs hz hb h2
      exact ⟨r1, r2, fun k => by rw [r3 k, fieldsBit, hs]; rfl⟩
    · obtain ⟨q1, q2, q3⟩ := writeField_bits hs hsh hf (fun k hk => hz k (Nat.le_trans hc hk)) hb h1
      have hz1 : ∀ k, f.bitEnd ≤ k → bitAt b1 k = false := fun k hk => by
        rw [q3 k, hz k (by have := hsh.le; omega), decide_eq_false (Nat.not_lt.mpr hk), Bool.and_false, Bool.false_and,
          Bool.or_false]
      obtain ⟨r1, r2, r3⟩ := writeFields_bits fs vs b1 buf' f.bitEnd e hrest hgs hz1 q2 h2
      exact ⟨r1.trans q1, r2, fun k => by rw [r3 k, q3 k, fieldsBit, hs, Bool.or_assoc]; rfl⟩

end Ec.Wire
