/-
  Lemmas on the functions of the storage model (`Slots.lean`), each taken on its own.
-/
import EcModel.Slots

namespace Ec

/-- Result tokens are told apart by how they begin. -/
theorem append_ne_of_not_prefix {p t q : String} (h : ¬ p.toList <+: q.toList) : p ++ t ≠ q := by
  rintro rfl
  rw [String.toList_append] at h
  exact h (List.prefix_append _ _)

theorem slot_ge (s : Sys) (i : Nat) (h : ¬ i < s.n) : s.slot i = dummySlot := by
  simp only [Sys.slot, List.getD_eq_getElem?_getD, List.getElem?_eq_none (Nat.le_of_not_lt h), Option.getD_none]

theorem slot_setSlot (s : Sys) (i j : Nat) (x : Slot) :
    (s.setSlot i x).slot j = if j = i ∧ i < s.n then x else s.slot j := by
  simp only [Sys.slot, Sys.setSlot, Sys.n, List.getD_eq_getElem?_getD, List.getElem?_set]
  by_cases h : i = j
  · subst h; by_cases hn : i < s.slots.length <;> simp [hn]
  · simp [h, Ne.symm h]

theorem slot_setSlot_ne (s : Sys) (i j : Nat) (x : Slot) (h : j ≠ i) :
    (s.setSlot i x).slot j = s.slot j := by
  rw [slot_setSlot, if_neg (fun c => h c.1)]

theorem slot_setSlot_eq (s : Sys) (i : Nat) (x : Slot) (h : i < s.n) :
    (s.setSlot i x).slot i = x := by
  rw [slot_setSlot, if_pos ⟨rfl, h⟩]

theorem n_setSlot (s : Sys) (i : Nat) (x : Slot) : (s.setSlot i x).n = s.n := by
  simp [Sys.n, Sys.setSlot]

theorem setSlot_setSlot (s : Sys) (k : Nat) (x y : Slot) : (s.setSlot k x).setSlot k y = s.setSlot k y := by
  simp only [Sys.setSlot, List.set_set]

theorem setSlot_self (s : Sys) (k : Nat) : s.setSlot k (s.slot k) = s := by
  simp only [Sys.setSlot, Sys.slot, List.getD_eq_getElem?_getD]
  congr
  apply List.ext_getElem?
  intro i
  rw [List.getElem?_set]
  split
  · next h => subst h; split <;> simp_all
  · rfl

theorem slot_congr {s s' : Sys} (e : s'.slots = s.slots) (i : Nat) : s'.slot i = s.slot i := by
  simp [Sys.slot, e]

theorem n_congr {s s' : Sys} (e : s'.slots = s.slots) : s'.n = s.n := by
  simp [Sys.n, e]

theorem reset_slot_none (s : Sys) (i : Nat) :
    (({ s with frameIdx := 0, pduIdx := 0, slots := s.slots.map (fun x => { x with st := St.none }) } : Sys).slot i).st
      = .none := by
  simp only [Sys.slot, List.getD_eq_getElem?_getD, List.getElem?_map]
  cases s.slots[i]? <;> rfl

theorem findIdx_cases (p : Slot → Bool) (l : List Slot) (i : Nat) :
    (findIdx p l i = none ∧ ∀ j, j < l.length → p (l.getD j dummySlot) = false) ∨
    ∃ k, findIdx p l i = some (i + k) ∧ k < l.length ∧ p (l.getD k dummySlot) = true ∧
      ∀ j, j < k → p (l.getD j dummySlot) = false := by
  induction l generalizing i with
  | nil => exact .inl ⟨rfl, fun j hj => absurd hj (Nat.not_lt_zero j)⟩
  | cons x xs ih =>
    rw [findIdx]
    split
    · next hp => exact .inr ⟨0, rfl, Nat.zero_lt_succ _, hp, fun j hj => absurd hj (Nat.not_lt_zero j)⟩
    · next hp =>
      have hcons : ∀ m, (∀ j, j < m → p (xs.getD j dummySlot) = false) →
          ∀ j, j < m + 1 → p ((x :: xs).getD j dummySlot) = false := fun m h j hj => by
        cases j with
        | zero => exact Bool.eq_false_iff.mpr hp
        | succ j => exact h j (Nat.lt_of_succ_lt_succ hj)
      rcases ih (i + 1) with ⟨h, hall⟩ | ⟨k, h, hk, hpk, hall⟩
      · exact .inl ⟨h, hcons _ hall⟩
      · exact .inr ⟨k + 1, by rw [h, Nat.add_right_comm, Nat.add_assoc], Nat.succ_lt_succ hk, hpk, hcons _ hall⟩

theorem findIdx_none (p : Slot → Bool) (l : List Slot) (i : Nat) (h : findIdx p l i = none) :
    ∀ j, j < l.length → p (l.getD j dummySlot) = false :=
  (findIdx_cases p l i).elim (·.2) fun ⟨_, hk, _⟩ => by rw [h] at hk; cases hk

theorem findIdx_some_slot {s : Sys} {p : Slot → Bool} {i : Nat} (h : findIdx p s.slots 0 = some i) :
    i < s.n ∧ p (s.slot i) = true ∧ ∀ j, j < i → p (s.slot j) = false := by
  rcases findIdx_cases p s.slots 0 with ⟨hn, _⟩ | ⟨k, hk, hr⟩
  · rw [h] at hn; cases hn
  · rw [h, Nat.zero_add] at hk
    cases hk
    exact hr

/-- The slot `alloc_frame` writes on success (`claim_created` + `FrameBox::init`). -/
def freshSlot (data : Nat) : Slot := ⟨.created, Gen.FIRST_PDU_EMPTY, 0, ethHeader ++ zeros (data - 14)⟩

theorem allocLoop_some {s s' : Sys} {fuel i : Nat} (hn : 0 < s.n) (h : allocLoop s fuel = (s', some i)) :
    i < s.n ∧ (s.slot i).st = .none ∧
    ∃ f, s' = ({ s with frameIdx := f } : Sys).setSlot i (freshSlot s.data) := by
  induction fuel generalizing s with
  | zero => simp [allocLoop] at h
  | succ fuel ih =>
    simp only [allocLoop] at h
    split at h
    · next hnone =>
      simp only [Prod.mk.injEq, Option.some.injEq] at h
      obtain ⟨h1, h2⟩ := h
      subst h2
      exact ⟨Nat.mod_lt _ hn, hnone, _, h1.symm⟩
    · exact ih (s := { s with frameIdx := (s.frameIdx + 1) % 256 }) hn h

theorem allocLoop_none {s s' : Sys} {fuel : Nat} (h : allocLoop s fuel = (s', none)) :
    ∃ f, s' = { s with frameIdx := f } := by
  induction fuel generalizing s with
  | zero => simp only [allocLoop, Prod.mk.injEq] at h; exact ⟨s.frameIdx, h.1.symm⟩
  | succ fuel ih =>
    simp only [allocLoop] at h
    split at h
    · simp at h
    · exact ih (s := { s with frameIdx := (s.frameIdx + 1) % 256 }) h

theorem frameSlot_st (x : Slot) (f : CFrame) (p : Option Nat) : (frameSlot x f p).st = x.st := rfl

/-- What `rxParse` can return for `bytes`. -/
def RxParsed (bytes : List Nat) : Except RxResult (List Nat × Nat) → Prop
  | .error e => e ∈ [.ignored, .errEthernet, .errWireShort, .errWireInvalid, .errReceiveFrame, .errInternal]
  | .ok (p, i) => p = ((bytes.drop 14).drop 2).take (rd16 (bytes.drop 14) % (Gen.LEN_MASK + 1)) ∧ p[1]? = some i

/-- Neither `panic` branch is reached: both slices are taken behind the length check of `new_checked`. -/
theorem rxParse_spec (exit : Bool) (bytes : List Nat) : RxParsed bytes (rxParse exit bytes) := by
  unfold rxParse
  refine iteInduction (fun _ => by simp [RxParsed]) fun _ => ?_
  refine iteInduction (fun _ => by simp [RxParsed]) fun h14 => ?_
  refine iteInduction (fun _ => by omega) fun _ => ?_
  refine iteInduction (fun _ => by simp [RxParsed]) fun _ => ?_
  refine iteInduction (fun h => absurd h h14) fun _ => ?_
  refine iteInduction (fun _ => by simp [RxParsed]) fun _ => ?_
  refine iteInduction (fun _ => by simp [RxParsed]) fun _ => ?_
  refine iteInduction (fun _ => by simp [RxParsed]) fun _ => ?_
  refine iteInduction (fun _ => by simp [RxParsed]) fun _ => ?_
  split
  · simp [RxParsed]
  · next i hi => exact ⟨rfl, hi⟩

theorem rxDeliver_cases (s : Sys) (p : List Nat) (i : Nat) :
    ((∀ j, j < s.n → ¬ ((s.slot j).first = i ∧ (s.slot j).st = .sent)) ∧ rxDeliver s p i = (s, .errDecode)) ∨
    ∃ k, k < s.n ∧ ((s.slot k).first = i ∧ (s.slot k).st = .sent) ∧
      (∀ j, j < k → ¬ ((s.slot j).first = i ∧ (s.slot j).st = .sent)) ∧
      ((p.length ≤ s.data - 16 ∧ rxDeliver s p i =
          (s.setSlot k { s.slot k with st := .rxDone, buf := setRange (s.slot k).buf 16 p }, .processed)) ∨
       (s.data - 16 < p.length ∧ rxDeliver s p i = (s.setSlot k { s.slot k with st := .rxBusy }, .errInternal))) := by
  have hp : ∀ x : Slot, (x.first == i && x.st == .sent) = false → ¬ (x.first = i ∧ x.st = .sent) := by
    intro x h c; simp [c.1, c.2] at h
  unfold rxDeliver
  split
  · next hnone => exact .inl ⟨fun j hj => hp _ (findIdx_none _ _ _ hnone j hj), rfl⟩
  · next k hk =>
    obtain ⟨hlt, hk, hprev⟩ := findIdx_some_slot hk
    simp only [Bool.and_eq_true, beq_iff_eq] at hk
    rw [if_neg (Nat.not_le_of_lt hlt), if_neg (not_not_intro hk.2)]
    refine .inr ⟨k, hlt, hk, fun j hj => hp _ (hprev j hj), ?_⟩
    split
    · next hbig => exact .inr ⟨hbig, rfl⟩
    · next hfit => exact .inl ⟨Nat.le_of_not_lt hfit, rfl⟩

theorem rxDeliver_first_awaiting {s : Sys} {p : List Nat} {i k : Nat} (hk : k < s.n)
    (ha : (s.slot k).first = i ∧ (s.slot k).st = .sent)
    (hfirst : ∀ j, j < k → ¬ ((s.slot j).first = i ∧ (s.slot j).st = .sent)) (hfit : p.length ≤ s.data - 16) :
    rxDeliver s p i = (s.setSlot k { s.slot k with st := .rxDone, buf := setRange (s.slot k).buf 16 p }, .processed) := by
  rcases rxDeliver_cases s p i with ⟨hno, _⟩ | ⟨k', _, ha', hprev', h⟩
  · exact absurd ha (hno k hk)
  · have : k' = k := by
      rcases Nat.lt_trichotomy k' k with hlt | heq | hgt
      · exact absurd ha' (hfirst k' hlt)
      · exact heq
      · exact absurd ha (hprev' k hgt)
    subst this
    rcases h with ⟨_, h⟩ | ⟨hbig, _⟩
    · exact h
    · omega

theorem receiveFrame_cases (s : Sys) (bytes : List Nat) :
    (∃ e, receiveFrame s bytes = (s, e) ∧ e ∈ [RxResult.errDecode, .ignored, .errEthernet, .errWireShort,
        .errWireInvalid, .errReceiveFrame, .errInternal]) ∨
    ∃ p i k, RxParsed bytes (.ok (p, i)) ∧ k < s.n ∧ ((s.slot k).first = i ∧ (s.slot k).st = .sent) ∧
      (∀ j, j < k → ¬ ((s.slot j).first = i ∧ (s.slot j).st = .sent)) ∧
      ((p.length ≤ s.data - 16 ∧ receiveFrame s bytes =
          (s.setSlot k { s.slot k with st := .rxDone, buf := setRange (s.slot k).buf 16 p }, .processed)) ∨
       (s.data - 16 < p.length ∧ receiveFrame s bytes = (s.setSlot k { s.slot k with st := .rxBusy }, .errInternal))) := by
  have hspec := rxParse_spec s.exit bytes
  unfold receiveFrame
  split
  · next e he =>
    rw [he] at hspec
    exact .inl ⟨e, rfl, .tail _ hspec⟩
  · next p i he =>
    rw [he] at hspec
    rcases rxDeliver_cases s p i with ⟨_, h⟩ | ⟨k, h⟩
    · exact .inl ⟨_, h, .head _⟩
    · exact .inr ⟨p, i, k, hspec, h⟩

/-- `receiveFrame_cases` with parse, marker and fit left out: what the invariants along a history use. -/
theorem receiveFrame_effect (s : Sys) (bytes : List Nat) :
    ((receiveFrame s bytes).1 = s ∧ (receiveFrame s bytes).2 ≠ .processed) ∨
    ∃ k, k < s.n ∧ (s.slot k).st = .sent ∧
      ((∃ p, receiveFrame s bytes =
          (s.setSlot k { s.slot k with st := .rxDone, buf := setRange (s.slot k).buf 16 p }, .processed)) ∨
       receiveFrame s bytes = (s.setSlot k { s.slot k with st := .rxBusy }, .errInternal)) := by
  rcases receiveFrame_cases s bytes with ⟨e, h, he⟩ | ⟨p, i, k, _, hk, ha, _, h⟩
  · rw [h]; exact .inl ⟨rfl, by rintro rfl; simp at he⟩
  · exact .inr ⟨k, hk, ha.2, h.imp (fun h => ⟨p, h.2⟩) (fun h => h.2)⟩

theorem dropReceived_eq {s : Sys} {k : Nat} (h : (s.slot k).st = .rxProcessing) :
    dropReceived s k = (s.setSlot k { s.slot k with first := Gen.FIRST_PDU_EMPTY, st := .none }, true) := by
  simp [dropReceived, h]

theorem of_ite_ne {α : Type} {c : Prop} [Decidable c] {a b x : α} (h : (if c then a else b) = x) (hne : a ≠ x) :
    ¬ c ∧ b = x := by
  split at h
  · exact absurd h hne
  · exact ⟨‹_›, h⟩

theorem parsePduAt_ok {pdu : List Nat} {pos off len wkc c i : Nat} {more : Bool}
    (h : parsePduAt pdu pos = .ok off len wkc c i more) :
    off = pos + 10 ∧ pos + 10 + len + 2 ≤ pdu.length := by
  unfold parsePduAt at h
  obtain ⟨_, h⟩ := of_ite_ne h nofun
  obtain ⟨_, h⟩ := of_ite_ne h nofun
  obtain ⟨h3, h⟩ := of_ite_ne h nofun
  obtain ⟨h4, h⟩ := of_ite_ne h nofun
  simp only [PduView.ok.injEq] at h
  obtain ⟨rfl, rfl, _⟩ := h
  simp only [List.length_drop] at h3 h4
  exact ⟨rfl, by omega⟩

end Ec
