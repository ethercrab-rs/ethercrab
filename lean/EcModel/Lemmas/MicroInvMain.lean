/-
  Both bounds on the claims are kept by every micro-step with an `Effect` (Lemmas/MicroEffect.lean):
  `MInv`, at most what the status admits, outside the excluded window; `MOwned`, every non-free slot
  has an owner, if moreover new handles go into free registers. Then schedules, reachable worlds, and
  what follows: mutual exclusion, unique owner, every buffer access is by an insider.

  `MOwned` needs the modelling hypothesis `¬ ClobberStep`: `al r` / `tn r` store the new handle into a
  FREE register. In the model `putH` replaces an old handle without running its destructor (the real
  harness would drop it), so a clobbered owner handle would leave its slot non-free with nobody
  responsible. `MInv` itself (mutual exclusion) does not need this hypothesis.
-/
import EcModel.Lemmas.MicroEffect

namespace Ec.Micro

theorem MInv.local {w : MWorld} (hI : MInv w) {tid : Nat} {t : Thread} (ht : w.threads[tid]? = some t) :
    Local w.sys t :=
  ⟨hI.pos, hI.regs t (List.mem_of_getElem? ht), hI.pcok t (List.mem_of_getElem? ht), fun _ _ e =>
    (hI.holder (List.mem_of_getElem? ht) (holds_of_get e)).1⟩

theorem step_some {w w' : MWorld} {tid : Nat} (hs : step w tid = some w') :
    ∃ t, w.threads[tid]? = some t ∧ w' = next w tid (stepThread w.sys t) := by
  unfold step at hs
  split at hs
  · cases hs
  · next t ht =>
    split at hs
    · cases hs
    · simp only [Option.some.injEq] at hs
      exact ⟨t, ht, hs.symm⟩

theorem holds_needed {n : Nat} {t : Thread} (hp : PcOk n t) {r : Nat} {ρ : Role}
    (hn : t.pc.needs = some (r, ρ)) : Holds t (slotOf t r) ρ := by
  have := hp.1
  rw [hn] at this
  obtain ⟨h, e, rfl⟩ := this
  rw [show slotOf t r = h.slot by simp only [slotOf, e]]
  exact holds_of_get e

/-- A status that admits a future admits nothing else, `Sending` (TX) and `RxBusy` (RX) aside. -/
theorem cap_abandon {a : St} {ρ : Role} (hf : 0 < cap a .fut) (hs : a ≠ .sending)
    (hrx : a = .rxBusy → ρ ≠ .rx) : cap a ρ ≤ ind (some .fut) ρ := by
  rcases cap_pos hf with rfl | rfl | rfl | rfl | rfl
  · cases ρ <;> decide
  · exact absurd rfl hs
  · cases ρ <;> decide
  · cases ρ <;> first | decide | exact absurd rfl (hrx rfl)
  · cases ρ <;> decide

/-- Slot `k` may be abandoned: only futures hold claims on it. -/
def AbandonOk (w : MWorld) (k : Nat) : Prop := ∀ ρ, wcount w.threads k ρ ≤ ind (some .fut) ρ

/-- Outside the excluded window every granted step has an effect. What it may abandon is a slot
    whose future the thread holds, so the status admits a future; it is not `Sending`, which would
    admit TX as well, and if it is `RxBusy` no RX claim is left. -/
theorem MInv.effect {w w' : MWorld} {tid : Nat} (hI : MInv w) (hna : ¬ AbandonInsideStep w tid)
    (hs : Micro.step w tid = some w') : ∃ t p k₀ l g, w.threads[tid]? = some t ∧ w' = next w tid p ∧
      Effect (AbandonOk w k₀) w.sys t p k₀ l g := by
  obtain ⟨t, ht, rfl⟩ := step_some hs
  have hm := List.mem_of_getElem? ht
  obtain ⟨k₀, l, g, e⟩ := stepThread_effect (P := AbandonOk w) (hI.local ht) fun r hpc ρ => by
    have hh : Holds t (slotOf t r) .fut :=
      holds_needed (hI.pcok t hm) (by rcases hpc with h | h <;> rw [h] <;> rfl)
    have hfut := (hI.holder hm hh).1
    by_cases hr : (w.sys.slot (slotOf t r)).st = .rxBusy ∧ ρ = .rx
    · rw [hr.2, wcount_zero fun t' hm' hh' => hna ⟨t, r, ht, hpc, Or.inr ⟨hr.1, t', hm', hh'⟩⟩]
      exact Nat.zero_le _
    · exact Nat.le_trans (hI.slots _ ρ)
        (cap_abandon hfut (fun hc => hna ⟨t, r, ht, hpc, Or.inl hc⟩) fun ha hρ => hr ⟨ha, hρ⟩)
  exact ⟨t, _, k₀, l, g, ht, rfl, e⟩

theorem MInv.step_effect {w : MWorld} (hI : MInv w) {tid : Nat} {t : Thread}
    (ht : w.threads[tid]? = some t) {p : Sys × Thread} {k₀ : Nat} {l g : Option Role}
    (e : Effect (AbandonOk w k₀) w.sys t p k₀ l g) : MInv (next w tid p) := by
  refine ⟨e.n ▸ hI.pos, forall_mem_set hI.regs e.moves.regs tid,
    e.n ▸ forall_mem_set hI.pcok e.moves.pcok tid, fun k ρ => ?_⟩
  have hS : Shift k₀ l g (wcount w.threads) (wcount (w.threads.set tid p.2)) :=
    e.moves.le.lift fun k ρ => sum_set (fun t => tcount t k ρ) ht p.2
  show wcount (w.threads.set tid p.2) k ρ ≤ cap (p.1.slot k).st ρ
  by_cases hk : k = k₀
  · subst hk
    exact e.trans.bound (fun hp => hp ρ) (hI.slots k ρ) (hS.self ρ)
  · rw [e.other k hk]
    exact Nat.le_trans (hS.other hk ρ) (hI.slots k ρ)

theorem MInv.step {w w' : MWorld} {tid : Nat} (hI : MInv w) (hna : ¬ AbandonInsideStep w tid)
    (hs : Micro.step w tid = some w') : MInv w' := by
  obtain ⟨t, p, k₀, l, g, ht, rfl, e⟩ := hI.effect hna hs
  exact hI.step_effect ht e

/-- One element of a schedule: grant the baton to a thread, or advance the virtual clock (the two
    things the line protocol of `Drv/Micro.lean` can do). -/
inductive Tick where
  | run (tid : Nat)
  | advance (us : Nat)
  deriving DecidableEq, Repr

def advance (w : MWorld) (us : Nat) : MWorld := { w with sys := { w.sys with now := w.sys.now + us } }

/-- A step that is not granted (`none`: no such thread, or the thread has finished) leaves the world
    unchanged. -/
def tick (w : MWorld) : Tick → MWorld
  | .run tid => (step w tid).getD w
  | .advance us => advance w us

def runSched (w : MWorld) (sched : List Tick) : MWorld := sched.foldl tick w

/-- No step of the schedule abandons a request while TX or RX is inside its buffer. -/
def SafeSched : MWorld → List Tick → Prop
  | _, [] => True
  | w, x :: rest =>
    (match x with
     | .run tid => ¬ AbandonInsideStep w tid
     | .advance _ => True) ∧ SafeSched (tick w x) rest

/-- Fresh storage (`PduStorage::new`), counters preset as in a case line, any number of threads with
    arbitrary programs, all idle with empty registers. -/
def initWorld (n data fi pi : Nat) (progs : List (List String)) : MWorld :=
  { sys := { Sys.init n data with frameIdx := fi, pduIdx := pi },
    threads := progs.map (fun p => { prog := p, pc := .idle, regs := [], outs := [] }) }

/-- `MInv` from finitely many checks: every claim is on a slot below `b`, and the bound holds there.
    The hypotheses are decidable, so `decide` proves `MInv` of a concrete world. -/
theorem MInv_of_check (w : MWorld) (b : Nat) (hn : 0 < w.sys.n)
    (ht : ∀ t ∈ w.threads, (t.regs.map (·.reg)).Nodup ∧ PcOk w.sys.n t ∧ (∀ c ∈ t.pc.claim, c.1 < b) ∧
      ∀ h ∈ t.regs, h.slot < b)
    (hs : ∀ k < b, ∀ ρ ∈ [Role.creator, .fut, .tx, .rx, .reader],
      wcount w.threads k ρ ≤ cap (w.sys.slot k).st ρ) : MInv w := by
  refine ⟨hn, fun t h => (ht t h).1, fun t h => (ht t h).2.1, fun k ρ => ?_⟩
  by_cases hk : k < b
  · exact hs k hk ρ (by cases ρ <;> decide)
  · rw [wcount_zero]
    · exact Nat.zero_le _
    · intro t hm hh
      obtain ⟨_, _, hc, hr⟩ := ht t hm
      rcases hh with hc' | ⟨h, hm', rfl, _⟩
      · exact hk (hc _ hc')
      · exact hk (hr h hm')

theorem MInv_init (n data fi pi : Nat) (progs : List (List String)) (hn : 0 < n) :
    MInv (initWorld n data fi pi progs) := by
  refine MInv_of_check _ 0 (by simpa [initWorld, Sys.init, Sys.n] using hn) ?_
    (fun _ h => absurd h (Nat.not_lt_zero _))
  intro t ht
  simp only [initWorld, List.mem_map] at ht
  obtain ⟨p, _, rfl⟩ := ht
  exact ⟨List.nodup_nil, ⟨trivial, trivial⟩, nofun, nofun⟩

theorem MInv.advance {w : MWorld} (hI : MInv w) (us : Nat) : MInv (advance w us) :=
  ⟨hI.pos, hI.regs, hI.pcok, hI.slots⟩

theorem MInv.tick {w : MWorld} (hI : MInv w) (x : Tick)
    (hx : match x with
      | .run tid => ¬ AbandonInsideStep w tid
      | .advance _ => True) : MInv (tick w x) := by
  cases x with
  | run tid =>
    simp only [Micro.tick]
    cases hs : Micro.step w tid with
    | none => simpa using hI
    | some w' => simpa using hI.step hx hs
  | advance us => exact hI.advance us

theorem MInv.run {w : MWorld} (hI : MInv w) (sched : List Tick) (hs : SafeSched w sched) :
    MInv (runSched w sched) := by
  induction sched generalizing w with
  | nil => exact hI
  | cons x rest ih =>
    obtain ⟨hx, hrest⟩ := hs
    exact ih (hI.tick x hx) hrest

/-- Reachable from a fresh storage of `n` slots by some schedule outside the excluded window. -/
def Reachable (n data : Nat) (w : MWorld) : Prop :=
  ∃ fi pi progs sched, SafeSched (initWorld n data fi pi progs) sched ∧
    w = runSched (initWorld n data fi pi progs) sched

theorem MInv_reachable {n data : Nat} {w : MWorld} (hn : 0 < n) (h : Reachable n data w) : MInv w := by
  obtain ⟨fi, pi, progs, sched, hs, rfl⟩ := h
  exact (MInv_init n data fi pi progs hn).run sched hs

def insideCount (t : Thread) (k : Nat) : Nat :=
  tcount t k .creator + tcount t k .tx + tcount t k .rx + tcount t k .reader

def ownerCount (t : Thread) (k : Nat) : Nat :=
  tcount t k .creator + tcount t k .fut + tcount t k .reader

theorem inside_iff_count_pos (t : Thread) (k : Nat) : Inside t k ↔ 0 < insideCount t k := by
  unfold Inside insideCount
  rw [← tcount_pos_iff, ← tcount_pos_iff, ← tcount_pos_iff, ← tcount_pos_iff]
  omega

theorem owner_iff_count_pos (t : Thread) (k : Nat) : Owner t k ↔ 0 < ownerCount t k := by
  unfold Owner ownerCount
  rw [← tcount_pos_iff, ← tcount_pos_iff, ← tcount_pos_iff]
  omega

theorem sum_insideCount (ts : List Thread) (k : Nat) : (ts.map fun t => insideCount t k).sum =
    wcount ts k .creator + wcount ts k .tx + wcount ts k .rx + wcount ts k .reader := by
  unfold insideCount wcount
  rw [sum_map_add, sum_map_add, sum_map_add]

theorem sum_ownerCount (ts : List Thread) (k : Nat) : (ts.map fun t => ownerCount t k).sum =
    wcount ts k .creator + wcount ts k .fut + wcount ts k .reader := by
  unfold ownerCount wcount
  rw [sum_map_add, sum_map_add]

theorem MInv.inside_total {w : MWorld} (hI : MInv w) (k : Nat) :
    (w.threads.map (fun t => insideCount t k)).sum ≤ 1 := by
  rw [sum_insideCount]
  have h1 := hI.slots k .creator
  have h2 := hI.slots k .tx
  have h3 := hI.slots k .rx
  have h4 := hI.slots k .reader
  have : ∀ st, cap st .creator + cap st .tx + cap st .rx + cap st .reader ≤ 1 := by
    intro st; cases st <;> decide
  have := this (w.sys.slot k).st
  omega

theorem MInv.mutual_exclusion {w : MWorld} (hI : MInv w) {k i j : Nat} {a b : Thread}
    (ha : w.threads[i]? = some a) (hb : w.threads[j]? = some b)
    (hia : Inside a k) (hib : Inside b k) : i = j :=
  eq_of_sum_le_one _ (hI.inside_total k) ha hb ((inside_iff_count_pos a k).mp hia)
    ((inside_iff_count_pos b k).mp hib)

/-- A single thread holds at most one inside-claim on a slot (not, say, two handles for it). -/
theorem MInv.inside_le_one {w : MWorld} (hI : MInv w) {k i : Nat} {a : Thread}
    (ha : w.threads[i]? = some a) : insideCount a k ≤ 1 := by
  have h1 := hI.inside_total k
  have h2 := le_sum_of_mem (fun t => insideCount t k) (List.mem_of_getElem? ha)
  exact Nat.le_trans h2 h1

theorem MInv.unique_owner {w : MWorld} (hI : MInv w) {k i j : Nat} {a b : Thread}
    (ha : w.threads[i]? = some a) (hb : w.threads[j]? = some b)
    (hia : Owner a k) (hib : Owner b k) : i = j := by
  have h1 := hI.slots k .creator
  have h2 := hI.slots k .fut
  have h3 := hI.slots k .reader
  have : ∀ st, cap st .creator + cap st .fut + cap st .reader ≤ 1 := by
    intro st; cases st <;> decide
  have := this (w.sys.slot k).st
  exact eq_of_sum_le_one (fun t => ownerCount t k) (by rw [sum_ownerCount]; omega) ha hb
    ((owner_iff_count_pos a k).mp hia) ((owner_iff_count_pos b k).mp hib)

/-- Every claim but the waiting future's is a right to the buffer. -/
theorem Holds.inside {t : Thread} {k : Nat} {ρ : Role} (h : Holds t k ρ) (hρ : ρ ≠ .fut) : Inside t k := by
  cases ρ
  case fut => exact absurd rfl hρ
  case creator => exact Or.inl h
  case tx => exact Or.inr (Or.inl h)
  case rx => exact Or.inr (Or.inr (Or.inl h))
  case reader => exact Or.inr (Or.inr (Or.inr h))

/-- The buffer accesses of `bufAccess` are by the program counters that carry a claim, by those that
    found a handle in their register (`puWrite`, `vrRead`), and by those whose register holds the
    handle they need. -/
theorem MInv.buffer_access_by_insider {w : MWorld} (hI : MInv w) {tid : Nat} {t : Thread}
    (ht : w.threads[tid]? = some t) {k : Nat} (hb : bufAccess t = some k) : Inside t k := by
  have hp := hI.pcok t (List.mem_of_getElem? ht)
  obtain ⟨prog, pc, regs, outs⟩ := t
  cases pc <;> simp only [bufAccess, Option.some.injEq, reduceCtorEq] at hb
  case alBuf | rxCopy => subst hb; exact Holds.inside (Or.inl rfl) (by decide)
  case puWrite | vrRead =>
    split at hb
    · next e =>
      cases hb
      exact (holds_of_get (t := ⟨prog, _, regs, outs⟩) e).inside nofun
    · cases hb
  case puPatch | mkHdr | tsRead | fpRead | itNext | itRead =>
    subst hb; exact (holds_needed hp rfl).inside (by decide)

/-- Thread `tid` is about to overwrite a handle in its registers: its next step `Clobbers`. -/
def ClobberStep (w : MWorld) (tid : Nat) : Prop :=
  ∃ t r, w.threads[tid]? = some t ∧ ((∃ k, t.pc = .alBuf r k) ∨ (∃ i, t.pc = .tnCas r i)) ∧
    getH t.regs r ≠ none

/-- **Every non-free slot has an owner**: a creator, an awaiting future or a reader. -/
structure MOwned (w : MWorld) : Prop where
  owned : ∀ k, (w.sys.slot k).st ≠ .none →
    1 ≤ wcount w.threads k .creator + wcount w.threads k .fut + wcount w.threads k .reader
  was : ∀ t ∈ w.threads, WasOk t

theorem MOwned.step_effect {w : MWorld} (hO : MOwned w) {tid : Nat} {t : Thread}
    (ht : w.threads[tid]? = some t) {P : Prop} {p : Sys × Thread} {k₀ : Nat} {l g : Option Role}
    (e : Effect P w.sys t p k₀ l g) (hnc : ¬ Clobbers t) : MOwned (next w tid p) := by
  refine ⟨fun k hne => ?_, forall_mem_set hO.was e.moves.was tid⟩
  · have hS : Shift k₀ g l (wcount (w.threads.set tid p.2)) (wcount w.threads) :=
      (e.moves.ge (hO.was t (List.mem_of_getElem? ht)) hnc).lift fun k ρ =>
        (sum_set (fun t => tcount t k ρ) ht p.2).symm
    have h0 := hO.owned k
    show 1 ≤ wcount (w.threads.set tid p.2) k .creator + wcount (w.threads.set tid p.2) k .fut +
      wcount (w.threads.set tid p.2) k .reader
    by_cases hk : k = k₀
    · subst hk
      have hc := hS.self .creator
      have hf := hS.self .fut
      have hr := hS.self .reader
      obtain ⟨h1, h2⟩ := e.trans.owner hne
      simp only [ow] at h1 h2
      by_cases ha : (w.sys.slot k).st = .none
      · have := h2 ha; omega
      · have := h0 ha; omega
    · have := h0 (e.other k hk ▸ hne)
      have hc := hS.other hk .creator
      have hf := hS.other hk .fut
      have hr := hS.other hk .reader
      omega

/-- **`MOwned` is preserved by every granted step** outside the window that stores new handles into
    free registers, from a world where `MInv` holds. -/
theorem MOwned.step {w w' : MWorld} {tid : Nat} (hI : MInv w) (hO : MOwned w)
    (hna : ¬ AbandonInsideStep w tid) (hnc : ¬ ClobberStep w tid) (hs : Micro.step w tid = some w') :
    MOwned w' := by
  obtain ⟨t, p, k₀, l, g, ht, rfl, e⟩ := hI.effect hna hs
  exact hO.step_effect ht e fun ⟨r, hpc, hg⟩ => hnc ⟨t, r, ht, hpc, hg⟩

/-- No step of the schedule abandons inside the window or clobbers a register. -/
def FreshSafeSched : MWorld → List Tick → Prop
  | _, [] => True
  | w, x :: rest =>
    (match x with
     | .run tid => ¬ AbandonInsideStep w tid ∧ ¬ ClobberStep w tid
     | .advance _ => True) ∧ FreshSafeSched (tick w x) rest

theorem FreshSafeSched.safe {w : MWorld} {sched : List Tick} (h : FreshSafeSched w sched) : SafeSched w sched := by
  induction sched generalizing w with
  | nil => trivial
  | cons x rest ih =>
    obtain ⟨hx, hr⟩ := h
    refine ⟨?_, ih hr⟩
    cases x with
    | run tid => exact hx.1
    | advance us => trivial

theorem MOwned_init (n data fi pi : Nat) (progs : List (List String)) :
    MOwned (initWorld n data fi pi progs) := by
  refine ⟨?_, ?_⟩
  · intro k hne
    refine absurd ?_ hne
    simp only [initWorld, Sys.init, Sys.slot, List.getD_eq_getElem?_getD, List.getElem?_replicate]
    split <;> simp [dummySlot]
  · intro t ht
    simp only [initWorld, List.mem_map] at ht
    obtain ⟨p, _, rfl⟩ := ht
    trivial

theorem MOwned.run {w : MWorld} (hI : MInv w) (hO : MOwned w) (sched : List Tick)
    (hs : FreshSafeSched w sched) : MInv (runSched w sched) ∧ MOwned (runSched w sched) := by
  induction sched generalizing w with
  | nil => exact ⟨hI, hO⟩
  | cons x rest ih =>
    obtain ⟨hx, hrest⟩ := hs
    cases x with
    | run tid =>
      have hI' : MInv (tick w (.run tid)) := hI.tick (.run tid) hx.1
      have hO' : MOwned (tick w (.run tid)) := by
        simp only [Micro.tick]
        cases hstep : Micro.step w tid with
        | none => simpa using hO
        | some w' => simpa using MOwned.step hI hO hx.1 hx.2 hstep
      exact ih hI' hO' hrest
    | advance us =>
      exact ih (hI.advance us) ⟨hO.owned, hO.was⟩ hrest

end Ec.Micro
