/-
  C19 — lemmas about the hand-written impls of impls.rs (EcModel/WireImpls.lean): the chunk pipeline of the
  `heapless::Vec` / `[T; N]` decoders, the tuple walk, UTF-8 validation of encoded scalar values.
-/
import EcModel.WireImpls
import EcModel.Lemmas.WireCodecs

namespace Ec.Wire

theorem chunksN_length (size : Nat) : ∀ (k : Nat) (buf : List Nat), (chunksN size k buf).length = k
  | 0, _ => rfl
  | k + 1, buf => by simp [chunksN, chunksN_length size k]

theorem chunksN_take (size : Nat) : ∀ (n m : Nat) (buf : List Nat),
    (chunksN size m buf).take n = chunksN size (min n m) buf
  | 0, m, buf => rfl
  | n + 1, 0, buf => rfl
  | n + 1, m + 1, buf => by
    have : min (n + 1) (m + 1) = min n m + 1 := by omega
    rw [this]
    simp [chunksN, chunksN_take size n m]

theorem chunksN_mem_length (size : Nat) : ∀ (k : Nat) (buf : List Nat), k * size ≤ buf.length →
    ∀ ch ∈ chunksN size k buf, ch.length = size
  | 0, _, _, ch, h => nomatch h
  | k + 1, buf, hl, ch, h => by
    have hl' : k * size + size ≤ buf.length := by rw [Nat.succ_mul] at hl; exact hl
    simp only [chunksN, List.mem_cons] at h
    rcases h with h | h
    · subst h
      rw [List.length_take]
      omega
    · exact chunksN_mem_length size k (buf.drop size) (by rw [List.length_drop]; omega) ch h

/-- As long as the vector has room for all chunks, collecting is decoding chunk after chunk, first failure wins. -/
theorem collectHeapless_eq_decChunks (c : Codec) (cap : Nat) : ∀ (k pushed : Nat) (buf : List Nat), pushed + k ≤ cap →
    collectHeapless c.dec cap pushed (chunksN c.len k buf) = decChunks c k buf
  | 0, _, _, _ => rfl
  | k + 1, pushed, buf, h => by
    have hp : pushed < cap := by omega
    simp only [chunksN, collectHeapless, decChunks, hp, if_true]
    rw [collectHeapless_eq_decChunks c cap k (pushed + 1) (buf.drop c.len) (by omega)]

/-- More `Ok` elements than the vector has room for: heapless' `FromIterator` panics. -/
theorem collectHeapless_overflow (dec : List Nat → Out Val) (cap : Nat) : ∀ (chs : List (List Nat)) (pushed : Nat),
    (∀ ch ∈ chs, ∃ v, dec ch = .ok v) → cap < pushed + chs.length → pushed ≤ cap →
    collectHeapless dec cap pushed chs = .panic "Vec::from_iter overflow"
  | [], pushed, _, h1, h2 => by simp at h1; omega
  | ch :: rest, pushed, hok, h1, h2 => by
    obtain ⟨⟨v, hv⟩, hrest⟩ := List.forall_mem_cons.mp hok
    simp only [collectHeapless, hv, bindO]
    by_cases hp : pushed < cap
    · simp only [hp, if_true]
      rw [collectHeapless_overflow dec cap rest (pushed + 1) hrest
        (by simp only [List.length_cons] at h1; omega) (by omega)]
    · simp [hp]

theorem decChunks_get (c : Codec) : ∀ (n : Nat) (buf : List Nat) (vs : List Val), decChunks c n buf = .ok vs →
    vs.length = n ∧ ∀ i (h : i < vs.length), c.dec (slice buf (i * c.len) (i * c.len + c.len)) = .ok vs[i]
  | 0, _, vs, h => by
    cases h
    exact ⟨rfl, fun i h => nomatch h⟩
  | n + 1, buf, vs, h => by
    obtain ⟨v, vs', hv, hvs', rfl⟩ := bindO₂_eq_ok h
    obtain ⟨hl, hg⟩ := decChunks_get c n (buf.drop c.len) vs' hvs'
    refine ⟨by simp [hl], ?_⟩
    intro i hi
    cases i with
    | zero => simpa [slice] using hv
    | succ i =>
      have := hg i (Nat.lt_of_succ_lt_succ hi)
      rw [slice_drop] at this
      rw [Nat.succ_mul, Nat.add_comm (i * c.len)]
      exact this

theorem decChunks_take (c : Codec) : ∀ (n m : Nat) (buf : List Nat), n * c.len ≤ m →
    decChunks c n (buf.take m) = decChunks c n buf
  | 0, _, _, _ => rfl
  | n + 1, m, buf, h => by
    have h' : n * c.len + c.len ≤ m := by rw [Nat.succ_mul] at h; exact h
    simp only [decChunks]
    have e1 : (buf.take m).take c.len = buf.take c.len := by
      rw [List.take_take, Nat.min_eq_left (by omega)]
    have e2 : (buf.take m).drop c.len = (buf.drop c.len).take (m - c.len) := by
      rw [List.drop_take]
    rw [e1, e2, decChunks_take c n (m - c.len) (buf.drop c.len) (by omega)]

theorem decChunks_ok_of_full (c : Codec) (hfull : ∀ ch, ch.length = c.len → ∃ v, c.dec ch = .ok v) :
    ∀ (n : Nat) (buf : List Nat), n * c.len ≤ buf.length → ∃ vs, decChunks c n buf = .ok vs
  | 0, _, _ => ⟨[], rfl⟩
  | n + 1, buf, h => by
    have h' : n * c.len + c.len ≤ buf.length := by rw [Nat.succ_mul] at h; exact h
    obtain ⟨v, hv⟩ := hfull (buf.take c.len) (by rw [List.length_take]; omega)
    obtain ⟨vs, hvs⟩ := decChunks_ok_of_full c hfull n (buf.drop c.len) (by rw [List.length_drop]; omega)
    exact ⟨v :: vs, by rw [decChunks, hv, bindO_ok, hvs, bindO_ok]⟩

/-- `heapless::Vec<T, N>::unpack_from_slice` = the first `min N ⌊len / size⌋` elements, decoded one after the other. -/
theorem hvecDec_eq (c : Codec) (hpos : 0 < c.len) (n : Nat) (buf : List Nat) :
    hvecDec c n buf = bindO (decChunks c (min n (buf.length / c.len)) buf) fun vs => .ok (.seq vs) := by
  have h0 : ¬ c.len = 0 := by omega
  simp only [hvecDec, chunksExact, h0, if_false, bindO_ok]
  rw [chunksN_take, collectHeapless_eq_decChunks c n _ 0 buf (by omega)]

/-- Without `.take(N)`: a buffer holding more than `N` decodable elements makes `collect` panic. -/
theorem hvecDecNoTake_overflow (c : Codec) (hpos : 0 < c.len) (hfull : ∀ ch, ch.length = c.len → ∃ v, c.dec ch = .ok v)
    (n : Nat) (buf : List Nat) (hl : (n + 1) * c.len ≤ buf.length) :
    hvecDecNoTake c n buf = .panic "Vec::from_iter overflow" := by
  have h0 : ¬ c.len = 0 := by omega
  have hk : n + 1 ≤ buf.length / c.len := (Nat.le_div_iff_mul_le hpos).mpr hl
  simp only [hvecDecNoTake, chunksExact, h0, if_false, bindO_ok]
  rw [collectHeapless_overflow c.dec n _ 0
    (fun ch hch => hfull ch (chunksN_mem_length c.len _ buf (Nat.div_mul_le_self _ _) ch hch))
    (by rw [chunksN_length]; omega) (by omega)]
  rfl

/-- The line-by-line model of the `[T; N]` decoder is the `Codec.array` of Wire.lean (which the struct theorems use); in
    particular its `into_array` failure branch (`ArrayLength`) is unreachable. -/
theorem arrayDecImpl_eq_codec (c : Codec) (n : Nat) (buf : List Nat) :
    arrayDecImpl c n buf = (Codec.array c n).dec buf := by
  simp only [arrayDecImpl, Codec.array]
  by_cases hs : buf.length < c.len * n
  · simp [hs]
  · simp only [hs, if_false]
    by_cases h0 : c.len = 0
    · simp [chunksExact, h0, bindO]
    · have hpos : 0 < c.len := by omega
      simp only [chunksExact, h0, if_false, bindO_ok]
      have hlen : (buf.take (c.len * n)).length = c.len * n := by rw [List.length_take]; omega
      have hdiv : (buf.take (c.len * n)).length / c.len = n := by
        rw [hlen, Nat.mul_comm, Nat.mul_div_cancel _ hpos]
      rw [hdiv, chunksN_take, Nat.min_self, collectHeapless_eq_decChunks c n n 0 _ (by omega)]
      cases hd : decChunks c n (List.take (c.len * n) buf) with
      | panic w => rfl
      | err e => rfl
      | ok vs =>
        have := (decChunks_get c n _ vs hd).1
        simp [bindO, this]

/-- Components decoded at consecutive offsets: component `i` from the bytes starting at `sumLen (cs.take i)`. -/
def decTupleSpec : List Codec → List Nat → Out (List Val)
  | [], _ => .ok []
  | c :: cs, buf =>
    bindO (c.dec (buf.take c.len)) fun v => bindO (decTupleSpec cs (buf.drop c.len)) fun vs => .ok (v :: vs)

/-- One step of the tuple walk behind a lawful component that decoded: it found its `PACKED_LEN` bytes, so the checked
    `buf.get(PACKED_LEN..)` succeeds, and skipping it for the empty buffer makes no difference (then `PACKED_LEN = 0`). -/
theorem decTuple_cons_ok {c : Codec} {buf : List Nat} {v : Val} (hc : Lawful c) (hd : c.dec buf = .ok v)
    (cs : List Codec) : decTuple (c :: cs) buf = bindO (decTuple cs (buf.drop c.len)) fun vs => .ok (v :: vs) := by
  have hle := hc.len_le_of_ok hd
  have hdrop : (if buf.length > 0 then buf.drop c.len else buf) = buf.drop c.len := by
    split
    · rfl
    · rw [show c.len = 0 by omega, List.drop_zero]
  rw [decTuple, hd, bindO_ok, if_neg (by omega), hdrop]

/-- For a buffer of at least the packed length the walk is the plain consecutive-offset decode. -/
theorem decTuple_eq_spec : ∀ (cs : List Codec) (buf : List Nat), AllLawfulC cs → sumLen cs ≤ buf.length →
    decTuple cs buf = decTupleSpec cs buf
  | [], _, _, _ => rfl
  | c :: cs, buf, ⟨hc, hcs⟩, hlen => by
    rw [sumLen] at hlen
    rw [decTupleSpec, ← hc.dec_prefix buf (by omega)]
    cases hd : c.dec buf with
    | panic w => rw [decTuple, hd]; rfl
    | err e => rw [decTuple, hd]; rfl
    | ok v => rw [decTuple_cons_ok hc hd, decTuple_eq_spec cs _ hcs (by rw [List.length_drop]; omega), bindO_ok]

/-- The walk never panics, whatever the components do with short buffers: there is no panic site left in it. -/
theorem decTuple_total_of_decTotal : ∀ (cs : List Codec) (buf : List Nat) (why : String), (∀ c ∈ cs, DecTotal c) →
    decTuple cs buf ≠ .panic why
  | [], _, _, _ => nofun
  | c :: cs, buf, why, h => by
    obtain ⟨hc, hcs⟩ := List.forall_mem_cons.mp h
    unfold decTuple
    refine bindO_ne_panic (hc buf) (fun v w => ?_) why
    split
    · exact nofun
    · exact bindO_ok_ne_panic (fun w => decTuple_total_of_decTotal cs _ w hcs) w

theorem decTuple_total : ∀ (cs : List Codec) (buf : List Nat) (why : String), AllLawfulC cs →
    decTuple cs buf ≠ .panic why :=
  fun cs buf why h => decTuple_total_of_decTotal cs buf why fun c hc => (h.mem c hc).dec_total

theorem decTuple_short : ∀ (cs : List Codec) (buf : List Nat), AllLawfulC cs → buf.length < sumLen cs →
    ∃ e, decTuple cs buf = .err e
  | [], _, _, h => absurd h (Nat.not_lt_zero _)
  | c :: cs, buf, ⟨hc, hcs⟩, hlen => by
    rw [sumLen] at hlen
    cases hd : c.dec buf with
    | panic w => exact absurd hd (hc.dec_total _ _)
    | err e => exact ⟨e, by rw [decTuple, hd]; rfl⟩
    | ok v =>
      have hle := hc.len_le_of_ok hd
      obtain ⟨e, he⟩ := decTuple_short cs (buf.drop c.len) hcs (by rw [List.length_drop]; omega)
      exact ⟨e, by rw [decTuple_cons_ok hc hd, he]; rfl⟩

/-- The values handed to a tuple's packer are values of the component types. -/
def validTuple : List Codec → List Val → Prop
  | [], [] => True
  | c :: cs, v :: vs => c.valid v ∧ validTuple cs vs
  | _, _ => False

theorem encTuple_ok : ∀ (cs : List Codec) (vs : List Val), AllLawfulC cs → validTuple cs vs →
    ∃ bs, encTuple cs vs = .ok bs ∧ bs.length = sumLen cs ∧ AllBytes bs
  | [], [], _, _ => ⟨[], rfl, rfl, allBytes_nil⟩
  | [], _ :: _, _, h => h.elim
  | _ :: _, [], _, h => h.elim
  | c :: cs, v :: vs, hl, hv => by
    obtain ⟨hc, hcs⟩ := hl
    obtain ⟨hv1, hv2⟩ := hv
    obtain ⟨b, hb⟩ := hc.enc_ok v hv1
    obtain ⟨bl, ba⟩ := hc.enc_len v b hb
    obtain ⟨bs, hbs, hbl, hba⟩ := encTuple_ok cs vs hcs hv2
    exact ⟨b ++ bs, by simp [encTuple, hb, hbs, bindO], by simp [sumLen, bl, hbl], allBytes_append.mpr ⟨ba, hba⟩⟩

theorem packU_take (c : Codec) (v : Val) {buf : List Nat} (h : c.len ≤ buf.length) :
    c.packU v (buf.take c.len) = c.enc v := by
  have hl : (buf.take c.len).length = c.len := List.length_take_of_le h
  rw [Codec.packU, if_neg (by omega), List.drop_eq_nil_of_le (by omega)]
  cases c.enc v <;> simp [bindO]

/-- The `split_at_mut` walk stores the components' encodings back to back and leaves the rest of the buffer alone. -/
theorem tuplePackWalk_eq : ∀ (cs : List Codec) (vs : List Val) (buf : List Nat), sumLen cs ≤ buf.length →
    tuplePackWalk cs vs buf = bindO (encTuple cs vs) fun bs => .ok (bs ++ buf.drop (sumLen cs))
  | [], [], buf, _ => rfl
  | [], _ :: _, _, _ => rfl
  | _ :: _, [], _, _ => rfl
  | c :: cs, v :: vs, buf, hlen => by
    rw [sumLen] at hlen
    rw [tuplePackWalk, encTuple, if_neg (by omega), packU_take c v (by omega),
      tuplePackWalk_eq cs vs (buf.drop c.len) (by rw [List.length_drop]; omega)]
    cases c.enc v with
    | panic w => rfl
    | err e => rfl
    | ok b =>
      cases encTuple cs vs with
      | panic w => rfl
      | err e => rfl
      | ok bs => simp only [bindO, List.drop_drop, sumLen, List.append_assoc]

theorem tuplePackU_ok {cs : List Codec} {vs : List Val} {dst bs : List Nat}
    (hlen : sumLen cs ≤ dst.length) (hbs : encTuple cs vs = .ok bs) (hbl : bs.length = sumLen cs) :
    tuplePackU cs vs dst = .ok (bs ++ dst.drop (sumLen cs)) := by
  rw [tuplePackU, tuplePackWalk_eq cs vs dst hlen, hbs, bindO_ok, bindO_ok,
    if_pos (by rw [List.length_append, hbl]; exact Nat.le_add_right ..)]

theorem decTupleSpec_roundtrip : ∀ (cs : List Codec) (vs : List Val) (bs extra : List Nat), AllLawfulC cs →
    validTuple cs vs → encTuple cs vs = .ok bs → decTupleSpec cs (bs ++ extra) = .ok vs
  | [], [], bs, extra, _, _, _ => rfl
  | [], _ :: _, _, _, _, h, _ => h.elim
  | _ :: _, [], _, _, _, h, _ => h.elim
  | c :: cs, v :: vs, bs, extra, hl, hv, he => by
    obtain ⟨hc, hcs⟩ := hl
    obtain ⟨hv1, hv2⟩ := hv
    obtain ⟨b, bs', hb, hbs', rfl⟩ := bindO₂_eq_ok he
    have hbl := (hc.enc_len v b hb).1
    simp only [decTupleSpec, List.append_assoc]
    rw [← hbl, List.take_left' rfl, List.drop_left' rfl, hc.roundtrip v b hv1 hb,
      decTupleSpec_roundtrip cs vs bs' extra hcs hv2 hbs']
    rfl

theorem decTupleSpec_get : ∀ (cs : List Codec) (buf : List Nat) (vs : List Val), decTupleSpec cs buf = .ok vs →
    vs.length = cs.length ∧
    ∀ (i : Nat) (c : Codec) (v : Val), cs[i]? = some c → vs[i]? = some v →
      c.dec (slice buf (sumLen (cs.take i)) (sumLen (cs.take i) + c.len)) = .ok v
  | [], _, vs, h => by
    cases h
    exact ⟨rfl, fun i c v hc => nomatch hc⟩
  | c0 :: cs, buf, vs, h => by
    obtain ⟨v0, vs', hv0, hvs', rfl⟩ := bindO₂_eq_ok h
    obtain ⟨hl, hg⟩ := decTupleSpec_get cs (buf.drop c0.len) vs' hvs'
    refine ⟨by simp [hl], ?_⟩
    intro i c v hc hv
    cases i with
    | zero =>
      simp only [List.getElem?_cons_zero, Option.some.injEq] at hc hv
      subst hc; subst hv
      simpa [slice, sumLen] using hv0
    | succ i =>
      simp only [List.getElem?_cons_succ] at hc hv
      have := hg i c v hc hv
      rw [slice_drop] at this
      simpa [sumLen] using this

theorem encTuple_get : ∀ (cs : List Codec) (vs : List Val) (bs : List Nat), AllLawfulC cs → encTuple cs vs = .ok bs →
    ∀ (i : Nat) (c : Codec) (v : Val), cs[i]? = some c → vs[i]? = some v →
      c.enc v = .ok (slice bs (sumLen (cs.take i)) (sumLen (cs.take i) + c.len))
  | [], [], _, _, _ => fun i c v hc => by simp at hc
  | [], _ :: _, _, _, h => by cases h
  | _ :: _, [], _, _, h => by cases h
  | c0 :: cs, v0 :: vs, bs, hl, h => by
    obtain ⟨hc0, hcs⟩ := hl
    obtain ⟨b, bs', hb, hbs', rfl⟩ := bindO₂_eq_ok h
    have hbl := (hc0.enc_len v0 b hb).1
    intro i c v hc hv
    cases i with
    | zero =>
      simp only [List.getElem?_cons_zero, Option.some.injEq] at hc hv
      subst hc; subst hv
      simp only [List.take_zero, sumLen, slice, List.drop_zero, Nat.zero_add, Nat.sub_zero]
      rw [← hbl, List.take_left' rfl]
      exact hb
    | succ i =>
      simp only [List.getElem?_cons_succ] at hc hv
      rw [List.take_succ_cons, sumLen, ← slice_drop, ← hbl, List.drop_left' rfl]
      exact encTuple_get cs vs bs' hcs hbs' i c v hc hv

/-- The `split_at_mut` walk panics when the destination is shorter than the tuple's packed length. -/
theorem tuplePackWalk_short : ∀ (cs : List Codec) (vs : List Val) (buf : List Nat), AllLawfulC cs → validTuple cs vs →
    buf.length < sumLen cs → ∃ why, tuplePackWalk cs vs buf = .panic why
  | [], [], _, _, _, h => absurd h (Nat.not_lt_zero _)
  | [], _ :: _, _, _, h, _ => h.elim
  | _ :: _, [], _, _, h, _ => h.elim
  | c :: cs, v :: vs, buf, ⟨hc, hcs⟩, ⟨hv1, hv2⟩, hlen => by
    rw [sumLen] at hlen
    rw [tuplePackWalk]
    by_cases h1 : buf.length < c.len
    · exact ⟨_, if_pos h1⟩
    · obtain ⟨b, hb⟩ := hc.enc_ok v hv1
      obtain ⟨w, hw⟩ := tuplePackWalk_short cs vs (buf.drop c.len) hcs hv2 (by rw [List.length_drop]; omega)
      exact ⟨w, by rw [if_neg h1, packU_take c v (by omega), hb, bindO_ok, hw]; rfl⟩

theorem isCont_low6 (x : Nat) : isCont (128 + x % 64) = true := by
  have := Nat.mod_lt x (by decide : 0 < 64)
  simp only [isCont, Bool.and_eq_true, decide_eq_true_eq]; omega

theorem utf8Valid_one {b : Nat} (h : b < 128) (r : List Nat) : utf8Valid (b :: r) = utf8Valid r := by
  -- `delta`, here and below: the recursion unfolds by computation; the equation lemmas of `utf8Valid` are slow to generate
  delta utf8Valid
  exact if_pos h

theorem utf8Valid_two {b0 b1 : Nat} (h0 : 194 ≤ b0 ∧ b0 ≤ 223) (h1 : isCont b1 = true) (r : List Nat) :
    utf8Valid (b0 :: b1 :: r) = utf8Valid r := by
  delta utf8Valid
  exact (if_neg (by omega)).trans ((if_pos h0).trans (by simp only [h1, Bool.true_and]))

theorem utf8Valid_three {b0 b1 b2 : Nat} (h0 : 224 ≤ b0 ∧ b0 ≤ 239) (h1 : second3 b0 b1 = true) (h2 : isCont b2 = true)
    (r : List Nat) : utf8Valid (b0 :: b1 :: b2 :: r) = utf8Valid r := by
  delta utf8Valid
  exact (if_neg (by omega)).trans ((if_neg (by omega)).trans ((if_pos h0).trans (by simp only [h1, h2, Bool.true_and])))

theorem utf8Valid_four {b0 b1 b2 b3 : Nat} (h0 : 240 ≤ b0 ∧ b0 ≤ 244) (h1 : second4 b0 b1 = true) (h2 : isCont b2 = true)
    (h3 : isCont b3 = true) (r : List Nat) : utf8Valid (b0 :: b1 :: b2 :: b3 :: r) = utf8Valid r := by
  delta utf8Valid
  exact (if_neg (by omega)).trans ((if_neg (by omega)).trans ((if_neg (by omega)).trans ((if_pos h0).trans
    (by simp only [h1, h2, h3, Bool.true_and]))))

theorem utf8Valid_encodeCp (cp : Nat) (h : isScalar cp) (rest : List Nat) :
    utf8Valid (encodeCp cp ++ rest) = utf8Valid rest := by
  unfold encodeCp
  unfold isScalar at h
  by_cases h1 : cp < 128
  · rw [if_pos h1]
    exact utf8Valid_one h1 rest
  by_cases h2 : cp < 2048
  · rw [if_neg h1, if_pos h2]
    exact utf8Valid_two (by omega) (isCont_low6 cp) rest
  rw [if_neg h1, if_neg h2]
  split
  · refine utf8Valid_three (by omega) ?_ (isCont_low6 cp) rest
    unfold second3
    split
    · simp only [Bool.and_eq_true, decide_eq_true_eq]; omega
    split
    · simp only [Bool.and_eq_true, decide_eq_true_eq]; omega
    · exact isCont_low6 _
  · refine utf8Valid_four (by omega) ?_ (isCont_low6 _) (isCont_low6 cp) rest
    unfold second4
    split
    · simp only [Bool.and_eq_true, decide_eq_true_eq]; omega
    split
    · simp only [Bool.and_eq_true, decide_eq_true_eq]; omega
    · exact isCont_low6 _

theorem utf8Valid_encodeStr_append : ∀ (cps : List Nat), (∀ cp ∈ cps, isScalar cp) → ∀ (rest : List Nat),
    utf8Valid (encodeStr cps ++ rest) = utf8Valid rest
  | [], _, _ => rfl
  | cp :: cps, h, rest => by
    obtain ⟨hcp, hcps⟩ := List.forall_mem_cons.mp h
    rw [encodeStr, List.append_assoc, utf8Valid_encodeCp cp hcp, utf8Valid_encodeStr_append cps hcps]

theorem utf8Valid_encodeStr (cps : List Nat) (h : ∀ cp ∈ cps, isScalar cp) : utf8Valid (encodeStr cps) = true := by
  rw [← List.append_nil (encodeStr cps), utf8Valid_encodeStr_append cps h]
  rfl

end Ec.Wire
