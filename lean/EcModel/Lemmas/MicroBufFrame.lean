/-
  What one micro-step does to the storage, whoever takes it: the slots stay as they are (only a
  counter moves), or exactly one slot is rewritten. Its status then stays or moves along one of the
  status writes of the model (`StEdge`), and its buffer stays unless the step is the buffer access
  `bufAccess` names. So `bufAccess` is complete for WRITES; together with
  `MInv.buffer_access_by_insider`: a slot's buffer changes only by a step of a thread inside the slot.
  (Reads cannot be characterised extensionally; the read accesses are `tsRead`, `fpRead`, `itNext`,
  `itRead`, `vrRead`, by inspection of `Micro.stepThread`. Outside `stepThread`'s own cases, the local
  prelude `Micro.begin` of `re` looks at the length of the buffer and of its payload in the slot whose
  `CreatedFrame` the register was just found to hold.)
-/
import EcModel.Lemmas.MicroPc
import EcModel.Lemmas.SlotsLemmas

namespace Ec.Micro

/-- The status writes of `Micro.stepThread`: the compare-exchanges `a → b`, and the two plain stores
    (`mark_sendable`; release of the future). -/
inductive StEdge : St → St → Prop
  | claimCreated : StEdge .none .created
  | dropCreated : StEdge .created .none
  | txClaim : StEdge .sendable .sending
  | txSent : StEdge .sending .sent
  | txRelease : StEdge .sending .sendable
  | rxClaim : StEdge .sent .rxBusy
  | rxDone : StEdge .rxBusy .rxDone
  | rxUnclaim : StEdge .rxBusy .sent
  | pollTake : StEdge .rxDone .rxProcessing
  | retry : StEdge .sent .sendable
  | readerDrop : StEdge .rxProcessing .none
  | storeSendable (a : St) : StEdge a .sendable
  | storeNone (a : St) : StEdge a .none

inductive SysEff (s : Sys) (t : Thread) : Sys → Prop
  | slots {s' : Sys} (h : s'.slots = s.slots) : SysEff s t s'
  | slot (k : Nat) (y : Slot) (hst : y.st = (s.slot k).st ∨ StEdge (s.slot k).st y.st)
      (hbuf : y.buf = (s.slot k).buf ∨ bufAccess t = some k) : SysEff s t (s.setSlot k y)

variable {s s' : Sys} {t : Thread}

theorem slot_setSlot_cases (s : Sys) (i k : Nat) (x : Slot) :
    (s.setSlot i x).slot k = s.slot k ∨ k = i ∧ (s.setSlot i x).slot k = x := by
  rw [slot_setSlot]
  split
  · next h => exact Or.inr ⟨h.1, rfl⟩
  · exact Or.inl rfl

theorem SysEff.st (h : SysEff s t s') (k : Nat) :
    (s'.slot k).st = (s.slot k).st ∨ StEdge (s.slot k).st (s'.slot k).st := by
  cases h with
  | slots h => rw [slot_congr h]; exact Or.inl rfl
  | slot k₀ y hst _ =>
    rcases slot_setSlot_cases s k₀ k y with h | ⟨rfl, h⟩ <;> rw [h]
    · exact Or.inl rfl
    · exact hst

theorem SysEff.buf (h : SysEff s t s') {k : Nat} (hb : bufAccess t ≠ some k) :
    (s'.slot k).buf = (s.slot k).buf := by
  cases h with
  | slots h => rw [slot_congr h]
  | slot k₀ y _ hbuf =>
    rcases slot_setSlot_cases s k₀ k y with h | ⟨rfl, h⟩ <;> rw [h]
    exact hbuf.resolve_right hb

theorem SysEff.cas (k : Nat) (a b : St) (e : StEdge a b) :
    SysEff s t (if (s.slot k).st = a then s.setSlot k { s.slot k with st := b } else s) := by
  split
  · next h => exact .slot _ _ (Or.inr (h ▸ e)) (Or.inl rfl)
  · exact .slots rfl

theorem stepThread_sys (s : Sys) (t : Thread) : SysEff s t (stepThread s t).1 := by
  obtain ⟨prog, pc, regs, outs⟩ := t
  cases pc with
  | idle => exact .slots (congrArg Sys.slots (begin_spec s _).1)
  | alFetch | alWaker | puFetch | tsRead | rxWake | poWaker => exact .slots rfl
  | alFirst | rfClear => exact .slot _ _ (Or.inl rfl) (Or.inl rfl)
  | alBuf | puPatch | mkHdr => exact .slot _ _ (Or.inl rfl) (Or.inr rfl)
  | mkStore => exact .slot _ _ (Or.inr (.storeSendable _)) (Or.inl rfl)
  | poRelease | dfStore => exact .slot _ _ (Or.inr (.storeNone _)) (Or.inl rfl)
  | mkDrop | dcCas => exact .cas _ _ _ .dropCreated
  | rxUnclaim => exact .cas _ _ _ .rxUnclaim
  | rxState | rxMarker | rxVerify | fpRead | itNext | itRead | vrRead =>
    simp only [stepThread]
    repeat' split
    all_goals exact .slots rfl
  | alCas r j idx =>
    simp only [stepThread]
    split
    · next h => exact .slot _ _ (Or.inr (h ▸ .claimCreated)) (Or.inl rfl)
    · split <;> exact .slots rfl
  | puWrite r c data lenOv rest idx =>
    simp only [stepThread]
    split
    · next reg k count last e =>
      have hb : bufAccess ⟨prog, .puWrite r c data lenOv rest idx, regs, outs⟩ = some k := by
        simp only [bufAccess, e]
      repeat' split
      all_goals first
        | exact .slots rfl
        | exact .slot _ _ (Or.inl rfl) (Or.inr hb)
    · exact .slots rfl
  | puFirst r idx out patch =>
    cases patch <;> simp only [stepThread] <;> split
    all_goals first
      | exact .slots rfl
      | exact .slot _ _ (Or.inl rfl) (Or.inl rfl)
  | tnCas r i =>
    simp only [stepThread]
    split
    · next h => exact .slot _ _ (Or.inr (h ▸ .txClaim)) (Or.inl rfl)
    · split <;> exact .slots rfl
  | tsMark r o bytes =>
    simp only [stepThread]
    split
    · next h =>
      refine .slot _ _ (Or.inr ?_) (Or.inl rfl)
      show StEdge _ (if o = 0 then St.sent else St.sendable)
      rw [h]
      split
      · exact .txSent
      · exact .txRelease
    · exact .slots rfl
  | rxClaim k p idx =>
    simp only [stepThread]
    split
    · next h => exact .slot _ _ (Or.inr (h ▸ .rxClaim)) (Or.inl rfl)
    · exact .slots rfl
  | rxCopy k p =>
    simp only [stepThread]
    split
    · exact .slots rfl
    · exact .slot _ _ (Or.inl rfl) (Or.inr rfl)
  | rxMark k =>
    simp only [stepThread]
    split
    · next h => exact .slot _ _ (Or.inr (h ▸ .rxDone)) (Or.inl rfl)
    · exact .slots rfl
  | poCas r =>
    simp only [stepThread]
    split
    · split
      · next h => exact .slot _ _ (Or.inr (h ▸ .pollTake)) (Or.inl rfl)
      · repeat' split
        all_goals exact .slots rfl
    · exact .slots rfl
  | poRetry r was dl =>
    simp only [stepThread]
    split
    · split <;> exact .cas _ _ _ .retry
    · exact .slots rfl
  | rfCas r out =>
    simp only [stepThread]
    split
    · next h => exact .slot _ _ (Or.inr (h ▸ .readerDrop)) (Or.inl rfl)
    · exact .slots rfl

/-- **A step writes no buffer other than the one `bufAccess` names.** -/
theorem buf_unchanged_unless_access (s : Sys) (t : Thread) (k : Nat) (hb : bufAccess t ≠ some k) :
    ((stepThread s t).1.slot k).buf = (s.slot k).buf :=
  (stepThread_sys s t).buf hb

end Ec.Micro
