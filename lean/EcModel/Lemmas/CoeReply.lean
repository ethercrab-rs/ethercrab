/-
  C15 helper lemmas: the client's decoders, the triage of `mailbox_write_read` and `sdo_read` / `sdo_write` on the
  messages of the specification server (`CoeSrv.frame`), whatever their command byte and payload.
-/
import EcModel.Lemmas.CoeBasic
import EcModel.CoeHonest

namespace Ec.Coe
open Ec.Gen.Coe Ec.CoeSrv

theorem mbxCoe_eq : mbxCoe = 3 := by decide
theorem svcEmergency_eq : svcEmergency = 1 := by decide
theorem svcSdoRequest_eq : svcSdoRequest = 2 := by decide
theorem cmdUpload_eq : cmdUpload = 2 := by decide
theorem cmdDownload_eq : cmdDownload = 1 := by decide
theorem cmdAbort_eq : cmdAbort = 4 := by decide
theorem cmdUploadSegment_eq : cmdUploadSegment = 3 := by decide

theorem validDisc_priority (x : Nat) : validDisc priority (bitsOf x 6 2) = true := by
  have h : bitsOf x 6 2 < 4 := Nat.mod_lt _ (by decide)
  generalize bitsOf x 6 2 = p at h
  have : p = 0 ∨ p = 1 ∨ p = 2 ∨ p = 3 := by omega
  rcases this with rfl | rfl | rfl | rfl <;> decide

theorem le16_index {index : Nat} (h : index < 65536) : index % 256 + 256 * (index / 256 % 256) = index := by
  rw [Nat.mod_eq_of_lt (Nat.div_lt_of_lt_mul h : index / 256 < 256), Nat.mod_add_div]

theorem unpackU32_le32 {n : Nat} {rest : List Nat} (h : n < 4294967296) : unpackU32 (le32 n ++ rest) = .ok n := by
  unfold unpackU32
  rw [if_neg (by simp [le32]), rd32_le32_append n h rest]

theorem unpackHeadersRaw_cons {l0 l1 a2 a3 a4 a5 a6 a7 a8 a9 a10 a11 : Nat} {tl : List Nat}
    (hty : validDisc mailboxType (bitsOf a5 0 4) = true) (hsvc : validDisc coeService (bitsOf a7 4 4) = true)
    (hcmd : validDisc coeCommand (bitsOf a8 5 3) = true) :
    unpackHeadersRaw (l0 :: l1 :: a2 :: a3 :: a4 :: a5 :: a6 :: a7 :: a8 :: a9 :: a10 :: a11 :: tl) =
      .ok { header := { length := l0 + 256 * l1, priority := bitsOf a4 6 2, mailboxType := bitsOf a5 0 4,
                        counter := bitsOf a5 4 3 },
            service := bitsOf a7 4 4, command := bitsOf a8 5 3, address := a9 + 256 * a10, subIndex := a11 } := by
  simp [unpackHeadersRaw, unpackMailboxHeader, unpackService, unpackCommand, LEN_HeadersRaw, LEN_MailboxHeader,
    validDisc_priority, hty, hsvc, hcmd, rd16]

theorem unpackCoeHeaders_cons {l0 l1 a2 a3 a4 a5 a6 a7 : Nat} {tl : List Nat}
    (hty : validDisc mailboxType (bitsOf a5 0 4) = true) (hsvc : validDisc coeService (bitsOf a7 4 4) = true) :
    unpackCoeHeaders (l0 :: l1 :: a2 :: a3 :: a4 :: a5 :: a6 :: a7 :: tl) =
      .ok ({ length := l0 + 256 * l1, priority := bitsOf a4 6 2, mailboxType := bitsOf a5 0 4, counter := bitsOf a5 4 3 },
           bitsOf a7 4 4) := by
  simp [unpackCoeHeaders, unpackMailboxHeader, unpackService, LEN_CoeHeadersRaw, LEN_MailboxHeader, validDisc_priority,
    hty, hsvc, rd16]

theorem unpackSdoNormal_cons {l0 l1 a2 a3 a4 a5 a6 a7 a8 a9 a10 a11 : Nat} {tl : List Nat}
    (hty : validDisc mailboxType (bitsOf a5 0 4) = true) (hsvc : validDisc coeService (bitsOf a7 4 4) = true)
    (hcmd : validDisc coeCommand (bitsOf a8 5 3) = true) :
    unpackSdoNormal (l0 :: l1 :: a2 :: a3 :: a4 :: a5 :: a6 :: a7 :: a8 :: a9 :: a10 :: a11 :: tl) =
      .ok { header := { length := l0 + 256 * l1, priority := bitsOf a4 6 2, mailboxType := bitsOf a5 0 4,
                        counter := bitsOf a5 4 3 },
            service := bitsOf a7 4 4, sizeIndicator := bitsOf a8 0 1 != 0, expedited := bitsOf a8 1 1 != 0,
            size := bitsOf a8 2 2, completeAccess := bitsOf a8 4 1 != 0, command := bitsOf a8 5 3,
            index := a9 + 256 * a10, subIndex := a11 } := by
  simp [unpackSdoNormal, unpackMailboxHeader, unpackService, unpackCommand, LEN_SdoNormal, LEN_MailboxHeader,
    validDisc_priority, hty, hsvc, hcmd, rd16]

theorem image_of_le {mbx : Nat} {m : List Nat} (h : m.length ≤ mbx) : image mbx m = m ++ zeros (mbx - m.length) := by
  unfold image
  apply List.take_of_length_le
  simp [zeros]; omega

theorem frame_length (c svc : Nat) (body : List Nat) : (frame c svc body).length = body.length + 8 := by
  simp [frame]

theorem frame_append (c svc b8 b9 b10 b11 : Nat) (rest pad : List Nat) :
    frame c svc (b8 :: b9 :: b10 :: b11 :: rest) ++ pad =
      (2 + (rest.length + 4)) % 256 :: (2 + (rest.length + 4)) / 256 % 256 :: 0 :: 0 :: 0 :: (3 + 16 * (c % 8)) :: 0 ::
        (16 * svc) :: b8 :: b9 :: b10 :: b11 :: (rest ++ pad) := rfl

theorem validDisc_coe (c : Nat) : validDisc mailboxType (bitsOf (3 + 16 * (c % 8)) 0 4) = true := by
  rw [bits_type]; rfl

theorem image_frame {mbx c svc : Nat} {body : List Nat} (h : body.length + 8 ≤ mbx) :
    image mbx (frame c svc body) = frame c svc body ++ zeros (mbx - (body.length + 8)) := by
  rw [image_of_le (by rw [frame_length]; exact h), frame_length]

/-- The triage of an SDO message of the server (service 2 or 3): an abort is reported with its code and the object
    it names, a message that names another object than the one asked for is refused, anything else goes to the
    caller's decoder. -/
theorem triageB_frame {ρ : Type} {u : List Nat → Res ρ} {v : Nat → Nat → Bool} {c svc cb index sub : Nat}
    {rest pad : List Nat} (hsvc : svc = 2 ∨ svc = 3) (hi : index < 65536)
    (hcmd : validDisc coeCommand (bitsOf cb 5 3) = true) :
    triageB u v (frame c svc (cb :: index % 256 :: index / 256 % 256 :: sub :: rest) ++ pad) =
      if bitsOf cb 5 3 = 4 then (unpackU32 (rest ++ pad)).bind fun code => .err (.aborted code index sub)
      else if v index sub then
        (u (frame c svc (cb :: index % 256 :: index / 256 % 256 :: sub :: rest) ++ pad)).bind fun r => .ok (r, rest ++ pad)
      else .err (.responseInvalid index sub) := by
  have hs : validDisc coeService (bitsOf (16 * svc) 4 4) = true ∧ bitsOf (16 * svc) 4 4 ≠ 1 := by
    rcases hsvc with rfl | rfl <;> decide
  unfold triageB
  rw [frame_append, unpackCoeHeaders_cons (validDisc_coe c) hs.1,
    unpackHeadersRaw_cons (validDisc_coe c) hs.1 hcmd]
  simp only [Res.bind_ok, svcEmergency_eq, cmdAbort_eq, mbxCoe_eq, bits_type, le16_index hi, beq_iff_eq, hs.2,
    if_false, bne_self_eq_false, Bool.false_or, LEN_HeadersRaw, List.drop_succ_cons, List.drop_zero]
  cases v index sub <;> rfl

/-- The header an honest SDO response decodes to. -/
def respHeader (length c : Nat) : MbxHeader := { length := length, priority := 0, mailboxType := 3, counter := c % 8 }

theorem triageB_response {u : List Nat → Res SdoNormal} {c cb index sub : Nat} {rest pad : List Nat} (hi : index < 65536)
    (hl : rest.length + 6 < 65536) (hcmd : validDisc coeCommand (bitsOf cb 5 3) = true) (hna : bitsOf cb 5 3 ≠ 4)
    (hu : u (frame c 3 (cb :: index % 256 :: index / 256 % 256 :: sub :: rest) ++ pad) =
      unpackSdoNormal (frame c 3 (cb :: index % 256 :: index / 256 % 256 :: sub :: rest) ++ pad)) :
    triageB u (validateIdx index sub) (frame c 3 (cb :: index % 256 :: index / 256 % 256 :: sub :: rest) ++ pad) =
      .ok ({ header := respHeader (rest.length + 6) c, service := 3, sizeIndicator := bitsOf cb 0 1 != 0,
             expedited := bitsOf cb 1 1 != 0, size := bitsOf cb 2 2, completeAccess := bitsOf cb 4 1 != 0,
             command := bitsOf cb 5 3, index := index, subIndex := sub }, rest ++ pad) := by
  have hlen : 2 + (rest.length + 4) = rest.length + 6 := by omega
  rw [triageB_frame (.inr rfl) hi hcmd, if_neg hna, if_pos (by simp [validateIdx]), hu, frame_append,
    unpackSdoNormal_cons (validDisc_coe c) (by decide) hcmd, hlen, le16_index hl,
    le16_index hi, bits_type, bits_ctr]
  rfl

theorem triageB_emergency {ρ : Type} {u : List Nat → Res ρ} {v : Nat → Nat → Bool} {rmbx c code reg : Nat}
    {data : List Nat} (hr : 16 ≤ rmbx) (hc : code < 65536) (hreg : reg < 256) :
    triageB u v (image rmbx (emergencyMessage c code reg data)) = .err (.emergency code reg) := by
  have h5 : ((data ++ zeros 5).take 5).length = 5 := by simp [zeros]
  unfold triageB
  rw [show emergencyMessage c code reg data = frame c 1 (_ :: _ :: _ :: (data ++ zeros 5).take 5) from rfl,
    image_frame (by simp only [List.length_cons, h5]; exact hr),
    show frame c 1 ((code % 256) :: (code / 256 % 256) :: (reg % 256) :: (data ++ zeros 5).take 5) ++ _ =
      _ :: _ :: 0 :: 0 :: 0 :: (3 + 16 * (c % 8)) :: 0 :: (16 * 1) :: (code % 256) :: (code / 256 % 256) :: (reg % 256) ::
        ((data ++ zeros 5).take 5 ++ _) from rfl,
    unpackCoeHeaders_cons (validDisc_coe c) (by decide)]
  simp only [Res.bind_ok, show bitsOf (16 * 1) 4 4 = svcEmergency from by decide, beq_self_eq_true, if_true,
    LEN_CoeHeadersRaw, List.drop_succ_cons, List.drop_zero, unpackEmergency]
  rw [if_neg (by simp [LEN_EmergencyData, h5])]
  simp only [Res.bind_ok, rd16, List.getD_cons_zero, List.getD_cons_succ, le16_index hc, Nat.mod_eq_of_lt hreg]

theorem triageB_abort {ρ : Type} {u : List Nat → Res ρ} {v : Nat → Nat → Bool} {rmbx c index sub code : Nat}
    (hr : 16 ≤ rmbx) (hi : index < 65536) (hc : code < 4294967296) :
    triageB u v (image rmbx (abortMessage c index sub code)) = .err (.aborted code index sub) := by
  rw [show abortMessage c index sub code = frame c 2 (0x80 :: _ :: _ :: sub :: le32 code) from rfl,
    image_frame hr, triageB_frame (.inl rfl) hi (by decide), if_pos (by decide),
    unpackU32_le32 hc]
  rfl

variable {σ : Type} (w : World σ) (cfg : Cfg) (s : St σ) {d' : σ} {m : List Nat} {rest : List (List Nat)}
  (hm : cfg.hasMailbox = true) (hq : s.outq.length ≤ DRAIN_ROUNDS)

variable {fuel bufLen index : Nat} {access : SubIndex}

include hm hq in
theorem sdoRead_refused {e : Err}
    (hr : w.respond s.dev (image cfg.wmbx (uploadRequest s.ctr index access)) = (d', m :: rest))
    (ht : triageB unpackSdoNormal (validateIdx index access.subIndex) (image cfg.rmbx m) = .err e) :
    sdoRead w cfg fuel bufLen index access s = (.err e, afterReply cfg s d' (uploadRequest s.ctr index access) rest) := by
  unfold sdoRead
  dsimp only
  rw [mailboxCounter_fst, mwr_answered w cfg s hm hq _ _ hr, ht]

include hm hq in
theorem sdoWrite_refused {value : List Nat} {e : Err} (h4 : value.length ≤ 4)
    (hr : w.respond s.dev (image cfg.wmbx
      (downloadRequest s.ctr index access (value ++ zeros (4 - value.length)) value.length)) = (d', m :: rest))
    (ht : triageB unpackSdoExpedited (validateIdx index access.subIndex) (image cfg.rmbx m) = .err e) :
    (sdoWrite w cfg index access value s).1 = .err e := by
  unfold sdoWrite
  dsimp only
  rw [if_neg (show ¬ value.length > WRITE_MAX from Nat.not_lt.mpr h4), mailboxCounter_fst,
    mwr_answered w cfg s hm hq _ _ hr, ht]

theorem bits_expedited (n : Nat) (c : Bool) (h1 : 1 ≤ n) (h4 : n ≤ 4) :
    bitsOf (0x43 + 4 * (4 - n) + completeBit c) 5 3 = 2 ∧ bitsOf (0x43 + 4 * (4 - n) + completeBit c) 1 1 = 1 ∧
      bitsOf (0x43 + 4 * (4 - n) + completeBit c) 2 2 = 4 - n := by
  have : n = 1 ∨ n = 2 ∨ n = 3 ∨ n = 4 := by omega
  rcases this with rfl | rfl | rfl | rfl <;> cases c <;> decide

theorem bits_normal (c : Bool) :
    bitsOf (0x41 + completeBit c) 5 3 = 2 ∧ bitsOf (0x41 + completeBit c) 1 1 = 0 := by
  cases c <;> decide

include hm hq in
theorem sdoRead_expedited_reply {c : Nat} {obj : List Nat} (hr : 16 ≤ cfg.rmbx) (hi : index < 65536) (h1 : 1 ≤ obj.length)
    (h4 : obj.length ≤ 4)
    (hresp : w.respond s.dev (image cfg.wmbx (uploadRequest s.ctr index access)) =
      (d', expeditedResponse c index access.subIndex access.completeAccess obj :: rest)) :
    sdoRead w cfg fuel bufLen index access s = (.ok obj, afterReply cfg s d' (uploadRequest s.ctr index access) rest) := by
  obtain ⟨hb5, hb1, hb2⟩ := bits_expedited obj.length access.completeAccess h1 h4
  have hlen : (obj ++ zeros (4 - obj.length)).length = 4 := by rw [List.length_append, zeros_length]; omega
  unfold sdoRead
  dsimp only
  rw [mailboxCounter_fst, mwr_answered w cfg s hm hq _ _ hresp,
    show expeditedResponse c index access.subIndex access.completeAccess obj = frame c 3 (_ :: _ :: _ :: _ ::
      (obj ++ zeros (4 - obj.length))) from rfl,
    image_frame (by simp only [List.length_cons, hlen]; omega),
    triageB_response hi (by omega) (by rw [hb5]; decide) (by rw [hb5]; decide) rfl]
  dsimp only
  rw [hb1, hb2, if_pos (by decide), if_pos (by rw [List.length_append, hlen]; unfold EXPEDITED_MAX; omega),
    show EXPEDITED_MAX - (4 - obj.length) = obj.length from by unfold EXPEDITED_MAX; omega, List.append_assoc,
    List.take_left']
  rfl

include hm hq in
/-- `sdo_read` when the device answers with a normal response that announces `size` bytes and carries `part`: too
    long for the destination, or complete, or the start of a segmented transfer (whose first part is then dropped). -/
theorem sdoRead_normal_reply {c size : Nat} {part : List Nat} (hfit : part.length + 16 ≤ cfg.rmbx) (hr : cfg.rmbx < 65536)
    (hi : index < 65536) (hs32 : size < 4294967296)
    (hresp : w.respond s.dev (image cfg.wmbx (uploadRequest s.ctr index access)) =
      (d', normalResponse c index access.subIndex access.completeAccess size part :: rest)) :
    sdoRead w cfg fuel bufLen index access s =
      if size > bufLen % 4294967296 then
        (.err (.tooLong index access.subIndex), afterReply cfg s d' (uploadRequest s.ctr index access) rest)
      else if size ≤ part.length then (.ok part, afterReply cfg s d' (uploadRequest s.ctr index access) rest)
      else segLoop w cfg fuel false (zeros bufLen) 0 (afterReply cfg s d' (uploadRequest s.ctr index access) rest) := by
  obtain ⟨hb5, hb1⟩ := bits_normal access.completeAccess
  have hlen : (le32 size ++ part).length = part.length + 4 := by rw [List.length_append, le32_length]; omega
  unfold sdoRead
  dsimp only
  rw [mailboxCounter_fst, mwr_answered w cfg s hm hq _ _ hresp,
    show normalResponse c index access.subIndex access.completeAccess size part = frame c 3 (_ :: _ :: _ :: _ ::
      (le32 size ++ part)) from rfl,
    image_frame (by simp only [List.length_cons, hlen]; omega),
    triageB_response hi (by omega) (by rw [hb5]; decide) (by rw [hb5]; decide) rfl]
  dsimp only
  rw [hb1, if_neg (by decide), List.append_assoc, unpackU32_le32 hs32]
  dsimp only
  rw [List.drop_left' (le32_length _), hlen,
    show (respHeader (part.length + 4 + 6) c).length - UPLOAD_HEADER_LEN = part.length from by
      show part.length + 4 + 6 - 10 = part.length; omega,
    if_pos (show part.length ≤ (part ++ zeros _).length by rw [List.length_append]; exact Nat.le_add_right _ _),
    List.take_left' rfl]

end Ec.Coe
