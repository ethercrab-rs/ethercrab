/-
  Lemmas for C17: the topology part of the loop in isolation (`topoLoop`), its independence
  of receive times (`shape`), and the induction over the physical tree of EcModel/DcSpec.lean
  (`Processes`, `topoLoop_tree`). Then the devices of a tree as the MainDevice latches them (`devsOf`):
  without a wrap they are `Good2`, and their shapes are the ones the induction ran over.
-/
import EcModel.Lemmas.DcBasic
import EcModel.DcSpec
namespace Ec.Dc
open Ec

def Port.shape (q : Port) : Port := { q with time := 0 }
def Ports.shape (p : Ports) : Ports := ⟨p.a0.shape, p.a1.shape, p.a2.shape, p.a3.shape⟩
/-- A device with everything the topology code does not look at erased (times, delay, clock). -/
def Dev.shape (d : Dev) : Dev := ⟨d.index, d.ports.shape, d.dc, 0, d.parent, 0⟩

/-- The port that first sees traffic is port 0: it is open and no open port latched earlier. -/
def EntryZero (p : Ports) : Prop :=
  p.a0.active = true ∧ ∀ q ∈ p.toList, q.active = true → p.a0.time ≤ q.time

theorem shape_index (d : Dev) : d.shape.index = d.index := rfl

theorem activePorts_shape (p : Ports) :
    p.shape.activePorts = p.activePorts.map (fun q => (q.1, q.2.shape)) :=
  List.filter_map (f := fun q : Nat × Port => (q.1, q.2.shape)) (l := p.indexed)

theorem topology_shape (p : Ports) : p.shape.topology = p.topology := by
  rw [Ports.topology, Ports.openPorts, activePorts_shape, List.length_map]; rfl

theorem hasFreeDownstream_shape (p : Ports) : p.shape.hasFreeDownstream = p.hasFreeDownstream := by
  rw [Ports.hasFreeDownstream, activePorts_shape, List.filter_map, List.length_map]; rfl

theorem cycleSkipTake_map {α β : Type} (f : α → β) (l : List α) (s n : Nat) :
    cycleSkipTake (l.map f) s n = (cycleSkipTake l s n).map f := by
  unfold cycleSkipTake
  by_cases h : l.length = 0
  · simp [h]
  · simp only [List.length_map, h, if_false]
    rw [List.map_filterMap]
    congr 1
    funext j
    simp [List.getElem?_map]

theorem nextAssignable_shape (p : Ports) (e : Nat) : p.shape.nextAssignable e = p.nextAssignable e := by
  unfold Ports.nextAssignable
  rw [activePorts_shape, cycleSkipTake_map, List.find?_map, Option.map_map]
  rfl

theorem setDownstream_shape (p : Ports) (i : Nat) (v : Option Nat) :
    (p.setDownstream i v).shape = p.shape.setDownstream i v := by
  unfold Ports.setDownstream
  split <;> rfl

theorem entryZero_iff (p : Ports) : EntryZero p ↔ p.a0.active = true ∧
    (p.a1.active = true → p.a0.time ≤ p.a1.time) ∧ (p.a2.active = true → p.a0.time ≤ p.a2.time) ∧
    (p.a3.active = true → p.a0.time ≤ p.a3.time) := by
  simp [EntryZero, Ports.toList]

theorem entryZero_of_zero (p : Ports) (h : p.a0.active = true) (h0 : p.a0.time = 0) : EntryZero p :=
  ⟨h, fun _ _ _ => h0 ▸ Nat.zero_le _⟩

theorem entryZero_shape (p : Ports) (h : p.a0.active = true) : EntryZero p.shape := entryZero_of_zero _ h rfl

theorem entryZero_setDownstream (p : Ports) (i : Nat) (v : Option Nat) (h : EntryZero p) :
    EntryZero (p.setDownstream i v) := by
  rw [entryZero_iff] at h ⊢
  unfold Ports.setDownstream
  split <;> exact h

theorem activePorts_a0 (p : Ports) (h : p.a0.active = true) :
    p.activePorts = (0, p.a0) :: [(1, p.a1), (2, p.a2), (3, p.a3)].filter (fun q => q.2.active) := by
  simp only [Ports.activePorts, Ports.indexed, List.filter_cons, h, if_true]

theorem minByTime_head (x : Nat × Port) (xs : List (Nat × Port)) (h : ∀ y ∈ xs, x.2.time ≤ y.2.time) :
    minByTime (x :: xs) = some x := by
  unfold minByTime
  cases hm : minByTime xs with
  | none => rfl
  | some y =>
    have hne : xs ≠ [] := by intro e; subst e; cases hm
    rcases minByTime_some hne with ⟨e, he, hmem⟩
    rw [hm] at he; cases he
    exact if_neg (Nat.not_lt.2 (h y hmem))

theorem entryPort_entryZero (p : Ports) (h : EntryZero p) : p.entryPort = .ok (0, p.a0) := by
  rw [Ports.entryPort, activePorts_a0 p h.1, minByTime_head]
  intro y hy
  rcases List.mem_filter.1 hy with ⟨hy1, hy2⟩
  refine h.2 y.2 ?_ hy2
  simp only [List.mem_cons, List.mem_nil_iff, or_false] at hy1
  rcases hy1 with rfl | rfl | rfl <;> simp [Ports.toList]

theorem assignNext_shape (p : Ports) (x : Nat) (h : EntryZero p) :
    p.shape.assignNext x = andThen (p.assignNext x) fun r => .ok (r.map fun r => (r.1.shape, r.2)) := by
  unfold Ports.assignNext
  rw [entryPort_entryZero p h, entryPort_entryZero p.shape (entryZero_shape p h.1)]
  simp only [nextAssignable_shape]
  cases p.nextAssignable 0 with
  | none => rfl
  | some i => simp only [andThen, Option.map_some, setDownstream_shape]

/-- Slot `k ∈ {1,2,3}` is the first open downstream slot that is still free. -/
def FirstFree (P : Ports) (k : Nat) : Prop :=
  (k = 1 ∧ P.a1.active = true ∧ P.a1.downstream = none) ∨
  (k = 2 ∧ P.a2.active = true ∧ P.a2.downstream = none ∧ (P.a1.active = true → P.a1.downstream ≠ none)) ∨
  (k = 3 ∧ P.a3.active = true ∧ P.a3.downstream = none ∧ (P.a1.active = true → P.a1.downstream ≠ none) ∧
     (P.a2.active = true → P.a2.downstream ≠ none))

/-- Starting one past the head, a cyclic walk of four steps runs through the (≤ 3) tail first. -/
theorem cycleSkipTake_one {α : Type} (x : α) (xs : List α) (h : xs.length ≤ 3) :
    ∃ more, cycleSkipTake (x :: xs) 1 4 = xs ++ x :: more := by
  have range4 : List.range 4 = [0, 1, 2, 3] := rfl
  match xs, h with
  | [], _ | [_], _ | [_, _], _ | [_, _, _], _ => simp [cycleSkipTake, range4]

theorem nextAssignable_firstFree (P : Ports) (k : Nat) (h0 : P.a0.active = true) (h : FirstFree P k) :
    P.nextAssignable 0 = some k := by
  obtain ⟨more, hm⟩ := cycleSkipTake_one (0, P.a0)
    ([(1, P.a1), (2, P.a2), (3, P.a3)].filter (fun q => q.2.active)) (List.length_filter_le _ _)
  rw [Ports.nextAssignable, activePorts_a0 P h0, hm, List.find?_append, List.find?_filter]
  rcases h with ⟨rfl, a, d⟩ | ⟨rfl, a, d, n1⟩ | ⟨rfl, a, d, n1, n2⟩
  · simp [List.find?_cons, a, d]
  · by_cases a1 : P.a1.active = true <;> simp [List.find?_cons, a, d, a1, n1]
  · by_cases a1 : P.a1.active = true <;> by_cases a2 : P.a2.active = true <;>
      simp [List.find?_cons, a, d, a1, a2, n1, n2]

/-- `assignLoop` with `configure_subdevice_offsets` left out (proof device, not a model of code). -/
def topoLoop : List Dev → List Dev → Outcome Err (List Dev)
  | ps, [] => .ok ps
  | ps, sd :: rest =>
    match findParent ps with
    | .panic w => .panic w
    | .err e => .err e
    | .ok pidx =>
      match assignStep ps pidx sd.index with
      | .panic w => .panic w
      | .err e => .err e
      | .ok ps' => topoLoop (ps' ++ [{ sd with parent := pidx }]) rest

theorem topoLoop_cons (ps : List Dev) (sd : Dev) (rest : List Dev) :
    topoLoop ps (sd :: rest) =
      andThen (findParent ps) fun pidx => andThen (assignStep ps pidx sd.index) fun ps' =>
        topoLoop (ps' ++ [{ sd with parent := pidx }]) rest := by
  rw [topoLoop]
  cases findParent ps <;> try rfl
  dsimp only [andThen]
  cases assignStep ps _ sd.index <;> rfl

theorem findJunction_shape (l : List Dev) : findJunction (l.map Dev.shape) = findJunction l := by
  induction l with
  | nil => rfl
  | cons d ds ih =>
    simp only [List.map_cons, findJunction]
    rw [show d.shape.ports.topology = d.ports.topology from topology_shape d.ports,
      show d.shape.ports.hasFreeDownstream = d.ports.hasFreeDownstream from hasFreeDownstream_shape d.ports, ih]
    rfl

theorem findParent_shape (ps : List Dev) : findParent (ps.map Dev.shape) = findParent ps := by
  unfold findParent
  rw [← List.map_reverse]
  cases ps.reverse with
  | nil => rfl
  | cons p rest =>
    simp only [List.map_cons]
    rw [show p.shape.ports.topology = p.ports.topology from topology_shape p.ports, findJunction_shape]
    rfl

theorem replaceFirst_shape (pi : Nat) (new : Dev) (l : List Dev) :
    (replaceFirst (fun p => p.index == pi) new l).map Dev.shape
      = replaceFirst (fun p => p.index == pi) new.shape (l.map Dev.shape) := by
  induction l with
  | nil => rfl
  | cons d ds ih =>
    unfold replaceFirst
    simp only [List.map_cons, shape_index]
    by_cases c : (d.index == pi) = true
    · simp [c]
    · simp [c, ih]

theorem find_shape (pi : Nat) (l : List Dev) :
    (l.map Dev.shape).find? (fun p => p.index == pi) = (l.find? (fun p => p.index == pi)).map Dev.shape :=
  List.find?_map

theorem assignStep_shape (ps : List Dev) (pidx : Option Nat) (si : Nat) (hz : ∀ d ∈ ps, EntryZero d.ports) :
    assignStep (ps.map Dev.shape) pidx si = andThen (assignStep ps pidx si) fun l => .ok (l.map Dev.shape) := by
  cases pidx with
  | none => rfl
  | some pi =>
    show assignOnParent (ps.map Dev.shape) pi si = andThen (assignOnParent ps pi si) _
    unfold assignOnParent
    rw [find_shape]
    cases hf : ps.find? (fun p => p.index == pi) with
    | none => rfl
    | some par =>
      simp only [Option.map_some]
      split
      · rfl
      · rw [show par.shape.ports = par.ports.shape from rfl,
          assignNext_shape par.ports si (hz par (List.mem_of_find?_eq_some hf))]
        cases par.ports.assignNext si with
        | panic w => rfl
        | err e => rfl
        | ok r =>
          cases r with
          | none => rfl
          | some r => simp only [andThen, Option.map_some, replaceFirst_shape]; rfl

/-- A device of a physical tree: `Good`, and the frame comes in at port 0. -/
def Good2 (d : Dev) : Prop := Good d ∧ EntryZero d.ports

/-- Between good devices with entry port 0 the delay step always goes through and changes nothing
    the parent search looks at: the topology part alone decides how the real loop ends. -/
theorem assignLoop_of_topo (m : Mode) (rest : List Dev) :
    ∀ (ps : List Dev) (accum : Nat) (out' : List Dev),
    (∀ d ∈ ps, Good2 d) → (∀ d ∈ rest, Good2 d) →
    topoLoop (ps.map Dev.shape) (rest.map Dev.shape) = .ok out' →
    ∃ out, assignLoop m ps accum rest = .ok out ∧ out.map Dev.shape = out' := by
  induction rest with
  | nil => intro ps accum out' _ _ h; cases h; exact ⟨ps, rfl, rfl⟩
  | cons sd rest ih =>
    intro ps accum out' hps hrest h
    obtain ⟨hsd, hrest'⟩ := List.forall_mem_cons.1 hrest
    rw [List.map_cons, topoLoop_cons, findParent_shape, shape_index, andThen_eq_ok] at h
    obtain ⟨pidx, hfp, h⟩ := h
    rw [assignStep_shape ps pidx sd.index (fun d hd => (hps d hd).2)] at h
    simp only [andThen_eq_ok] at h
    obtain ⟨_, ⟨ps', ha, h1⟩, h⟩ := h
    cases h1
    have hg' : ∀ d ∈ ps', Good2 d := assignStep_forall (Q := fun p => (1 ≤ p.openPorts ∧ TimesOk p) ∧ EntryZero p)
      (fun p k v hp => ⟨good_setDownstream p k v hp.1, entryZero_setDownstream p k v hp.2⟩) hps ha
    have ⟨r, hc⟩ := devStep_total m { sd with parent := pidx } ps' accum hsd.1 (fun d hd => (hg' d hd).1)
      fun pi (h : pidx = some pi) => assignStep_parent (h ▸ ha)
    obtain ⟨dl, hr⟩ := devStep_delay_only hc
    simp only [assignLoop_cons, hfp, andThen, ha, hc]
    refine ih (ps' ++ [r.1]) r.2 out' (List.forall_mem_append.2 ⟨hg', List.forall_mem_singleton.2 (hr ▸ hsd)⟩)
      hrest' ?_
    rw [List.map_append, List.map_singleton, hr]; exact h

open Ec.DcSpec

/-- `NoWrap` of a concrete tree is decided by evaluation. -/
instance decNoWrap : (T : Tree) → (tin : Nat) → Decidable (NoWrap T tin)
  | .none, _ => isTrue trivial
  | .node _ c3 c1 c2, _ =>
    have := decNoWrap c3
    have := decNoWrap c1
    have := decNoWrap c2
    by unfold NoWrap; exact inferInstance

def rootPorts (c3 c1 c2 : Tree) (d1 d2 d3 : Option Nat) : Ports :=
  ⟨⟨true, 0, none⟩, ⟨c3.isNode, 0, d1⟩, ⟨c1.isNode, 0, d2⟩, ⟨c2.isNode, 0, d3⟩⟩

/-- Shapes of the devices of a tree in frame order, discovery positions from `b`. -/
def shapeOf : Tree → Nat → List Dev
  | .none, _ => []
  | .node p c3 c1 c2, b =>
    ⟨b, rootPorts c3 c1 c2 none none none, p.dc != 0, 0, none, 0⟩ ::
      (shapeOf c3 (b + 1) ++ shapeOf c1 (b + 1 + c3.size) ++ shapeOf c2 (b + 1 + c3.size + c1.size))

/-- What the topology code should produce: parents and downstream ports as wired. -/
def expected : Tree → Nat → Option Nat → List Dev
  | .none, _, _ => []
  | .node p c3 c1 c2, b, par =>
    ⟨b, rootPorts c3 c1 c2 (if c3.isNode then some (b + 1) else none)
          (if c1.isNode then some (b + 1 + c3.size) else none)
          (if c2.isNode then some (b + 1 + c3.size + c1.size) else none), p.dc != 0, 0, par, 0⟩ ::
      (expected c3 (b + 1) (some b) ++ expected c1 (b + 1 + c3.size) (some b)
        ++ expected c2 (b + 1 + c3.size + c1.size) (some b))

theorem shapeOf_length (T : Tree) : ∀ b, (shapeOf T b).length = T.size := by
  induction T with
  | none => intro b; rfl
  | node p c3 c1 c2 ih3 ih1 ih2 =>
    intro b; simp only [shapeOf, Tree.size, List.length_cons, List.length_append, ih3, ih1, ih2]; omega

theorem expected_length (T : Tree) : ∀ b par, (expected T b par).length = T.size := by
  induction T with
  | none => intro b par; rfl
  | node p c3 c1 c2 ih3 ih1 ih2 =>
    intro b par; simp only [expected, Tree.size, List.length_cons, List.length_append, ih3, ih1, ih2]; omega

theorem isNode_of_expected_nil {T : Tree} {b : Nat} {par : Option Nat} (h : expected T b par = []) :
    T.isNode = false := by
  cases T with
  | none => rfl
  | node _ _ _ _ => cases h

/-- Discovery positions: `l[j].index = base + j`. -/
def Indexed : Nat → List Dev → Prop
  | _, [] => True
  | base, d :: ds => d.index = base ∧ Indexed (base + 1) ds

theorem indexed_append (l1 l2 : List Dev) : ∀ base, Indexed base (l1 ++ l2) ↔ Indexed base l1 ∧ Indexed (base + l1.length) l2 := by
  induction l1 with
  | nil => intro base; simp [Indexed]
  | cons d ds ih =>
    intro base
    simp only [List.cons_append, Indexed, ih, List.length_cons]
    rw [show base + 1 + ds.length = base + (ds.length + 1) by omega]
    exact and_assoc.symm

theorem indexed_mem (l : List Dev) : ∀ base, Indexed base l → ∀ x ∈ l, base ≤ x.index ∧ x.index < base + l.length := by
  induction l with
  | nil => intro base _ x hx; cases hx
  | cons d ds ih =>
    intro base h x hx
    rcases h with ⟨h1, h2⟩
    simp only [List.length_cons]
    rcases List.mem_cons.1 hx with rfl | hx
    · omega
    · have := ih (base + 1) h2 x hx; omega

theorem rootPorts_open (c3 c1 c2 : Tree) (d1 d2 d3 : Option Nat) :
    (rootPorts c3 c1 c2 d1 d2 d3).openPorts = 1 + c3.isNode.toNat + c1.isNode.toNat + c2.isNode.toNat :=
  openPorts_eq _

theorem rootPorts_topology (c3 c1 c2 : Tree) (d1 d2 d3 : Option Nat) :
    ∃ t, (rootPorts c3 c1 c2 d1 d2 d3).topology = .ok t ∧
      (2 ≤ 1 + c3.isNode.toNat + c1.isNode.toNat + c2.isNode.toNat → t ≠ .lineEnd) ∧
      (3 ≤ 1 + c3.isNode.toNat + c1.isNode.toNat + c2.isNode.toNat → t.isJunction = true) := by
  unfold Ports.topology
  rw [rootPorts_open]
  cases c3.isNode <;> cases c1.isNode <;> cases c2.isNode <;> exact ⟨_, rfl, by decide, by decide⟩

/-- The junction search of `find_subdevice_parent` walks past such a device: it is not a junction,
    or none of its downstream ports is free any more. -/
def Closed (d : Dev) : Prop :=
  ∃ t, d.ports.topology = .ok t ∧ (t.isJunction && d.ports.hasFreeDownstream) = false

theorem rootPorts_full (c3 c1 c2 : Tree) (v3 v1 v2 : Nat) :
    (rootPorts c3 c1 c2 (if c3.isNode then some v3 else none) (if c1.isNode then some v1 else none)
      (if c2.isNode then some v2 else none)).hasFreeDownstream = false := by
  unfold rootPorts
  cases c3.isNode <;> cases c1.isNode <;> cases c2.isNode <;> rfl

/-- While an open downstream slot is unassigned there is a free downstream port: the entry port
    is never assigned, which makes two. -/
theorem firstFree_hasFree (P : Ports) (k : Nat) (h0 : P.a0.active = true) (hd : P.a0.downstream = none)
    (hk : FirstFree P k) : P.hasFreeDownstream = true := by
  simp only [Ports.hasFreeDownstream, Ports.activePorts, Ports.indexed, List.filter_filter,
    ← List.countP_eq_length_filter, List.countP_cons, List.countP_nil, h0, hd]
  rcases hk with ⟨-, a, d⟩ | ⟨-, a, d, -⟩ | ⟨-, a, d, -⟩ <;> simp only [a, d] <;> simp <;> omega

def LeafEnd (l : List Dev) : Prop := ∀ d, l.getLast? = some d → d.ports.topology = .ok .lineEnd

theorem leafEnd_append {l1 l2 : List Dev} (h1 : LeafEnd l1) (h2 : LeafEnd l2) : LeafEnd (l1 ++ l2) := by
  intro d hd
  rw [List.getLast?_append] at hd
  cases h : l2.getLast? with
  | none => rw [h] at hd; exact h1 d hd
  | some x => rw [h] at hd; cases hd; exact h2 _ h

/-- What the completed earlier branches of a device leave behind it in the list: closed devices at
    consecutive positions from `b`, ending (if there are any) in a line end. -/
structure Done (b : Nat) (D : List Dev) : Prop where
  closed : ∀ d ∈ D, Closed d
  leaf : LeafEnd D
  idx : Indexed b D

theorem done_nil (b : Nat) : Done b [] := ⟨fun _ h => (by cases h), fun _ h => (by cases h), trivial⟩

theorem done_append {b : Nat} {D E : List Dev} (hD : Done b D) (hE : Done (b + D.length) E) : Done b (D ++ E) :=
  ⟨List.forall_mem_append.2 ⟨hD.closed, hE.closed⟩, leafEnd_append hD.leaf hE.leaf,
    (indexed_append _ _ _).2 ⟨hD.idx, hE.idx⟩⟩

theorem done_cons {b : Nat} {d : Dev} {D : List Dev} (hi : d.index = b) (hc : Closed d)
    (hl : D = [] → d.ports.topology = .ok .lineEnd) (hD : Done (b + 1) D) : Done b (d :: D) := by
  refine ⟨List.forall_mem_cons.2 ⟨hc, hD.closed⟩, fun x hx => ?_, hi, hD.idx⟩
  rw [List.getLast?_cons] at hx
  cases hx
  cases h : D.getLast? with
  | none => exact hl (List.getLast?_eq_none_iff.1 h)
  | some y => exact hD.leaf y h

/-- Whatever its shape: the junctions with a free downstream port are exactly the ancestors of the
    next device's attachment point, and none of them is inside a completely processed subtree. -/
theorem done_expected (T : Tree) : ∀ b par, Done b (expected T b par) := by
  induction T with
  | none => exact fun b _ => done_nil b
  | node p c3 c1 c2 ih3 ih1 ih2 =>
    intro b par
    have h31 := done_append (ih3 (b + 1) (some b)) (by rw [expected_length]; exact ih1 _ (some b))
    have hk := done_append h31 (by
      rw [List.length_append, expected_length, expected_length, ← Nat.add_assoc]; exact ih2 _ (some b))
    rcases rootPorts_topology c3 c1 c2 (if c3.isNode then some (b + 1) else none)
      (if c1.isNode then some (b + 1 + c3.size) else none)
      (if c2.isNode then some (b + 1 + c3.size + c1.size) else none) with ⟨t, ht, _, _⟩
    refine done_cons rfl ⟨t, ht, by simp only [rootPorts_full, Bool.and_false]⟩ (fun hnil => ?_) hk
    -- no descendants: all three ports are closed
    simp only [List.append_eq_nil_iff] at hnil
    show (rootPorts c3 c1 c2 _ _ _).topology = _
    unfold Ports.topology
    rw [rootPorts_open, isNode_of_expected_nil hnil.1.1, isNode_of_expected_nil hnil.1.2,
      isNode_of_expected_nil hnil.2]
    rfl

theorem expected_index (T : Tree) : ∀ b par, ∀ d ∈ expected T b par, b ≤ d.index ∧ d.index < b + T.size :=
  fun b par d hd => expected_length T b par ▸ indexed_mem _ b (done_expected T b par).idx d hd

theorem findJunction_skip (l more : List Dev) (h : ∀ d ∈ l, Closed d) :
    findJunction (l ++ more) = findJunction more := by
  induction l with
  | nil => rfl
  | cons d ds ih =>
    rcases h d (List.mem_cons_self ..) with ⟨t, ht, hc⟩
    simp only [List.cons_append, findJunction, ht, hc, ih (fun x hx => h x (List.mem_cons_of_mem _ hx))]
    rfl

/-- Parent search for the next child of `nd`, after the completed earlier branches `D`: `nd` is the
    last device if there are none; otherwise the search starts at a line end, walks back over `D`
    and stops at `nd`, which must be a junction with a free downstream port. -/
theorem findParent_phase (pre D : List Dev) (nd : Dev) (t : Topology)
    (ht : nd.ports.topology = .ok t) (hD : ∀ d ∈ D, Closed d) (hleaf : LeafEnd D) (h0 : t ≠ .lineEnd)
    (h1 : D ≠ [] → (t.isJunction && nd.ports.hasFreeDownstream) = true) :
    findParent (pre ++ [nd] ++ D) = .ok (some nd.index) := by
  unfold findParent
  rcases List.eq_nil_or_concat D with rfl | ⟨D', last, rfl⟩
  · simp only [List.append_nil, List.reverse_append, List.reverse_cons, List.reverse_nil, List.nil_append,
      List.cons_append, ht]
  · rw [List.concat_eq_append] at hleaf hD h1 ⊢
    have hl := hleaf last (by simp)
    have hrev : (pre ++ [nd] ++ (D' ++ [last])).reverse = last :: (D'.reverse ++ (nd :: pre.reverse)) := by
      simp [List.reverse_append]
    rw [hrev]
    simp only [hl]
    rw [findJunction_skip D'.reverse _ fun d hd => hD d (List.mem_append_left _ (List.mem_reverse.1 hd))]
    simp only [findJunction, ht, h1 (by simp), if_true]

/-- Discovery positions below the length: what makes `find(index == b)` skip the prefix. -/
def Below (l : List Dev) : Prop := ∀ x ∈ l, x.index < l.length

theorem assignOnParent_phase (pre D : List Dev) (nd : Dev) (k cb : Nat)
    (hpre : ∀ x ∈ pre, x.index ≠ nd.index) (hcb : cb ≠ 0)
    (hz : EntryZero nd.ports) (hk : FirstFree nd.ports k) :
    assignOnParent (pre ++ [nd] ++ D) nd.index cb
      = .ok (pre ++ [{ nd with ports := nd.ports.setDownstream k (some cb) }] ++ D) := by
  have hpre' : ∀ x ∈ pre, (x.index == nd.index) = false := fun x hx => by simpa using hpre x hx
  have hf : (pre ++ nd :: D).find? (fun p => p.index == nd.index) = some nd :=
    List.find?_eq_some_iff_append.2 ⟨beq_self_eq_true _, pre, D, rfl, fun x hx => by simp [hpre' x hx]⟩
  unfold assignOnParent
  rw [List.append_assoc, List.singleton_append, hf]
  simp only [hcb, if_false]
  unfold Ports.assignNext
  rw [entryPort_entryZero _ hz]
  simp only
  rw [nextAssignable_firstFree _ k hz.1 hk]
  simp only
  rw [replaceFirst_append _ _ _ _ _ hpre' (beq_self_eq_true _), List.append_assoc, List.singleton_append]

/-- The statement proved by induction over the tree (any shape): once the root of a subtree has been
    appended to ANY processed prefix (with its parent recorded), processing all its descendants
    yields exactly the wiring of the subtree and leaves the prefix untouched. -/
def Processes : Tree → Prop
  | .none => True
  | .node p c3 c1 c2 => ∀ (pre rest : List Dev) (par : Option Nat), Indexed 0 pre →
    topoLoop (pre ++ [⟨pre.length, rootPorts c3 c1 c2 none none none, p.dc != 0, 0, par, 0⟩])
        (shapeOf c3 (pre.length + 1) ++ shapeOf c1 (pre.length + 1 + c3.size)
          ++ shapeOf c2 (pre.length + 1 + c3.size + c1.size) ++ rest)
      = topoLoop (pre ++ expected (.node p c3 c1 c2) pre.length par) rest

/-- One branch `c` of `nd`, on slot `k`, processed after the completed earlier branches `D`; nothing
    happens when the port is closed. -/
theorem child_phase (c : Tree) (ihc : Processes c)
    (pre D : List Dev) (nd : Dev) (k : Nat) (rest : List Dev)
    (hidx : Indexed 0 pre) (hi : nd.index = pre.length) (hD : Done (pre.length + 1) D) (hz : EntryZero nd.ports)
    (hfree : nd.ports.setDownstream k none = nd.ports)
    (hk : c.isNode = true → FirstFree nd.ports k ∧ findParent (pre ++ [nd] ++ D) = .ok (some nd.index)) :
    topoLoop (pre ++ [nd] ++ D) (shapeOf c (pre.length + 1 + D.length) ++ rest)
      = topoLoop (pre ++
          [{ nd with ports := nd.ports.setDownstream k (if c.isNode then some (pre.length + 1 + D.length) else none) }]
          ++ (D ++ expected c (pre.length + 1 + D.length) (some nd.index))) rest := by
  cases c with
  | none =>
    simp only [Tree.isNode, Bool.false_eq_true, if_false, hfree, expected, shapeOf, List.append_nil, List.nil_append]
  | node p' a b' d =>
    rw [if_pos (show (Tree.node p' a b' d).isNode = true from rfl)]
    rcases hk rfl with ⟨hk, hfp⟩
    have hpre : ∀ x ∈ pre, x.index ≠ nd.index := fun x hx => by
      have := indexed_mem pre 0 hidx x hx; omega
    rw [shapeOf, List.cons_append, topoLoop_cons, hfp]
    simp only [andThen, assignStep]
    rw [assignOnParent_phase pre D nd k _ hpre (by omega) hz hk]
    dsimp only
    have := ihc (pre ++ [{ nd with ports := nd.ports.setDownstream k (some (pre.length + 1 + D.length)) }] ++ D)
      rest (some nd.index)
      ((indexed_append _ _ _).2 ⟨(indexed_append _ _ _).2 ⟨hidx, by simp [Indexed, hi]⟩, by simpa using hD.idx⟩)
    simp only [List.length_append, List.length_cons, List.length_nil] at this
    rw [this, List.append_assoc (pre ++ _)]

theorem rootPorts_entryZero (c3 c1 c2 : Tree) (d1 d2 d3 : Option Nat) : EntryZero (rootPorts c3 c1 c2 d1 d2 d3) :=
  entryZero_of_zero _ rfl rfl

theorem toNat_isNode (c : Tree) : c.isNode.toNat = min 1 c.size := by
  cases c with
  | none => rfl
  | node _ _ _ _ => simp only [Tree.isNode, Tree.size, Bool.toNat_true]; omega

theorem findParent_root (pre D : List Dev) (nd : Dev) (c3 c1 c2 : Tree) (d1 d2 d3 : Option Nat) (k b : Nat)
    (hnd : nd.ports = rootPorts c3 c1 c2 d1 d2 d3) (hk : FirstFree nd.ports k) (hD : Done b D)
    (h2 : c3.isNode = true ∨ c1.isNode = true ∨ c2.isNode = true)
    (h3 : D.length ≠ 0 → 3 ≤ 1 + c3.isNode.toNat + c1.isNode.toNat + c2.isNode.toNat) :
    findParent (pre ++ [nd] ++ D) = .ok (some nd.index) := by
  rcases rootPorts_topology c3 c1 c2 d1 d2 d3 with ⟨t, ht, htl, htj⟩
  rw [← hnd] at ht
  have h2' : 2 ≤ 1 + c3.isNode.toNat + c1.isNode.toNat + c2.isNode.toNat := by
    rcases h2 with h | h | h <;> rw [h] <;> simp only [Bool.toNat_true] <;> omega
  refine findParent_phase pre D nd t ht hD.closed hD.leaf (htl h2') fun hne => ?_
  rw [htj (h3 fun h => hne (List.length_eq_zero_iff.1 h)),
    firstFree_hasFree _ k (by rw [hnd]; rfl) (by rw [hnd]; rfl) hk]
  rfl

theorem process_node (p : Params) (c3 c1 c2 : Tree)
    (ih3 : Processes c3) (ih1 : Processes c1) (ih2 : Processes c2) : Processes (.node p c3 c1 c2) := by
  intro pre rest par hidx
  -- the device while its branches are processed one after the other, and what they leave behind
  let b := pre.length
  let nd (d1 d2 d3 : Option Nat) : Dev := ⟨b, rootPorts c3 c1 c2 d1 d2 d3, p.dc != 0, 0, par, 0⟩
  let e3 : Option Nat := if c3.isNode then some (b + 1) else none
  let e1 : Option Nat := if c1.isNode then some (b + 1 + c3.size) else none
  let e2 : Option Nat := if c2.isNode then some (b + 1 + c3.size + c1.size) else none
  have hD1 : Done (b + 1) (expected c3 (b + 1) (some b)) := done_expected _ _ _
  have hD2 : Done (b + 1) (expected c3 (b + 1) (some b) ++ expected c1 (b + 1 + c3.size) (some b)) :=
    done_append hD1 (by rw [expected_length]; exact done_expected _ _ _)
  have t3 := toNat_isNode c3
  have t1 := toNat_isNode c1
  have t2 := toNat_isNode c2
  have hz := rootPorts_entryZero c3 c1 c2
  have P1 := child_phase c3 ih3 pre [] (nd none none none) 1
    (shapeOf c1 (b + 1 + c3.size) ++ (shapeOf c2 (b + 1 + c3.size + c1.size) ++ rest))
    hidx rfl (done_nil _) (hz _ _ _) rfl
    fun h3 =>
      have hk : FirstFree (nd none none none).ports 1 := .inl ⟨rfl, h3, rfl⟩
      ⟨hk, findParent_root pre [] _ c3 c1 c2 _ _ _ 1 _ rfl hk (done_nil 0) (.inl h3) (fun h => absurd rfl h)⟩
  have P2 := child_phase c1 ih1 pre _ (nd e3 none none) 2
    (shapeOf c2 (b + 1 + c3.size + c1.size) ++ rest)
    hidx rfl hD1 (hz _ _ _) rfl
    fun h1 =>
      have hk : FirstFree (nd e3 none none).ports 2 :=
        .inr (.inl ⟨rfl, h1, rfl, fun h3 => by simp [nd, rootPorts, e3, show c3.isNode = true from h3]⟩)
      ⟨hk, findParent_root pre _ _ c3 c1 c2 _ _ _ 2 _ rfl hk hD1 (.inr (.inl h1))
        (by rw [expected_length, h1]; simp only [Bool.toNat_true]; omega)⟩
  have P3 := child_phase c2 ih2 pre _ (nd e3 e1 none) 3 rest
    hidx rfl hD2 (hz _ _ _) rfl
    fun h2 =>
      have hk : FirstFree (nd e3 e1 none).ports 3 :=
        .inr (.inr ⟨rfl, h2, rfl, fun h3 => by simp [nd, rootPorts, e3, show c3.isNode = true from h3],
          fun h1 => by simp [nd, rootPorts, e1, show c1.isNode = true from h1]⟩)
      ⟨hk, findParent_root pre _ _ c3 c1 c2 _ _ _ 3 _ rfl hk hD2 (.inr (.inr h2))
        (by rw [List.length_append, expected_length, expected_length, h2]; simp only [Bool.toNat_true]; omega)⟩
  simp only [List.length_nil, List.length_append, expected_length, List.append_nil, List.nil_append,
    ← Nat.add_assoc] at P1 P2 P3
  show topoLoop (pre ++ [nd none none none]) (shapeOf c3 (b + 1) ++ shapeOf c1 (b + 1 + c3.size)
    ++ shapeOf c2 (b + 1 + c3.size + c1.size) ++ rest) = _
  rw [List.append_assoc, List.append_assoc,
    show pre ++ expected (.node p c3 c1 c2) b par = pre ++ [nd e3 e1 e2] ++ (expected c3 (b + 1) (some b) ++
        expected c1 (b + 1 + c3.size) (some b) ++ expected c2 (b + 1 + c3.size + c1.size) (some b)) by
      simp [expected, nd, e3, e1, e2, List.append_assoc]]
  exact P1.trans (P2.trans P3)

theorem process_tree (T : Tree) : Processes T := by
  induction T with
  | none => trivial
  | node p c3 c1 c2 ih3 ih1 ih2 => exact process_node p c3 c1 c2 ih3 ih1 ih2

theorem topoLoop_tree (T : Tree) (h : T.isNode = true) :
    topoLoop [] (shapeOf T 0) = .ok (expected T 0 none) := by
  cases T with
  | none => cases h
  | node p c3 c1 c2 =>
    have := process_tree (.node p c3 c1 c2) [] [] none trivial
    rw [shapeOf, topoLoop_cons]
    simp only [findParent_nil, andThen, assignStep]
    simpa [topoLoop] using this

/-- Time at which the frame leaves a subtree again (the second component of `visit`, which does
    not depend on the address base). -/
def leave : Tree → Nat → Nat
  | .none, t => t
  | .node p c3 c1 c2, tin =>
    let t0 := tin + p.pd
    let r3 := leave c3 (t0 + c3.link) + c3.link
    let t1 := if c3.isNode then r3 + p.fd else t0
    let r1 := leave c1 (t1 + c1.link) + c1.link
    let t2 := if c1.isNode then r1 + p.fd else t1
    let r2 := leave c2 (t2 + c2.link) + c2.link
    if c2.isNode then r2 + p.fd else t2

theorem visit_snd (T : Tree) : ∀ b t, (visit T b t).2 = leave T t := by
  induction T with
  | none => intro b t; rfl
  | node p c3 c1 c2 ih3 ih1 ih2 =>
    intro b t
    simp only [leave, visit, ih3, ih1, ih2]

theorem arrivals_snd (T : Tree) : ∀ t, (arrivals T t).2 = leave T t := by
  induction T with
  | none => intro t; rfl
  | node p c3 c1 c2 ih3 ih1 ih2 => intro t; simp only [arrivals, leave, ih3, ih1, ih2]

theorem isNode_none : Tree.none.isNode = false := rfl
theorem leave_none (t : Nat) : leave .none t = t := rfl
theorem link_none : Tree.none.link = 0 := rfl
theorem size_none : Tree.none.size = 0 := rfl
theorem arrivals_none (t : Nat) : arrivals .none t = ([], t) := rfl
theorem chainTruth_none (ref : Option Nat) (t : Nat) : chainTruth .none ref t = [] := rfl

/-- The return times of the frame at ports 3, 1, 2 of a device (meaningful for open ports), and the
    times at which it goes on from there. -/
def ret3 (p : Params) (c3 : Tree) (tin : Nat) : Nat := leave c3 (tin + p.pd + c3.link) + c3.link
def out3 (p : Params) (c3 : Tree) (tin : Nat) : Nat := if c3.isNode then ret3 p c3 tin + p.fd else tin + p.pd
def ret1 (p : Params) (c3 c1 : Tree) (tin : Nat) : Nat := leave c1 (out3 p c3 tin + c1.link) + c1.link
def out1 (p : Params) (c3 c1 : Tree) (tin : Nat) : Nat := if c1.isNode then ret1 p c3 c1 tin + p.fd else out3 p c3 tin
def ret2 (p : Params) (c3 c1 c2 : Tree) (tin : Nat) : Nat := leave c2 (out1 p c3 c1 tin + c2.link) + c2.link

theorem leave_node (p : Params) (c3 c1 c2 : Tree) (tin : Nat) :
    leave (.node p c3 c1 c2) tin = if c2.isNode then ret2 p c3 c1 c2 tin + p.fd else out1 p c3 c1 tin := rfl

theorem ret_ge_of (p : Params) (c3 c1 c2 : Tree) (tin : Nat)
    (h3 : ∀ t, t ≤ leave c3 t) (h1 : ∀ t, t ≤ leave c1 t) (h2 : ∀ t, t ≤ leave c2 t) :
    tin ≤ ret3 p c3 tin ∧ tin ≤ ret1 p c3 c1 tin ∧ tin ≤ ret2 p c3 c1 c2 tin ∧
    tin ≤ leave (.node p c3 c1 c2) tin := by
  have e3 : tin ≤ ret3 p c3 tin := by have := h3 (tin + p.pd + c3.link); unfold ret3; omega
  have g3 : tin ≤ out3 p c3 tin := by unfold out3; split <;> omega
  have e1 : tin ≤ ret1 p c3 c1 tin := by have := h1 (out3 p c3 tin + c1.link); unfold ret1; omega
  have g1 : tin ≤ out1 p c3 c1 tin := by unfold out1; split <;> omega
  have e2 : tin ≤ ret2 p c3 c1 c2 tin := by have := h2 (out1 p c3 c1 tin + c2.link); unfold ret2; omega
  rw [leave_node]
  exact ⟨e3, e1, e2, by split <;> omega⟩

theorem leave_ge (T : Tree) : ∀ t, t ≤ leave T t := by
  induction T with
  | none => exact fun t => Nat.le_refl t
  | node p c3 c1 c2 ih3 ih1 ih2 => exact fun t => (ret_ge_of p c3 c1 c2 t ih3 ih1 ih2).2.2.2

theorem visit_length (T : Tree) : ∀ b t, (visit T b t).1.length = T.size := by
  induction T with
  | none => intro b t; rfl
  | node p c3 c1 c2 ih3 ih1 ih2 =>
    intro b t
    simp only [visit, Tree.size, List.length_cons, List.length_append, ih3, ih1, ih2]; omega

theorem mkDevsFrom_append (f : Nat → Report → Dev) (l1 l2 : List Report) : ∀ b,
    mkDevsFrom f b (l1 ++ l2) = mkDevsFrom f b l1 ++ mkDevsFrom f (b + l1.length) l2 := by
  induction l1 with
  | nil => intro b; rfl
  | cons r rs ih =>
    intro b
    simp only [List.cons_append, mkDevsFrom, ih, List.length_cons]
    rw [show b + 1 + rs.length = b + (rs.length + 1) by omega]

theorem mkDevsFrom_indexed (f : Nat → Report → Dev) (hf : ∀ i r, (f i r).index = i) (l : List Report) :
    ∀ b, Indexed b (mkDevsFrom f b l) := by
  induction l with
  | nil => intro b; trivial
  | cons r rs ih => intro b; exact ⟨hf b r, ih (b + 1)⟩

theorem local32_lt (p : Params) (t : Nat) : local32 p t < U32 := Nat.mod_lt _ (by decide)

theorem local32_add (p : Params) (tin r : Nat) (h1 : tin ≤ r) (h2 : local32 p tin + (r - tin) < U32) :
    local32 p r = local32 p tin + (r - tin) := by
  unfold local32 U32 at *
  omega

/-- The root device of a subtree, as discovered and latched. -/
def rootDev (p : Params) (c3 c1 c2 : Tree) (b tin : Nat) : Dev :=
  devOfReport b (mkReport (4096 + b) p tin c3.isNode c1.isNode c2.isNode
    (ret3 p c3 tin) (ret1 p c3 c1 tin) (ret2 p c3 c1 c2 tin))

def RootNoWrap (p : Params) (c3 c1 c2 : Tree) (tin : Nat) : Prop :=
  p.dc ≠ 0 →
    (c3.isNode = true → local32 p tin + (ret3 p c3 tin - tin) < U32) ∧
    (c1.isNode = true → local32 p tin + (ret1 p c3 c1 tin - tin) < U32) ∧
    (c2.isNode = true → local32 p tin + (ret2 p c3 c1 c2 tin - tin) < U32)

theorem noWrap_node (p : Params) (c3 c1 c2 : Tree) (tin : Nat) :
    NoWrap (.node p c3 c1 c2) tin ↔
      (RootNoWrap p c3 c1 c2 tin ∧
       NoWrap c3 (tin + p.pd + c3.link) ∧ NoWrap c1 (out3 p c3 tin + c1.link) ∧
       NoWrap c2 (out1 p c3 c1 tin + c2.link)) := by
  simp only [NoWrap, RootNoWrap, visit_snd, ret3, out3, ret1, out1, ret2]

/-- The devices of a subtree as the MainDevice sees them when all receive times are stored. -/
def devsOf (T : Tree) (b tin : Nat) : List Dev := mkDevsFrom devOfReport b (visit T b tin).1

theorem devsOf_none (b tin : Nat) : devsOf .none b tin = [] := rfl

theorem devsOf_node (p : Params) (c3 c1 c2 : Tree) (b tin : Nat) :
    devsOf (.node p c3 c1 c2) b tin =
      rootDev p c3 c1 c2 b tin ::
      (devsOf c3 (b + 1) (tin + p.pd + c3.link) ++ devsOf c1 (b + 1 + c3.size) (out3 p c3 tin + c1.link)
        ++ devsOf c2 (b + 1 + c3.size + c1.size) (out1 p c3 c1 tin + c2.link)) := by
  simp only [devsOf, rootDev, visit, visit_snd, ret3, out3, ret1, out1, ret2, mkDevsFrom, mkDevsFrom_append,
    visit_length, List.length_append]
  rw [show b + 1 + (c3.size + c1.size) = b + 1 + c3.size + c1.size by omega]

theorem rootDev_good (p : Params) (c3 c1 c2 : Tree) (b tin : Nat) (hw : RootNoWrap p c3 c1 c2 tin) :
    Good2 (rootDev p c3 c1 c2 b tin) := by
  rcases ret_ge_of p c3 c1 c2 tin (leave_ge c3) (leave_ge c1) (leave_ge c2) with ⟨g3, g1, g2, _⟩
  have hU : 0 < U32 := by decide
  unfold rootDev mkReport
  by_cases hdc : p.dc = 0
  · simp only [hdc, if_true, devOfReport, Ports.ofNumbered]
    exact ⟨⟨openPorts_pos _ rfl, hU, hU, hU, hU⟩, entryZero_of_zero _ rfl rfl⟩
  · simp only [hdc, if_false, devOfReport, Ports.ofNumbered]
    rcases hw hdc with ⟨w3, w1, w2⟩
    have lt : ∀ (o : Bool) (r : Nat), (if o = true then local32 p r else 0) < U32 := fun o r => by
      split
      · exact local32_lt _ _
      · exact hU
    have le : ∀ (o : Bool) (r : Nat), tin ≤ r → (o = true → local32 p tin + (r - tin) < U32) → o = true →
        local32 p tin ≤ if o = true then local32 p r else 0 := fun o r g w h => by
      rw [if_pos h, local32_add p tin r g (w h)]; exact Nat.le_add_right _ _
    exact ⟨⟨openPorts_pos _ rfl, local32_lt _ _, lt _ _, lt _ _, lt _ _⟩, (entryZero_iff _).2
      ⟨rfl, le _ _ g3 w3, le _ _ g1 w1, le _ _ g2 w2⟩⟩

theorem rootDev_shape (p : Params) (c3 c1 c2 : Tree) (b tin : Nat) :
    (rootDev p c3 c1 c2 b tin).shape = ⟨b, rootPorts c3 c1 c2 none none none, p.dc != 0, 0, none, 0⟩ := by
  unfold rootDev mkReport
  by_cases hdc : p.dc = 0 <;>
    simp [hdc, devOfReport, Ports.ofNumbered, Dev.shape, Ports.shape, Port.shape, rootPorts]

theorem devsOf_shape (T : Tree) : ∀ b tin, (devsOf T b tin).map Dev.shape = shapeOf T b := by
  induction T with
  | none => intro b tin; rfl
  | node p c3 c1 c2 ih3 ih1 ih2 =>
    intro b tin
    simp only [devsOf_node, List.map_cons, List.map_append, ih3, ih1, ih2, rootDev_shape, shapeOf]

theorem devsOf_good (T : Tree) : ∀ b tin, NoWrap T tin → ∀ d ∈ devsOf T b tin, Good2 d := by
  induction T with
  | none => intro b tin _ d hd; cases hd
  | node p c3 c1 c2 ih3 ih1 ih2 =>
    intro b tin hw
    obtain ⟨hroot, w3, w1, w2⟩ := (noWrap_node p c3 c1 c2 tin).1 hw
    rw [devsOf_node]
    exact List.forall_mem_cons.2 ⟨rootDev_good p c3 c1 c2 b tin hroot,
      List.forall_mem_append.2 ⟨List.forall_mem_append.2 ⟨ih3 _ _ w3, ih1 _ _ w1⟩, ih2 _ _ w2⟩⟩

/-- Downstream neighbours of a device by EtherCAT port NUMBER (0, 1, 2, 3). -/
def Dev.downByNumber (d : Dev) : Option Nat × Option Nat × Option Nat × Option Nat :=
  (d.ports.a0.downstream, d.ports.a2.downstream, d.ports.a3.downstream, d.ports.a1.downstream)

theorem expected_parents (T : Tree) : ∀ b par, (expected T b par).map (·.parent) = trueParents T b par := by
  induction T with
  | none => intro b par; rfl
  | node p c3 c1 c2 ih3 ih1 ih2 =>
    intro b par
    simp only [expected, trueParents, List.map_cons, List.map_append, ih3, ih1, ih2]

theorem expected_down (T : Tree) : ∀ b par, (expected T b par).map Dev.downByNumber = trueDownstream T b := by
  induction T with
  | none => intro b par; rfl
  | node p c3 c1 c2 ih3 ih1 ih2 =>
    intro b par
    simp only [expected, trueDownstream, List.map_cons, List.map_append, ih3, ih1, ih2, Dev.downByNumber, rootPorts]

end Ec.Dc
