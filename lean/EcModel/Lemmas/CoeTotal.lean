/-
  C16 helper lemmas for an arbitrary `World`: what one `mailbox_write_read` round trip can do, and the one induction
  over the client's call tree: no entry point panics, and a predicate on the client/device state that survives every
  round trip survives every entry point — such as "every request written carries the counter drawn for it" (C15
  `counter_cycles`).
-/
import EcModel.Lemmas.CoeBasic

namespace Ec.Coe
open Ec.Gen.Coe

/-- An invariant of the device: a predicate on every message it queues and one on its internal state. -/
structure DevInv (σ : Type) where
  msg : List Nat → Prop
  dev : σ → Prop

/-- The device state satisfies the invariant and so does every message queued for the OUT mailbox. -/
def QGood {σ : Type} (P : DevInv σ) (s : St σ) : Prop := P.dev s.dev ∧ ∀ m ∈ s.outq, P.msg m

/-- The device keeps the invariant: whatever it is asked, it stays in `P.dev` and only produces `P.msg` messages. -/
def WGood {σ : Type} (P : DevInv σ) (w : World σ) : Prop :=
  ∀ d req, P.dev d → P.dev (w.respond d req).1 ∧ ∀ m ∈ (w.respond d req).2, P.msg m

theorem writeRequest_good {σ : Type} (P : DevInv σ) (w : World σ) (cfg : Cfg) (req : List Nat) (s : St σ)
    (hw : WGood P w) (hs : QGood P s) : QGood P (writeRequest w cfg req s) := by
  refine ⟨(hw _ _ hs.1).1, fun m hm => ?_⟩
  rcases List.mem_append.mp hm with hm | hm
  · exact hs.2 m hm
  · exact (hw _ _ hs.1).2 m hm

theorem mwr_spec {σ ρ : Type} (P : DevInv σ) (w : World σ) (cfg : Cfg) (req : List Nat) (u : List Nat → Res ρ)
    (v : Nat → Nat → Bool) (s : St σ) (hw : WGood P w) (hs : QGood P s) :
    QGood P (mailboxWriteRead w cfg req u v s).2 ∧
      ((mailboxWriteRead w cfg req u v s).1 = .err .noMailbox ∨ (mailboxWriteRead w cfg req u v s).1 = .err .timeout ∨
        ∃ m, P.msg m ∧ (mailboxWriteRead w cfg req u v s).1 = triageB u v (image cfg.rmbx m)) := by
  unfold mailboxWriteRead
  split
  · exact ⟨hs, Or.inl rfl⟩
  · dsimp only
    have hq : QGood P (writeRequest w cfg req (drainStale s)) :=
      writeRequest_good P w cfg req _ hw ⟨hs.1, fun m hm => hs.2 m (List.mem_of_mem_drop hm)⟩
    generalize writeRequest w cfg req (drainStale s) = s1 at hq ⊢
    unfold readMailbox
    cases hc : s1.outq with
    | nil => exact ⟨hq, Or.inr (Or.inl rfl)⟩
    | cons m q =>
      have hq2 := hq.2
      rw [hc] at hq2
      exact ⟨⟨hq.1, fun m' hm' => hq2 m' (List.mem_cons_of_mem _ hm')⟩,
        Or.inr (Or.inr ⟨m, hq2 m List.mem_cons_self, by rw [← mkPdu_bytes cfg (image cfg.rmbx m), ← triage_eq_bytes]⟩)⟩

theorem mwr_ok {σ ρ : Type} (P : DevInv σ) (w : World σ) (cfg : Cfg) (req : List Nat) (u : List Nat → Res ρ)
    (v : Nat → Nat → Bool) (s : St σ) (hw : WGood P w) (hs : QGood P s) (r : ρ) (data : List Nat)
    (h : (mailboxWriteRead w cfg req u v s).1 = .ok (r, data)) :
    ∃ m, P.msg m ∧ u (image cfg.rmbx m) = .ok r ∧ data = (image cfg.rmbx m).drop LEN_HeadersRaw ∧
      LEN_HeadersRaw ≤ (image cfg.rmbx m).length := by
  rcases (mwr_spec P w cfg req u v s hw hs).2 with hr | hr | ⟨m, hm, hr⟩
  · rw [hr] at h; cases h
  · rw [hr] at h; cases h
  · exact ⟨m, hm, triageB_ok (hr ▸ h)⟩

theorem mwr_noPanic {σ ρ : Type} (w : World σ) (cfg : Cfg) (req : List Nat) (u : List Nat → Res ρ)
    (v : Nat → Nat → Bool) (s : St σ) (hu : ∀ b, Res.isPanic (u b) = false) :
    Res.isPanic (mailboxWriteRead w cfg req u v s).1 = false := by
  rcases (mwr_spec ⟨fun _ => True, fun _ => True⟩ w cfg req u v s (fun _ _ _ => ⟨trivial, fun _ _ => trivial⟩)
    ⟨trivial, fun _ _ => trivial⟩).2 with h | h | ⟨m, _, h⟩ <;> rw [h]
  · rfl
  · rfl
  · exact triageB_noPanic hu

theorem mwr_ctr_reqs {σ ρ : Type} (w : World σ) (cfg : Cfg) (req : List Nat) (u : List Nat → Res ρ)
    (v : Nat → Nat → Bool) (s : St σ) :
    (mailboxWriteRead w cfg req u v s).2.ctr = s.ctr ∧
      (mailboxWriteRead w cfg req u v s).2.reqs = if cfg.hasMailbox then s.reqs ++ [image cfg.wmbx req] else s.reqs := by
  unfold mailboxWriteRead
  cases cfg.hasMailbox with
  | false => exact ⟨rfl, rfl⟩
  | true =>
    dsimp only [Bool.not_true, Bool.false_eq_true, if_false, if_true]
    have h1 : (writeRequest w cfg req (drainStale s)).ctr = s.ctr := rfl
    have h2 : (writeRequest w cfg req (drainStale s)).reqs = s.reqs ++ [image cfg.wmbx req] := rfl
    generalize writeRequest w cfg req (drainStale s) = s1 at h1 h2 ⊢
    unfold readMailbox
    cases s1.outq <;> exact ⟨h1, h2⟩

theorem mailboxCounter_outq {σ : Type} (s : St σ) : (mailboxCounter s).2.outq = s.outq := rfl

theorem mailboxCounter_good {σ : Type} (P : DevInv σ) (s : St σ) (hs : QGood P s) :
    QGood P (mailboxCounter s).2 := hs

/-- The request starts with a mailbox header that carries the counter value `c`. -/
def Carries (c : Nat) (req : List Nat) : Prop := ∃ n body, req = packMailboxHeader n c ++ body

theorem uploadRequest_carries (ctr index : Nat) (access : SubIndex) : Carries ctr (uploadRequest ctr index access) :=
  ⟨_, _, List.append_assoc _ _ _⟩

theorem segmentRequest_carries (ctr : Nat) (toggle : Bool) : Carries ctr (segmentRequest ctr toggle) :=
  ⟨_, _, List.append_assoc _ _ _⟩

theorem downloadRequest_carries (ctr index : Nat) (access : SubIndex) (data : List Nat) (len : Nat) :
    Carries ctr (downloadRequest ctr index access data len) :=
  ⟨_, _, (List.append_assoc _ _ _).trans (List.append_assoc _ _ _)⟩

/-- `I` survives every round trip of the client: draw the counter, write a request that carries it, read the reply. -/
def Steady {σ : Type} (w : World σ) (cfg : Cfg) (I : St σ → Prop) : Prop :=
  ∀ (ρ : Type) (req : List Nat) (u : List Nat → Res ρ) (v : Nat → Nat → Bool) (s : St σ), Carries s.ctr req → I s →
    I (mailboxWriteRead w cfg req u v (mailboxCounter s).2).2

/-- A stateful step neither panicked nor left `I`. -/
def Safe {σ α : Type} (I : St σ → Prop) (r : Res α × St σ) : Prop := Res.isPanic r.1 = false ∧ I r.2

variable {σ : Type} {w : World σ} {cfg : Cfg} {I : St σ → Prop}

@[elab_as_elim]
theorem Safe.elim {α : Type} {motive : Res α × St σ → Prop} {x : Res α × St σ} (hx : Safe I x)
    (err : ∀ e s, I s → motive (.err e, s)) (ok : ∀ a s, I s → motive (.ok a, s)) : motive x := by
  obtain ⟨r, s⟩ := x
  obtain ⟨hnp, hs⟩ := hx
  cases r with
  | err e => exact err e s hs
  | ok a => exact ok a s hs
  | panic why => cases hnp

theorem mwr_safe {ρ : Type} (hI : Steady w cfg I) (req : List Nat) (u : List Nat → Res ρ) (v : Nat → Nat → Bool)
    (s : St σ) (hc : Carries s.ctr req) (hs : I s) (hu : ∀ b, Res.isPanic (u b) = false) :
    Safe I (mailboxWriteRead w cfg req u v (mailboxCounter s).2) :=
  ⟨mwr_noPanic w cfg req u v _ hu, hI _ req u v s hc hs⟩

/-- One iteration of the segmented loop, given what its round trip returned: either it stops in the state the round
    trip left, with no panic of its own, or it has stored at least one more byte and goes round again. -/
theorem segLoop_succ (w : World σ) (cfg : Cfg) (fuel : Nat) (toggle : Bool) (buf : List Nat) (total : Nat)
    (s s' : St σ) (r : Res (SdoSegmented × List Nat))
    (hr : mailboxWriteRead w cfg (segmentRequest s.ctr toggle) unpackSdoSegmented (fun _ _ => true) (mailboxCounter s).2 =
      (r, s')) :
    (∃ x, segLoop w cfg (fuel + 1) toggle buf total s = (x, s') ∧ (Res.isPanic r = false → Res.isPanic x = false)) ∨
    ∃ buf' total', total < total' ∧ total' ≤ buf.length ∧ buf'.length = buf.length ∧
      segLoop w cfg (fuel + 1) toggle buf total s = segLoop w cfg fuel (!toggle) buf' total' s' := by
  rw [segLoop]
  dsimp only
  rw [mailboxCounter_fst, hr]
  cases r with
  | err e => exact .inl ⟨_, rfl, fun _ => rfl⟩
  | panic why => exact .inl ⟨_, rfl, id⟩
  | ok hd =>
    obtain ⟨h, data⟩ := hd
    dsimp only
    generalize (if h.header.length - SEGMENT_HEADER_LEN == SEGMENT_MIN_DATA then
      h.header.length - SEGMENT_HEADER_LEN - h.segDataSize else h.header.length - SEGMENT_HEADER_LEN) = chunk
    refine ite_elim (.inl ⟨_, rfl, fun _ => rfl⟩) fun _ => ?_
    refine ite_elim (.inl ⟨_, rfl, fun _ => rfl⟩) fun _ => ?_
    refine ite_elim (.inl ⟨_, rfl, fun _ => rfl⟩) fun h3 => ?_
    refine ite_elim (.inl ⟨_, rfl, fun _ => ite_elim rfl fun _ => rfl⟩) fun _ => ?_
    refine ite_elim (.inl ⟨_, rfl, fun _ => rfl⟩) fun h4 => ?_
    refine .inr ⟨_, _, ?_, Nat.le_of_not_gt h3, setRange_length _ _ _ ?_, rfl⟩
    · have : chunk ≠ 0 := fun h => h4 (by rw [h]; rfl)
      omega
    · rw [List.length_take]; omega

theorem segLoop_safe (hI : Steady w cfg I) : ∀ (fuel : Nat) (toggle : Bool) (buf : List Nat) (total : Nat) (s : St σ),
    I s → Safe I (segLoop w cfg fuel toggle buf total s) := by
  intro fuel
  induction fuel with
  | zero => intro _ _ _ s hs; exact ⟨rfl, hs⟩
  | succ fuel ih =>
    intro toggle buf total s hs
    have hsafe := mwr_safe hI _ unpackSdoSegmented (fun _ _ => true) s (segmentRequest_carries s.ctr toggle) hs
      unpackSdoSegmented_noPanic
    rcases segLoop_succ w cfg fuel toggle buf total s _ _ rfl with ⟨x, hx, hnp⟩ | ⟨buf', total', _, _, _, hx⟩ <;> rw [hx]
    · exact ⟨hnp hsafe.1, hsafe.2⟩
    · exact ih _ _ _ _ hsafe.2

theorem sdoRead_safe (hI : Steady w cfg I) (fuel bufLen index : Nat) (access : SubIndex) (s : St σ) (hs : I s) :
    Safe I (sdoRead w cfg fuel bufLen index access s) := by
  unfold sdoRead
  dsimp only
  refine (mwr_safe hI _ unpackSdoNormal (validateIdx index access.subIndex) s
    (uploadRequest_carries (mailboxCounter s).1 index access) hs unpackSdoNormal_noPanic).elim
    (fun e s' hq => ⟨rfl, hq⟩) fun hd s' hq => ?_
  dsimp only
  refine ite_elim ⟨ite_elim rfl fun _ => rfl, hq⟩ fun _ => ?_
  have hu := unpackU32_noPanic hd.2
  cases hu32 : unpackU32 hd.2 with
  | panic why => rw [hu32] at hu; cases hu
  | err e => exact ⟨rfl, hq⟩
  | ok completeSize =>
    dsimp only
    refine ite_elim ⟨rfl, hq⟩ fun _ => ?_
    refine ite_elim ⟨ite_elim rfl fun _ => rfl, hq⟩ fun _ => ?_
    exact segLoop_safe hI _ _ _ _ s' hq

theorem sdoReadT_safe {α : Type} (hI : Steady w cfg I) (fuel : Nat) (T : Dest α) (index : Nat) (access : SubIndex)
    (s : St σ) (hs : I s) : Safe I (sdoReadT w cfg fuel T index access s) := by
  unfold sdoReadT
  exact (sdoRead_safe hI fuel T.bufLen index access s hs).elim (fun e s' hq => ⟨rfl, hq⟩)
    fun payload s' hq => ⟨by dsimp only; split <;> rfl, hq⟩

theorem sdoReadExpedited_safe (hI : Steady w cfg I) (index : Nat) (access : SubIndex) (s : St σ) (hs : I s) :
    Safe I (sdoReadExpedited w cfg index access s) := by
  unfold sdoReadExpedited
  dsimp only
  refine (mwr_safe hI _ unpackSdoNormal (validateIdx index access.subIndex) s
    (uploadRequest_carries (mailboxCounter s).1 index access) hs unpackSdoNormal_noPanic).elim
    (fun e s' hq => ⟨rfl, hq⟩) fun hd s' hq => ?_
  dsimp only
  exact ite_elim ⟨ite_elim rfl fun _ => rfl, hq⟩ fun _ => ⟨rfl, hq⟩

theorem readEach_safe {α : Type} (hI : Steady w cfg I) (fuel : Nat) (T : Dest α) (index : Nat) :
    ∀ (n i : Nat) (s : St σ), I s → Safe I (readEach w cfg fuel T index n i s) := by
  intro n
  induction n with
  | zero => intro i s hs; exact ⟨rfl, hs⟩
  | succ n ih =>
    intro i s hs
    unfold readEach
    refine (sdoReadT_safe hI fuel T index (.index i) s hs).elim (fun e s' hq => ⟨rfl, hq⟩) fun v s' hq => ?_
    dsimp only
    exact (ih (i + 1) s' hq).elim (fun e s'' hq => ⟨rfl, hq⟩) fun vs s'' hq => ⟨rfl, hq⟩

theorem sdoReadArray_safe {α : Type} (hI : Steady w cfg I) (fuel : Nat) (T : Dest α) (maxEntries index : Nat)
    (s : St σ) (hs : I s) : Safe I (sdoReadArray w cfg fuel T maxEntries index s) := by
  unfold sdoReadArray
  refine (sdoReadT_safe hI fuel destU8 index (.index 0) s hs).elim (fun e s' hq => ⟨rfl, hq⟩) fun len s' hq => ?_
  dsimp only
  exact ite_elim ⟨rfl, hq⟩ fun _ => readEach_safe hI fuel T index len 1 s' hq

/-- `sdo_write` draws the counter before it checks the value's length, so a value that is too long uses up a counter
    value without a round trip: `I` survives that only if it does not look at the counter. -/
theorem sdoWrite_safe (hI : Steady w cfg I) (index : Nat) (access : SubIndex) (value : List Nat)
    (hv : value.length ≤ WRITE_MAX ∨ ∀ s, I s → I (mailboxCounter s).2) (s : St σ) (hs : I s) :
    Safe I (sdoWrite w cfg index access value s) := by
  unfold sdoWrite
  dsimp only
  split
  · next hlong => exact ⟨rfl, hv.elim (fun h => absurd hlong (Nat.not_lt.mpr h)) fun h => h s hs⟩
  · exact (mwr_safe hI _ unpackSdoExpedited (validateIdx index access.subIndex) s
      (downloadRequest_carries (mailboxCounter s).1 index access (value ++ zeros (4 - value.length)) value.length) hs
      unpackSdoExpedited_noPanic).elim (fun e s' hq => ⟨rfl, hq⟩) fun hd s' hq => ⟨rfl, hq⟩

theorem writeEach_safe (hI : Steady w cfg I) (index : Nat) : ∀ (vs : List (List Nat)) (i : Nat) (s : St σ),
    ((∀ v ∈ vs, v.length ≤ WRITE_MAX) ∨ ∀ s, I s → I (mailboxCounter s).2) → I s →
      Safe I (writeEach w cfg index i vs s) := by
  intro vs
  induction vs with
  | nil => intro i s _ hs; exact ⟨rfl, hs⟩
  | cons v vs ih =>
    intro i s hv hs
    unfold writeEach
    exact (sdoWrite_safe hI index (.index (i % 256)) v (hv.imp_left fun h => h v List.mem_cons_self) s hs).elim
      (fun e s' hq => ⟨rfl, hq⟩) fun u s' hq =>
        ih (i + 1) s' (hv.imp_left fun h v' h' => h v' (List.mem_cons_of_mem _ h')) hq

theorem sdoWriteArray_safe (hI : Steady w cfg I) (index : Nat) (values : List (List Nat))
    (hv : (∀ v ∈ values, v.length ≤ WRITE_MAX) ∨ ∀ s, I s → I (mailboxCounter s).2) (s : St σ) (hs : I s) :
    Safe I (sdoWriteArray w cfg index values s) := by
  unfold sdoWriteArray
  refine (sdoWrite_safe hI index (.index 0) [0] (.inl (by decide)) s hs).elim (fun e s' hq => ⟨rfl, hq⟩)
    fun u s' hq => ?_
  dsimp only
  exact (writeEach_safe hI index values 1 s' hv hq).elim (fun e s'' hq => ⟨rfl, hq⟩) fun u2 s'' hq =>
    sdoWrite_safe hI index (.index 0) [values.length % 256] (.inl (by decide : 1 ≤ WRITE_MAX)) s'' hq

/-- Counter field of a request image (byte 5, bits 4..6). -/
def reqCounter (img : List Nat) : Nat := bitsOf (img.getD 5 0) 4 3

/-- `k` applications of the counter update. -/
def ctrSeq (c0 : Nat) : Nat → Nat
  | 0 => c0
  | k + 1 => nextCounter (ctrSeq c0 k)

/-- Every request written so far carries the counter value drawn for it, and the stored counter is the next one. -/
def Sync {σ : Type} (c0 : Nat) (s : St σ) : Prop :=
  s.ctr = ctrSeq c0 s.reqs.length ∧ ∀ k, k < s.reqs.length → reqCounter (s.reqs.getD k []) = ctrSeq c0 k % 8

theorem reqCounter_image (wmbx n c : Nat) (body : List Nat) (hw : 6 ≤ wmbx) :
    reqCounter (image wmbx (packMailboxHeader n c ++ body)) = c % 8 := by
  have h : (image wmbx (packMailboxHeader n c ++ body)).getD 5 0 = 3 + 16 * (c % 8) := by
    unfold image
    rw [List.getD_eq_getElem?_getD, List.getElem?_take_of_lt (by omega), List.append_assoc]
    rfl
  unfold reqCounter
  rw [h, bits_ctr]

theorem sync_steady {σ : Type} (w : World σ) (cfg : Cfg) (c0 : Nat) (hm : cfg.hasMailbox = true) (hw : 6 ≤ cfg.wmbx) :
    Steady w cfg (Sync c0) := by
  intro ρ req u v s hc hs
  obtain ⟨n, body, rfl⟩ := hc
  obtain ⟨h1, h2⟩ := mwr_ctr_reqs w cfg (packMailboxHeader n s.ctr ++ body) u v (mailboxCounter s).2
  rw [hm, if_pos rfl] at h2
  generalize (mailboxWriteRead w cfg (packMailboxHeader n s.ctr ++ body) u v (mailboxCounter s).2).2 = s1 at h1 h2
  change s1.ctr = nextCounter s.ctr at h1
  change s1.reqs = s.reqs ++ _ at h2
  refine ⟨by rw [h1, h2, hs.1, List.length_append]; rfl, fun k hk => ?_⟩
  rw [h2] at hk ⊢
  rw [List.getD_eq_getElem?_getD]
  by_cases hk' : k < s.reqs.length
  · rw [List.getElem?_append_left hk', ← List.getD_eq_getElem?_getD]
    exact hs.2 k hk'
  · have hke : k = s.reqs.length := by
      rw [List.length_append] at hk
      exact Nat.le_antisymm (Nat.le_of_lt_succ hk) (Nat.le_of_not_gt hk')
    subst hke
    rw [List.getElem?_append_right (Nat.le_refl _), Nat.sub_self]
    exact (reqCounter_image cfg.wmbx n s.ctr body hw).trans (by rw [hs.1])

end Ec.Coe
