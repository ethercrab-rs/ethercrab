/-
  Ghost bookkeeping of the shared datagram-index counter along a history (C01Idx): which absolute
  draw gave each slot's current occupant its first datagram index.
-/
import EcModel.Lemmas.SlotsInv

namespace Ec

/-- Ghost state: `ctr` = absolute number of the next index to be drawn (`pi0 + draws`; `reset`
    restarts it at 0 like the real counter), `fd k` = the absolute draw that gave slot `k`'s current
    occupant its FIRST datagram index (`none`: it has pushed no datagram yet). -/
structure G where
  ctr : Nat
  fd : Nat → Option Nat

def G.init (pi : Nat) : G := ⟨pi, fun _ => none⟩

def gstep (w : World) (g : G) : Op → G
  | .alloc r =>
    if (getH w.2 r).isNone then
      match (allocLoop w.1 (2 * w.1.n)).2 with
      | some i => { g with fd := fun j => if j = i then none else g.fd j }
      | none => g
    else g
  | .push r c d l =>
    match getH w.2 r with
    | some ⟨_, k, .created count last⟩ =>
      match ((slotFrame w.1 (w.1.slot k) count last).pushPdu c d l w.1.pduIdx).2 with
      | some _ => ⟨g.ctr + 1, fun j => if j = k ∧ g.fd k = none then some g.ctr else g.fd j⟩
      | none => ⟨g.ctr + 1, g.fd⟩        -- the index is drawn even when the push fails (TooLong)
    | _ => g
  | .rest r c b =>
    match getH w.2 r with
    | some ⟨_, k, .created count last⟩ =>
      match ((slotFrame w.1 (w.1.slot k) count last).pushRest c b w.1.pduIdx).2 with
      | (.some _ _, _) => ⟨g.ctr + 1, fun j => if j = k ∧ g.fd k = none then some g.ctr else g.fd j⟩
      | (_, true) => ⟨g.ctr + 1, g.fd⟩
      | (_, false) => g                   -- early returns: no index drawn
    | _ => g
  | .reset => if w.2.isEmpty then { g with ctr := 0 } else g
  | _ => g

def gRun : World → G → List Op → G
  | _, g, [] => g
  | w, g, op :: ops => gRun (step w op).1 (gstep w g op) ops

/-- World and ghost state of a history in one pass (what `run` and `gRun` compute separately). -/
def runBoth : World → G → List Op → World × G
  | w, g, [] => (w, g)
  | w, g, op :: ops => runBoth (step w op).1 (gstep w g op) ops

theorem runBoth_eq (w : World) (g : G) (ops : List Op) :
    (runBoth w g ops).1 = run w ops ∧ (runBoth w g ops).2 = gRun w g ops := by
  induction ops generalizing w g with
  | nil => exact ⟨rfl, rfl⟩
  | cons op ops ih => exact ih _ _

/-- Number of indices drawn by a history from a fresh storage whose counter starts at `pi0`
    (meaningful for histories without `reset`). -/
def draws (n data fi pi0 : Nat) (ops : List Op) : Nat :=
  (gRun (World.init n data fi pi0) (G.init pi0) ops).ctr - pi0

structure IdxInv (s : Sys) (g : G) : Prop where
  ctr : s.pduIdx = g.ctr % 256
  hsome : ∀ k f, (s.slot k).st ≠ .none → g.fd k = some f → (s.slot k).first = f % 256 ∧ f < g.ctr
  hnone : ∀ k, (s.slot k).st ≠ .none → g.fd k = none → (s.slot k).first = Gen.FIRST_PDU_EMPTY
  inj : ∀ j k a b, j ≠ k → (s.slot j).st ≠ .none → (s.slot k).st ≠ .none →
    g.fd j = some a → g.fd k = some b → a ≠ b

/-- One slot is rewritten and the ghost state follows. The bookkeeping survives if the other slots' entries are
    kept, the counter does not go back, and slot `k`'s new entry describes its new marker, with a draw that no
    other held slot has. -/
theorem IdxInv.set {s s' : Sys} {g g' : G} (hI : IdxInv s g) (k : Nat) (y : Slot)
    (hs : s'.slots = (s.setSlot k y).slots) (hp : s'.pduIdx = g'.ctr % 256) (hc : g.ctr ≤ g'.ctr)
    (hfd : ∀ j, j ≠ k → g'.fd j = g.fd j)
    (hsome : ∀ f, y.st ≠ .none → g'.fd k = some f → y.first = f % 256 ∧ f < g'.ctr ∧
      ∀ j b, j ≠ k → (s.slot j).st ≠ .none → g.fd j = some b → b ≠ f)
    (hnone : y.st ≠ .none → g'.fd k = none → y.first = Gen.FIRST_PDU_EMPTY) : IdxInv s' g' := by
  have hsl : ∀ j, (s'.slot j).st ≠ .none → (j = k ∧ s'.slot j = y) ∨ (j ≠ k ∧ s'.slot j = s.slot j) := by
    intro j h
    rw [slot_congr hs, slot_setSlot] at h ⊢
    split
    · next hk => exact .inl ⟨hk.1, rfl⟩
    · next hk =>
      rw [if_neg hk] at h
      refine .inr ⟨fun hj => h ?_, rfl⟩
      rw [slot_ge _ _ (fun hlt => hk ⟨hj, hj ▸ hlt⟩)]; rfl
  refine ⟨hp, ?_, ?_, ?_⟩
  · intro j f h hf
    rcases hsl j h with ⟨rfl, e⟩ | ⟨hj, e⟩ <;> rw [e] at h ⊢
    · exact ⟨(hsome f h hf).1, (hsome f h hf).2.1⟩
    · rw [hfd j hj] at hf
      exact ⟨(hI.hsome j f h hf).1, Nat.lt_of_lt_of_le (hI.hsome j f h hf).2 hc⟩
  · intro j h hf
    rcases hsl j h with ⟨rfl, e⟩ | ⟨hj, e⟩ <;> rw [e] at h ⊢
    · exact hnone h hf
    · rw [hfd j hj] at hf; exact hI.hnone j h hf
  · intro i j a b hij hi hj ha hb
    rcases hsl i hi with ⟨rfl, ei⟩ | ⟨hik, ei⟩ <;> rcases hsl j hj with ⟨rfl, ej⟩ | ⟨hjk, ej⟩ <;>
      rw [ei] at hi <;> rw [ej] at hj
    · exact absurd rfl hij
    · rw [hfd j hjk] at hb; exact ((hsome a hi ha).2.2 j b hjk hj hb).symm
    · rw [hfd i hik] at ha; exact (hsome b hj hb).2.2 i a hik hi ha
    · rw [hfd i hik] at ha; rw [hfd j hjk] at hb; exact hI.inj i j a b hij hi hj ha hb

theorem IdxInv.keep_set {s s' : Sys} {g : G} (hI : IdxInv s g) (k : Nat) (y : Slot)
    (hs : s'.slots = (s.setSlot k y).slots) (hp : s'.pduIdx = s.pduIdx)
    (hy : y.st ≠ .none → y.first = (s.slot k).first ∧ (s.slot k).st ≠ .none) : IdxInv s' g := by
  refine hI.set k y hs (hp.trans hI.ctr) (Nat.le_refl _) (fun _ _ => rfl) ?_ ?_
  · intro f h hf
    obtain ⟨a, b⟩ := hy h
    exact ⟨a ▸ (hI.hsome k f b hf).1, (hI.hsome k f b hf).2, fun j c hj hjs hc => hI.inj j k c f hj hjs b hc hf⟩
  · intro h hf; obtain ⟨a, b⟩ := hy h; exact a ▸ hI.hnone k b hf

theorem IdxInv_step_plain {w : World} {g : G} (hJ : J w.1 w.2) (hI : IdxInv w.1 g) (op : Op)
    (h1 : ∀ r, op ≠ .alloc r) (hd : ¬ op.draws) : IdxInv (step w op).1.1 g := by
  rcases step_edge hJ op with ⟨k, y, e, hE, hp⟩ | ⟨rfl, _⟩
  · refine hI.keep_set k y e (hp hd) (fun hy => ?_)
    cases hE with
    | same => exact ⟨rfl, hy⟩
    | claim => exact absurd rfl (h1 _)
    | push | rest => exact absurd trivial hd
    | dropCreated | timeout | dropFut | dropReceived => exact absurd rfl hy
    | _ => rename_i hs; exact ⟨rfl, by rw [hs]; decide⟩
  · exact absurd trivial hd

theorem succ_mod {p c : Nat} (h : p = c % 256) : (p + 1) % 256 = (c + 1) % 256 := by
  rw [h, Nat.add_mod c 1 256]

theorem IdxInv.pushed {s : Sys} {g : G} (hI : IdxInv s g) (k : Nat) (hst : (s.slot k).st ≠ .none)
    (f : CFrame) (s1 : Sys) (hs1 : s1.slots = s.slots) (hp1 : s1.pduIdx = (s.pduIdx + 1) % 256) :
    IdxInv (s1.setSlot k (frameSlot (s.slot k) f (some s.pduIdx)))
      ⟨g.ctr + 1, fun j => if j = k ∧ g.fd k = none then some g.ctr else g.fd j⟩ := by
  have hctr := hI.ctr
  refine hI.set k (frameSlot (s.slot k) f (some s.pduIdx)) (by simp only [Sys.setSlot, hs1])
    (hp1.trans (succ_mod hctr)) (Nat.le_succ _) (fun j hj => if_neg (fun c => hj c.1)) ?_ ?_
  · intro f' _ hf
    cases hfd : g.fd k with
    | none =>
      -- the occupant's first datagram: the marker was EMPTY and takes the index drawn now
      simp only [hfd, and_self, if_true, Option.some.injEq] at hf
      subst hf
      refine ⟨?_, Nat.lt_succ_self _, fun j b _ hjs hb => Nat.ne_of_lt (hI.hsome j b hjs hb).2⟩
      show (if (s.slot k).first = Gen.FIRST_PDU_EMPTY then s.pduIdx else (s.slot k).first) = _
      rw [if_pos (hI.hnone k hst hfd), hctr]
    | some f0 =>
      simp only [hfd, reduceCtorEq, and_false, if_false, Option.some.injEq] at hf
      subst hf
      obtain ⟨h1, h2⟩ := hI.hsome k f0 hst hfd
      refine ⟨?_, Nat.lt_succ_of_lt h2, fun j b hj hjs hb => hI.inj j k b f0 hj hjs hst hb hfd⟩
      -- a marker that is a byte is not `FIRST_PDU_EMPTY`: it stays
      show (if (s.slot k).first = Gen.FIRST_PDU_EMPTY then s.pduIdx else (s.slot k).first) = _
      rw [h1, if_neg (Nat.ne_of_lt (Nat.lt_trans (Nat.mod_lt _ (by decide)) (by decide)))]
  · intro _ hf
    cases hfd : g.fd k <;> simp [hfd] at hf

theorem IdxInv.drawn {s : Sys} {g : G} (hI : IdxInv s g) (s1 : Sys) (hs1 : s1.slots = s.slots)
    (hp1 : s1.pduIdx = (s.pduIdx + 1) % 256) : IdxInv s1 ⟨g.ctr + 1, g.fd⟩ := by
  have hctr := hI.ctr
  refine hI.set 0 (s.slot 0) (by rw [setSlot_self, hs1])
    (hp1.trans (succ_mod hctr))
    (Nat.le_succ _) (fun _ _ => rfl) ?_ (fun h hf => hI.hnone 0 h hf)
  intro f h hf
  exact ⟨(hI.hsome 0 f h hf).1, Nat.lt_succ_of_lt (hI.hsome 0 f h hf).2,
    fun j b hj hjs hb => hI.inj j 0 b f hj hjs h hb hf⟩

theorem pushRest_flag (f : CFrame) (c : Cmd) (b : List Nat) (idx : Nat) :
    match (f.pushRest c b idx).2 with
    | (.some _ _, d) => d = true
    | (.none, d) => d = false
    | (.tooLong, d) => d = true := by
  unfold CFrame.pushRest
  by_cases h1 : b.isEmpty = true
  · simp [h1]
  · by_cases h2 : f.pdu.length - f.used - PDU_OVERHEAD = 0
    · simp [h1, h2]
    · by_cases h3 : f.used + (restLen f b + PDU_OVERHEAD) ≤ f.pdu.length
      · simp [h1, h2, h3]
      · simp [h1, h2, h3]

theorem IdxInv.of_free {s : Sys} {g : G} (hc : s.pduIdx = g.ctr % 256) (h : ∀ k, (s.slot k).st = .none) : IdxInv s g :=
  ⟨hc, fun k _ hs => absurd (h k) hs, fun k hs => absurd (h k) hs, fun j _ _ _ _ hs => absurd (h j) hs⟩

theorem IdxInv_step {w : World} {g : G} (hJ : J w.1 w.2) (hI : IdxInv w.1 g) (op : Op) :
    IdxInv (step w op).1.1 (gstep w g op) := by
  cases op with
  | alloc r =>
    simp only [step, gstep]
    split
    · unfold opAlloc
      cases hA : allocLoop w.1 (2 * w.1.n) with
      | mk s' o =>
        cases o with
        | none =>
          obtain ⟨f, rfl⟩ := allocLoop_none hA
          exact hI.keep_set 0 _ (by rw [setSlot_self]) rfl (fun h => ⟨rfl, h⟩)
        | some i =>
          obtain ⟨_, _, f, rfl⟩ := allocLoop_some hJ.pos hA
          refine hI.set i _ rfl hI.ctr (Nat.le_refl _) (fun j hj => if_neg hj) ?_ (fun _ _ => rfl)
          intro f' _ hf; simp at hf
    · exact hI
  | push r c d l =>
    simp only [step, gstep]; unfold opPush
    cases hg : getH w.2 r with
    | none => exact hI
    | some h =>
      obtain ⟨reg, k, kind⟩ := h
      cases kind with
      | created count last =>
        have hm := (getH_some hg).1
        have hst := hJ.owner_held hm (by decide : 1 ≠ 4)
        simp only at hst ⊢
        cases he : ((slotFrame w.1 (w.1.slot k) count last).pushPdu c d l w.1.pduIdx).2 with
        | some h' => exact hI.pushed k hst _ { w.1 with pduIdx := (w.1.pduIdx + 1) % 256 } rfl rfl
        | none => exact hI.drawn { w.1 with pduIdx := (w.1.pduIdx + 1) % 256 } rfl rfl
      | _ => exact hI
  | rest r c b =>
    simp only [step, gstep]; unfold opRest
    cases hg : getH w.2 r with
    | none => exact hI
    | some h =>
      obtain ⟨reg, k, kind⟩ := h
      cases kind with
      | created count last =>
        have hm := (getH_some hg).1
        have hst := hJ.owner_held hm (by decide : 1 ≠ 4)
        simp only at hst ⊢
        have hfl := pushRest_flag (slotFrame w.1 (w.1.slot k) count last) c b w.1.pduIdx
        rcases hres : (slotFrame w.1 (w.1.slot k) count last).pushRest c b w.1.pduIdx with ⟨f, rr, drew⟩
        rw [hres] at hfl
        cases rr <;> simp only at hfl <;> subst hfl
        · exact hI
        · simp only [if_true]
          exact hI.pushed k hst f { w.1 with pduIdx := (w.1.pduIdx + 1) % 256 } rfl rfl
        · simp only [if_true]
          exact hI.drawn { w.1 with pduIdx := (w.1.pduIdx + 1) % 256 } rfl rfl
      | _ => exact hI
  | reset =>
    simp only [step, gstep]
    split
    · exact .of_free rfl (reset_slot_none w.1)
    · exact hI
  | _ => exact IdxInv_step_plain hJ hI _ (fun _ h => nomatch h) id

theorem IdxInv_run {w : World} {g : G} (hJ : J w.1 w.2) (hI : IdxInv w.1 g) (ops : List Op) :
    IdxInv (run w ops).1 (gRun w g ops) := by
  induction ops generalizing w g with
  | nil => exact hI
  | cons op ops ih => exact ih (J_step hJ op) (IdxInv_step hJ hI op)

theorem IdxInv_init (n data fi pi : Nat) (hpi : pi < 256) :
    IdxInv (World.init n data fi pi).1 (G.init pi) :=
  .of_free (Nat.mod_eq_of_lt hpi).symm (init_slot n data fi pi)

end Ec
