/-
  `EepromRange::write` / `write_all` and the `write_word` retry loop (C14). On a word-aligned window the write
  loop stores the zero-padded buffer cut to the window, `(padEven buf).take (end - pos)`, word by word; the specs
  below name that list `s` and keep it a variable.
-/
import EcModel.Lemmas.EepromBasic

namespace Ec.Eeprom
open Ec Ec.EepromSpec

theorem storeAt_cons2 (rd : Nat → Nat) (p b0 b1 : Nat) (rest : List Nat) (hp : p % 2 = 0) :
    storeAt (wrMem rd (p / 2) b0 b1) (p + 2) rest = storeAt rd p (b0 :: b1 :: rest) := by
  have h2 : 2 * (p / 2) = p := by omega
  funext x
  simp only [storeAt, wrMem, List.length_cons, h2]
  by_cases h1 : p + 2 ≤ x ∧ x < p + 2 + rest.length
  · rw [if_pos h1, if_pos (by omega), show x - p = x - (p + 2) + 2 by omega]
    rfl
  · rw [if_neg h1]
    by_cases h3 : x = p
    · subst h3; simp
    · by_cases h4 : x = p + 1
      · subst h4; simp
      · rw [if_neg h3, if_neg h4, if_neg (by omega)]

theorem padEven_cons2 (b0 b1 : Nat) (rest : List Nat) : padEven (b0 :: b1 :: rest) = b0 :: b1 :: padEven rest := by
  unfold padEven
  rw [List.length_cons, List.length_cons, Nat.add_assoc, Nat.add_mod_right]
  split <;> rfl

theorem padEven_length_bounds (buf : List Nat) :
    buf.length ≤ (padEven buf).length ∧ (padEven buf).length ≤ buf.length + 1 := by
  unfold padEven
  split
  · rw [List.length_append]; exact ⟨Nat.le_add_right _ _, Nat.le_refl _⟩
  · exact ⟨Nat.le_refl _, Nat.le_add_right _ _⟩

theorem padEven_length (buf : List Nat) : (padEven buf).length = 2 * ((buf.length + 1) / 2) := by
  have h1 := padEven_length_bounds buf
  have h2 := padEven_length_even buf
  omega

/-- On a window of `j` words at an even address the loop stores `s` with one provider call per word; the pad byte
    is not among the bytes it reports as consumed. -/
theorem writeLoop_spec (m : Mode) :
    ∀ (fuel : Nat) (d : Dev) (p j : Nat) (buf : List Nat) (written : Nat) (s : List Nat),
      s = (padEven buf).take (2 * j) → buf.length < fuel → p % 2 = 0 → p + 2 * j ≤ 131072 →
      writeLoop m fuel d ⟨p, p + 2 * j⟩ buf written =
        ((.ok (written + min buf.length s.length, ⟨p + s.length, p + 2 * j⟩), s.length / 2),
         { d with rd := storeAt d.rd p s, log := d.log ++ wordsAt (p / 2) s }) := by
  intro fuel
  induction fuel with
  | zero => intro d p j buf written s _ h; exact absurd h (Nat.not_lt_zero _)
  | succ fuel ih =>
    intro d p j buf written s hs hf hp hlt
    unfold writeLoop
    dsimp only
    rw [Nat.add_sub_cancel_left]
    match j, hs, hlt with
    | 0, hs, _ =>
      obtain rfl : s = [] := hs
      rw [if_pos rfl, storeAt_nil]
      simp [liftW, ret, wordsAt]
    | j + 1, hs, hlt =>
      rw [Nat.mul_succ] at hs hlt ⊢
      rw [if_neg (Nat.succ_ne_zero (2 * j + 1))]
      have hpos : p < 131072 := by omega
      -- the recursive call sees the window of `j` words at `p + 2`
      have hrec := fun d' rest w' s' hs' hf' => ih d' (p + 2) j rest w' s' hs' hf'
        (by rw [Nat.add_mod_right]; exact hp) (by omega)
      rw [Nat.add_assoc, Nat.add_comm 2, Nat.add_div_right p (by decide)] at hrec
      rw [wordPos_ok p hpos]
      simp only [bindW, writeWord, call, liftW, ret]
      rcases buf with _ | ⟨b0, _ | ⟨b1, rest⟩⟩ <;> dsimp only
      · obtain rfl : s = [] := hs
        rw [storeAt_nil]
        simp [wordsAt]
      · -- odd tail: the word `(b0, 0)`, then nothing is left
        obtain rfl : s = [b0, 0] := by simpa [padEven] using hs
        rw [hrec _ [] _ [] (by simp [padEven]) (by simpa using hf), storeAt_nil,
          ← storeAt_nil (wrMem _ _ _ _) (p + 2), storeAt_cons2 _ _ _ _ _ hp]
        simp [wordsAt]
      · obtain ⟨s', hs'⟩ : ∃ s', s' = (padEven rest).take (2 * j) := ⟨_, rfl⟩
        rw [padEven_cons2, List.take_succ_cons, List.take_succ_cons, ← hs'] at hs
        subst hs
        rw [hrec _ rest _ s' hs' (Nat.lt_of_succ_lt (Nat.lt_of_succ_lt_succ hf)), storeAt_cons2 _ _ _ _ _ hp]
        simp [wordsAt]
        omega

theorem write_spec (m : Mode) (d : Dev) (r : Range) (buf s : List Nat) (hs : s = (padEven buf).take (r.endp - r.pos))
    (hp : r.pos % 2 = 0) (he : r.endp % 2 = 0) (hle : r.pos ≤ r.endp) (hlt : r.endp ≤ 131072)
    (hroom : buf.length = 0 ∨ r.pos < r.endp) :
    Range.write m d r buf =
      ((.ok (min buf.length s.length, { r with pos := r.pos + s.length }), s.length / 2),
       { d with rd := storeAt d.rd r.pos s, log := d.log ++ wordsAt (r.pos / 2) s }) := by
  have hj : r.endp = r.pos + 2 * ((r.endp - r.pos) / 2) := by
    rw [Nat.mul_div_cancel' (Nat.dvd_of_mod_eq_zero (Nat.sub_mod_eq_zero_of_mod_eq (he.trans hp.symm))),
      Nat.add_sub_cancel' hle]
  obtain ⟨p, e⟩ := r
  dsimp only at hs hp hlt hroom hj ⊢
  generalize (e - p) / 2 = j at hj
  subst hj
  rw [Nat.add_sub_cancel_left] at hs
  unfold Range.write
  rw [if_neg fun h => hroom.elim h.1 fun hl => Nat.sub_ne_zero_of_lt hl h.2,
    writeLoop_spec m _ d p j buf 0 s hs (Nat.lt_succ_self _) hp hlt, Nat.zero_add]

theorem write_overrun (m : Mode) (d : Dev) (r : Range) (buf : List Nat) (hne : buf.length ≠ 0)
    (hfull : r.endp - r.pos = 0) : Range.write m d r buf = ((.err .overrun, 0), d) := by
  unfold Range.write
  rw [if_pos ⟨hne, hfull⟩]
  rfl

theorem writeAllLoop_nil (m : Mode) (fuel : Nat) (d : Dev) (r : Range) :
    writeAllLoop m (fuel + 1) d r [] = ((.ok r, 0), d) := rfl

theorem writeAllLoop_exhausted (m : Mode) (fuel : Nat) (d : Dev) (r : Range) (buf : List Nat) (hne : buf.length ≠ 0)
    (hfull : r.endp - r.pos = 0) : writeAllLoop m (fuel + 1) d r buf = ((.err .overrun, 0), d) := by
  rw [writeAllLoop, if_neg hne, write_overrun m d r buf hne hfull]
  rfl

/-- `write_all`, any payload: one `write` call stores `s`; if that was all of it the result is `Ok(())`, otherwise
    the second `write` call finds the window exhausted: `Err(SectionOverrun)`. No panic either way. -/
theorem writeAll_spec (m : Mode) (d : Dev) (r : Range) (buf s : List Nat) (hs : s = (padEven buf).take (r.endp - r.pos))
    (hp : r.pos % 2 = 0) (he : r.endp % 2 = 0) (hle : r.pos ≤ r.endp) (hlt : r.endp ≤ 131072) :
    Range.writeAll m d r buf =
      ((if (padEven buf).length ≤ r.endp - r.pos then .ok { r with pos := r.pos + s.length } else .err .overrun,
        s.length / 2),
       { d with rd := storeAt d.rd r.pos s, log := d.log ++ wordsAt (r.pos / 2) s }) := by
  unfold Range.writeAll
  by_cases h0 : buf.length = 0
  · obtain rfl : buf = [] := List.eq_nil_of_length_eq_zero h0
    obtain rfl : s = [] := by simpa [padEven] using hs
    rw [writeAllLoop_nil, storeAt_nil]
    simp [padEven, wordsAt]
  · by_cases hroom : r.endp - r.pos = 0
    · rw [hroom] at hs
      obtain rfl : s = [] := hs
      have hL := (padEven_length_bounds buf).1
      rw [writeAllLoop_exhausted m _ d r buf h0 hroom, hroom,
        if_neg fun h => h0 (Nat.le_zero.1 (Nat.le_trans hL h)), storeAt_nil]
      simp [wordsAt]
    · obtain ⟨f, hf⟩ := Nat.exists_eq_succ_of_ne_zero h0
      rw [hf, writeAllLoop, if_neg h0,
        write_spec m d r buf s hs hp he hle hlt (Or.inr (Nat.lt_of_sub_ne_zero hroom))]
      simp only [bindW]
      have hlen : s.length = min (r.endp - r.pos) (padEven buf).length := by rw [hs, List.length_take]
      by_cases hfit : (padEven buf).length ≤ r.endp - r.pos
      · -- everything was stored: the rest is empty
        rw [Nat.min_eq_right hfit] at hlen
        rw [if_pos hfit, hlen, Nat.min_eq_left (padEven_length_bounds buf).1, if_neg h0, if_neg (Nat.lt_irrefl _),
          List.drop_length, writeAllLoop_nil]
        rfl
      · -- the window is full, and an even window cut off at least one byte: the second `write` is refused
        rw [Nat.min_eq_left (Nat.le_of_not_le hfit)] at hlen
        have hn : r.endp - r.pos < buf.length := by
          have h1 := (padEven_length_bounds buf).2
          have h2 := padEven_length_even buf
          have h3 := Nat.sub_mod_eq_zero_of_mod_eq (he.trans hp.symm)
          omega
        rw [if_neg hfit, hlen, Nat.min_eq_right (Nat.le_of_lt hn), if_neg hroom, if_neg (Nat.not_lt.2 (Nat.le_of_lt hn)),
          writeAllLoop_exhausted m f _ _ _ (by rw [List.length_drop]; exact Nat.sub_ne_zero_of_lt hn)
            (Nat.sub_eq_zero_of_le (by rw [Nat.add_sub_cancel' hle]; exact Nat.le_refl _))]
        rfl

theorem writeAll_fits (m : Mode) (d : Dev) (r : Range) (buf : List Nat)
    (hp : r.pos % 2 = 0) (he : r.endp % 2 = 0) (hle : r.pos ≤ r.endp) (hlt : r.endp ≤ 131072)
    (hfit : (padEven buf).length ≤ r.endp - r.pos) :
    Range.writeAll m d r buf =
      ((.ok { r with pos := r.pos + (padEven buf).length }, (padEven buf).length / 2),
       { d with rd := storeAt d.rd r.pos (padEven buf), log := d.log ++ wordsAt (r.pos / 2) (padEven buf) }) := by
  rw [writeAll_spec m d r buf _ (List.take_of_length_le hfit).symm hp he hle hlt, if_pos hfit]

theorem writeWordAttempts_bounds (errs : Nat → Bool) :
    ∀ fuel retry a, a + 1 ≤ writeWordAttempts errs (fuel + 1) retry a ∧
      writeWordAttempts errs (fuel + 1) retry a ≤ a + fuel + 1 := by
  intro fuel
  induction fuel with
  | zero => intro r a; unfold writeWordAttempts; split <;> simp [writeWordAttempts]
  | succ fuel ih =>
    intro r a
    unfold writeWordAttempts
    split
    · have := ih (r + 1) (a + 1); omega
    · omega

theorem writeWordAttempts_stop (errs : Nat → Bool) :
    ∀ fuel a k, a ≤ k → k ≤ Gen.Eeprom.WRITE_RETRY_LIMIT → a + fuel = Gen.Eeprom.WRITE_RETRY_LIMIT + 1 →
      (∀ i, a ≤ i → i < k → errs i = true) → (errs k = false ∨ k = Gen.Eeprom.WRITE_RETRY_LIMIT) →
      writeWordAttempts errs fuel a a = k + 1 := by
  intro fuel
  induction fuel with
  | zero => intro a k h1 h2 h3; omega
  | succ fuel ih =>
    intro a k h1 h2 h3 herr hstop
    unfold writeWordAttempts
    by_cases hak : a = k
    · subst hak
      rcases hstop with h | h <;> simp [h]
    · have hk : a < k := Nat.lt_of_le_of_ne h1 hak
      simp only [herr a (Nat.le_refl _) hk, Nat.lt_of_lt_of_le hk h2, Bool.true_and, decide_true, if_true]
      exact ih (a + 1) k hk h2 ((Nat.add_right_comm a 1 fuel).trans h3)
        (fun i hi hik => herr i (Nat.le_of_succ_le hi) hik) hstop

end Ec.Eeprom
