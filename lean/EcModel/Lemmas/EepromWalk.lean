/-
  The category walk over a well-formed SII image (C12): skipping, finding, reaching the End marker.
-/
import EcModel.Lemmas.EepromBasic

namespace Ec.Eeprom
open Ec Ec.EepromSpec

theorem encCat_length (c : Cat) : (encCat c).length = 4 + c.body.length := by
  simp only [encCat, le16, List.length_append, List.length_cons, List.length_nil]

theorem encCats_append (a b : List Cat) : encCats (a ++ b) = encCats a ++ encCats b := by
  induction a with
  | nil => rfl
  | cons c a ih => simp only [List.cons_append, encCats, ih, List.append_assoc]

theorem empties_append (a b : List Cat) : empties (a ++ b) = empties a + empties b := by
  induction a with
  | nil => simp [empties]
  | cons c a ih => simp [empties, ih]; omega

theorem encCats_length_ge (cs : List Cat) : 4 * cs.length ≤ (encCats cs).length := by
  induction cs with
  | nil => exact Nat.le_refl _
  | cons c cs ih => simp only [encCats, List.length_append, encCat_length, List.length_cons]; omega

/-- The loop body on the header of a well-formed category. The first branch is the blank-EEPROM heuristic of
    `category`: the 32nd empty category ends the search. -/
theorem catStep_header (m : Mode) (p : Prov) (hcs : 4 ≤ p.cs) (cat wa ne : Nat) (c : Cat)
    (hc : c.WF) (rest : List Nat) (hh : Holds p.rd (2 * wa) (encCat c ++ rest)) (hroom : 2 * wa + 4 < 131072) :
    catStep m cat (chunkAt p wa) wa ne
      = if ne + (if c.body.length / 2 = 0 then 1 else 0) ≥ 32 then (.ok (.done none), 0)
        else if catOf c.type = cat then
          (.ok (.done (some ⟨(wa + 2) * 2, min ((wa + 2) * 2 + c.body.length / 2 * 2) ADDRESS_SPACE_BYTES⟩)), 0)
        else if catOf c.type = Gen.Eeprom.CAT_END then (.ok (.done none), 0)
        else if wa + 2 + c.body.length / 2 < 65536 then
          (.ok (.next (wa + 2 + c.body.length / 2) (ne + (if c.body.length / 2 = 0 then 1 else 0))), 0)
        else (.err .overrun, 0) := by
  -- the two header words, read from the chunk
  obtain ⟨tl, htl⟩ := chunkAt_prefix p wa (le16 c.type ++ le16 (c.body.length / 2)) (c.body ++ rest)
    (by rwa [encCat, List.append_assoc] at hh) (by rw [List.length_append, le16_length, le16_length]; exact hcs)
  have ht : rd16 (chunkAt p wa) = c.type := by rw [htl, List.append_assoc, rd16_le16_append _ hc.1]
  have hl : rd16 ((chunkAt p wa).drop 2) = c.body.length / 2 := by
    rw [htl, List.append_assoc, List.drop_left' (le16_length _), rd16_le16_append _ hc.2.2]
  have hne' : (if c.body.length / 2 = 0 then ne + 1 else ne) = ne + (if c.body.length / 2 = 0 then 1 else 0) := by
    split <;> rfl
  rw [catStep, if_neg (by omega), if_neg (by rw [chunkAt_length]; omega), ht, hl]
  dsimp only
  rw [hne']
  rfl

theorem catLoop_end (m : Mode) (p : Prov) (hcs : 4 ≤ p.cs) (cat : Nat) (fuel wa ne calls : Nat)
    (hh : Holds p.rd (2 * wa) [0xff, 0xff]) (hcat : cat ≠ Gen.Eeprom.CAT_END) (hroom : 2 * wa + 4 < 131072) :
    (catLoop m p cat (fuel + 1) wa ne calls).1 = .ok none := by
  obtain ⟨tl, htl⟩ := chunkAt_prefix p wa [0xff, 0xff] [] (by rwa [List.append_nil])
    (by simp only [List.length]; omega)
  have ht : catOf (rd16 (chunkAt p wa)) = Gen.Eeprom.CAT_END := by
    rw [htl, List.cons_append, List.cons_append, rd16_append]; decide
  rw [catLoop, catStep, if_neg (by omega), if_neg (by rw [chunkAt_length]; omega), ht]
  dsimp only
  by_cases hlim : (if rd16 ((chunkAt p wa).drop 2) = 0 then ne + 1 else ne) ≥ Gen.Eeprom.EMPTY_CATEGORY_LIMIT
  · rw [if_pos hlim]; rfl
  · rw [if_neg hlim, if_neg (fun h => hcat h.symm), if_pos rfl]; rfl

/-- The word behind the run is given by its double `2 * wa'`, so that no division is left to those who use this. -/
theorem catLoop_walk (m : Mode) (p : Prov) (hcs : 4 ≤ p.cs) (cat : Nat) :
    ∀ (pre : List Cat) (rest : List Nat) (fuel wa ne calls : Nat),
      (∀ c ∈ pre, c.WF ∧ catOf c.type ≠ cat ∧ catOf c.type ≠ Gen.Eeprom.CAT_END) →
      Holds p.rd (2 * wa) (encCats pre ++ rest) →
      ne + empties pre < 32 →
      2 * wa + (encCats pre).length < 131072 →
      ∃ wa', 2 * wa' = 2 * wa + (encCats pre).length ∧
        catLoop m p cat (fuel + pre.length) wa ne calls
          = catLoop m p cat fuel wa' (ne + empties pre) (calls + pre.length) := by
  intro pre
  induction pre with
  | nil => intro rest fuel wa ne calls _ _ _ _; exact ⟨wa, rfl, rfl⟩
  | cons c pre ih =>
    intro rest fuel wa ne calls hall hh hne hroom
    obtain ⟨hc, hcat, hend⟩ := hall c (by simp)
    have he := hc.2.1
    simp only [encCats, List.append_assoc] at hh
    simp only [encCats, List.length_append, encCat_length] at hroom ⊢
    simp only [empties] at hne
    have hwa : 2 * wa + (4 + c.body.length) = 2 * (wa + 2 + c.body.length / 2) := by omega
    obtain ⟨wa', hwa', hw⟩ := ih rest fuel (wa + 2 + c.body.length / 2)
      (ne + (if c.body.length / 2 = 0 then 1 else 0)) (calls + 1) (fun c' hc' => hall c' (by simp [hc']))
      (by have := hh.append.2; rwa [encCat_length, hwa] at this)
      (by omega) (by omega)
    refine ⟨wa', by omega, ?_⟩
    rw [show fuel + (c :: pre).length = (fuel + pre.length) + 1 from rfl, catLoop,
      catStep_header m p hcs cat wa ne c hc _ hh (by omega), if_neg (by omega), if_neg hcat, if_neg hend,
      if_pos (by omega)]
    dsimp only
    rw [hw]
    simp only [empties, List.length_cons, Nat.add_assoc, Nat.add_comm 1]

theorem category_walk (m : Mode) (p : Prov) (hcs : 4 ≤ p.cs) (cat : Nat) (pre : List Cat) (rest : List Nat)
    (hh : Holds p.rd 128 (encCats pre ++ rest))
    (hpre : ∀ x ∈ pre, x.WF ∧ catOf x.type ≠ cat ∧ catOf x.type ≠ Gen.Eeprom.CAT_END)
    (hne : empties pre < 32) (hsize : 128 + (encCats pre).length < 131072) :
    ∃ f wa, 2 * wa = 128 + (encCats pre).length ∧ Holds p.rd (2 * wa) rest ∧
      category m p cat = catLoop m p cat (f + 1) wa (empties pre) pre.length := by
  have hlen := encCats_length_ge pre
  obtain ⟨f, hf⟩ : ∃ f, catFuel = (f + 1) + pre.length := ⟨catFuel - 1 - pre.length, by unfold catFuel; omega⟩
  obtain ⟨wa, hwa, hw⟩ := catLoop_walk m p hcs cat pre _ (f + 1) 64 0 0 hpre hh (by omega) (by omega)
  refine ⟨f, wa, hwa, hwa ▸ hh.append.2, ?_⟩
  rw [category, hf, show Gen.Eeprom.SII_FIRST_CATEGORY_START = 64 from rfl, hw, Nat.zero_add, Nat.zero_add]

theorem category_found_at (m : Mode) (p : Prov) (hcs : 4 ≤ p.cs) (pre : List Cat) (ty : Nat)
    (body rest : List Nat) (cat : Nat)
    (hh : Holds p.rd 128 (encCats pre ++ (encCat ⟨ty, body⟩ ++ rest)))
    (hpre : ∀ x ∈ pre, x.WF ∧ catOf x.type ≠ cat ∧ catOf x.type ≠ Gen.Eeprom.CAT_END)
    (hcat : catOf ty = cat) (hty : ty < 65536) (heven : body.length % 2 = 0)
    (hne : empties pre + (if body.length / 2 = 0 then 1 else 0) < 32)
    (hsize : 128 + (encCats pre).length + 4 + body.length ≤ 131072)
    (hstart : 128 + (encCats pre).length + 4 < 131072) :
    (category m p cat).1
      = .ok (some ⟨128 + (encCats pre).length + 4, 128 + (encCats pre).length + 4 + body.length⟩) ∧
    Holds p.rd (128 + (encCats pre).length + 4) body := by
  obtain ⟨f, wa, hwa, hh2, hw⟩ := category_walk m p hcs cat pre _ hh hpre (by omega) (by omega)
  refine ⟨?_, ?_⟩
  · rw [hw, catLoop, catStep_header m p hcs cat _ _ ⟨ty, body⟩ ⟨hty, heven, by simp only; omega⟩ rest hh2 (by omega),
      if_neg (Nat.not_le.2 hne), if_pos hcat]
    dsimp only
    rw [show (wa + 2) * 2 = 128 + (encCats pre).length + 4 by omega, Nat.div_mul_cancel (Nat.dvd_of_mod_eq_zero heven),
      ADDRESS_SPACE_BYTES, Nat.min_eq_left hsize]
  · unfold encCat at hh2
    have := hh2.append.1.append.2
    rwa [List.length_append, le16_length, le16_length, show 2 * wa + (2 + 2) = 128 + (encCats pre).length + 4 by omega]
      at this

theorem category_gives_up (m : Mode) (p : Prov) (hcs : 4 ≤ p.cs) (pre : List Cat) (c : Cat) (rest : List Nat)
    (cat : Nat) (hh : Holds p.rd 128 (encCats pre ++ (encCat c ++ rest)))
    (hpre : ∀ x ∈ pre, x.WF ∧ catOf x.type ≠ cat ∧ catOf x.type ≠ Gen.Eeprom.CAT_END)
    (hc : c.WF) (hemp : empties pre = 31) (hce : c.body.length / 2 = 0)
    (hsize : 128 + (encCats pre).length + 4 < 131072) :
    (category m p cat).1 = .ok none := by
  obtain ⟨f, wa, hwa, hh2, hw⟩ := category_walk m p hcs cat pre _ hh hpre (by omega) (by omega)
  rw [hw, catLoop, catStep_header m p hcs cat _ _ c hc rest hh2 (by omega), if_pos (by rw [hce, if_pos rfl]; omega)]

end Ec.Eeprom
