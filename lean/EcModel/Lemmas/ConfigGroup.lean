/-
  C08: what a successful configuration in the checking build leaves behind: one direction on one device
  (`phase_spec`), both (`device_spec`), the two passes of a group (`group_spec`), the group start addresses.
-/
import EcModel.Lemmas.ConfigLoops

namespace Ec.Config
open Ec

theorem position_get {t : Nat} {l : List Nat} {i : Nat} (h : position t l = some i) : l[i]? = some t := by
  induction l generalizing i with
  | nil => simp [position] at h
  | cons x rest ih =>
    simp only [position] at h
    split at h
    · cases h; simp [*]
    · obtain ⟨k, hk, rfl⟩ := Option.map_eq_some_iff.1 h
      simpa using ih hk

theorem position_lt_length {t : Nat} {l : List Nat} {i : Nat} (h : position t l = some i) : i < l.length := by
  have := position_get h
  exact (List.getElem?_eq_some_iff.1 this).1

def DevState.window (st : DevState) : Dir → Nat × Nat
  | .input => st.input
  | .output => st.output

def Dir.other : Dir → Dir
  | .input => .output
  | .output => .input

theorem smType_cases (dir : Dir) : dir.smType = 3 ∨ dir.smType = 4 := by cases dir <;> simp [Dir.smType]

theorem eepromFmmuIndex_eq (l : List Nat) (i : Nat) : eepromFmmuIndex l i = i := by
  unfold eepromFmmuIndex
  split
  · have := List.find?_some ‹_›
    simpa using this
  · rfl

theorem devBits_spec {d : Device} {dir : Dir} {coe : Bool} {i b : Nat}
    (h : devBits .checked d dir coe i = .ok b) : b = smBitsSpec d coe dir i := by
  cases coe with
  | true =>
    simp only [devBits, smBitsSpec, if_true] at h ⊢
    cases hc : d.coe i with
    | none => simp [hc] at h
    | some pdos => rw [hc] at h; simpa using coeSmBitLen_ok h
  | false =>
    have := eepromSmBitLen_ok h
    cases dir <;> simpa [smBitsSpec, Device.pdos] using this

def devEntity (d : Device) (dir : Dir) : Bool → Job → Option Nat
  | true => sharedEntity (position dir.fmmuType d.fmmuUsage)
  | false => ownEntity

theorem devPick_spec {d : Device} {dir : Dir} {coe : Bool} (i : Nat) (sm : SmDesc) (b : Nat) (fo : Option Nat)
    (h : devPick d dir coe i b = .ok fo) :
    fo = devEntity d dir coe ⟨i, sm, (b + 7) / 8⟩ ∧ (fo = none → (b + 7) / 8 = 0) := by
  cases coe with
  | false =>
    simp only [devPick, eepromFmmuIndex_eq, Outcome.ok.injEq] at h
    subst h
    exact ⟨rfl, fun e => by cases e⟩
  | true =>
    simp only [devPick, devEntity, sharedEntity] at h ⊢
    split at h
    · rw [if_neg (by omega)]
      cases hp : position dir.fmmuType d.fmmuUsage with
      | none => simp [hp] at h
      | some fi => simp only [hp, Outcome.ok.injEq] at h; subst h; exact ⟨rfl, fun e => by cases e⟩
    · cases h
      exact ⟨by rw [if_pos (by omega)], fun _ => by omega⟩

/-- As `smRanges` and `windowLenSpec` select them. -/
def dirSms (d : Device) (dir : Dir) : List (Nat × SmDesc) :=
  (enumFrom 0 d.sms).filter fun x => x.2.usageType == dir.smType

def devJobs (d : Device) (coe : Bool) (dir : Dir) : List Job :=
  jobsFor (smBitsSpec d coe dir) dir.smType (enumFrom 0 d.sms)

theorem phase_spec {d : Device} {st st' : DevState} {off off' gs : Nat} {dir : Dir}
    (h : configureFmmus .checked d st off gs dir = .ok (off', st')) :
    (∀ j ∈ devJobs d st.hasCoe dir, devEntity d dir st.hasCoe j = none → j.lb = 0) ∧
    off' = off + jobLens (devJobs d st.hasCoe dir) ∧ gs ≤ off ∧
    st'.window dir = (off - gs, off' - gs) ∧ st'.window dir.other = st.window dir.other ∧
    st'.hasCoe = st.hasCoe ∧
    st'.regs = (purePass dir.smType (devEntity d dir st.hasCoe) (devJobs d st.hasCoe dir) st.regs off).1 := by
  rw [configureFmmus_eq] at h
  split at h
  · cases h
  · simp only [bind_eq_ok, subWrap_ok, Outcome.ok.injEq, Prod.mk.injEq] at h
    obtain ⟨p, hp, _, ⟨hs, rfl⟩, _, ⟨_, rfl⟩, rfl, rfl⟩ := h
    obtain ⟨h3, rfl⟩ := smLoop_pure (fun _ _ => devBits_spec) devPick_spec hp
    refine ⟨h3, purePass_off, hs, ?_⟩
    cases dir <;> exact ⟨rfl, rfl, rfl, rfl⟩

section
variable {d : Device} {coe : Bool} {dir : Dir}

theorem mem_devJobs {j : Job} : j ∈ devJobs d coe dir ↔
    (j.i, j.sm) ∈ enumFrom 0 d.sms ∧ j.sm.usageType = dir.smType ∧ j.lb = (smBitsSpec d coe dir j.i + 7) / 8 := by
  simp only [devJobs, jobsFor, List.mem_map, List.mem_filter, beq_iff_eq]
  constructor
  · rintro ⟨x, ⟨h1, h2⟩, rfl⟩; exact ⟨h1, h2, rfl⟩
  · rintro ⟨h1, h2, h3⟩; exact ⟨(j.i, j.sm), ⟨h1, h2⟩, by rw [← h3]⟩

theorem devJobs_idx : (devJobs d coe dir).map (·.i) = (dirSms d dir).map (·.1) := by
  rw [devJobs, jobsFor, List.map_map]; rfl

theorem idx_mem_dirSms {j : Job} (hj : j ∈ devJobs d coe dir) : j.i ∈ (dirSms d dir).map (·.1) := by
  rw [← devJobs_idx (coe := coe)]; exact List.mem_map_of_mem hj

theorem devJobs_nodup : ((devJobs d coe dir).map (·.i)).Nodup := by
  rw [devJobs_idx]
  exact (List.filter_sublist (l := enumFrom 0 d.sms)).map (·.1) |>.nodup (enumFrom_nodup 0 d.sms)

theorem windowLenSpec_eq_jobs : windowLenSpec d coe dir = jobLens (devJobs d coe dir) := by
  rw [devJobs, jobsFor, jobLens, List.map_map]; rfl

theorem smRanges_eq_jobs {r : Regs} (hs : ∀ j ∈ devJobs d coe dir, r.sm j.i = j.cfg) :
    smRanges d r dir = jobWindows (devJobs d coe dir) := by
  show (dirSms d dir).map (fun x => smWindow (r.sm x.1)) = _
  rw [jobWindows, devJobs, jobsFor, List.map_map]
  refine List.map_congr_left fun x hx => ?_
  have hx' := List.mem_filter.1 hx
  rw [hs ⟨x.1, x.2, (smBitsSpec d coe dir x.1 + 7) / 8⟩ (mem_devJobs.2 ⟨hx'.1, by simpa using hx'.2, rfl⟩)]
  rfl

end

/-- The FMMU entities written by one pass, abstracting over the two paths: `used` is the set of entities,
    `cnt` the number of entities the controller evaluates. -/
structure PhaseOut (ty cnt : Nat) (used : Nat → Prop) (r r' : Regs) (off : Nat) (jobs : List Job) : Prop where
  fmmu_frame : ∀ k, ¬ used k → r'.fmmu k = r.fmmu k
  sm_frame : ∀ k, k ∉ jobs.map (·.i) → r'.sm k = r.sm k
  sm_at : ∀ j ∈ jobs, r'.sm j.i = j.cfg
  own_dir : ∀ k, used k → ∀ w a p, (r'.fmmu k).hit w a = some p → w = (ty == 3)
  aligned : ∀ k, used k → (r'.fmmu k).startBit = 0 ∧ (r'.fmmu k).endBit = 7 ∧ (r'.fmmu k).physBit = 0
  hit : ∀ w a p, (∃ k, used k ∧ k < cnt ∧ (r'.fmmu k).hit w a = some p) ↔
      (w = (ty == 3) ∧ off ≤ a ∧ a < off + jobLens jobs ∧ physAt (jobWindows jobs) (a - off) = some p)

/-- Every FMMU entity the MainDevice programs exists in the controller. EEPROM path: entity number = sync
    manager number; CoE path: entity number = position in the device's own FMMU usage list. -/
def FmmuAvail (d : Device) (hasCoe : Bool) : Prop :=
  if hasCoe then ∀ t fi, position t d.fmmuUsage = some fi → fi < min d.fmmuCount 16
  else ∀ x ∈ enumFrom 0 d.sms, (x.2.usageType = 3 ∨ x.2.usageType = 4) → x.1 < min d.fmmuCount 16

/-- CoE path only: the sync managers of one direction — which all go through ONE FMMU — are physically
    contiguous (each non-empty one starts where the previous non-empty one ends). -/
def SharedContig (d : Device) (r : Regs) (hasCoe : Bool) : Prop :=
  hasCoe = true → (∃ s, Contig s (smRanges d r .input)) ∧ (∃ s, Contig s (smRanges d r .output))

theorem fmmuAvail_coe {d : Device} (h : d.fmmuUsage.length ≤ min d.fmmuCount 16) : FmmuAvail d true :=
  fun _ _ hp => Nat.lt_of_lt_of_le (position_lt_length hp) h

theorem fmmuAvail_eeprom {d : Device} (h : d.sms.length ≤ min d.fmmuCount 16) : FmmuAvail d false := by
  intro x hx _
  have := mem_enumFrom hx
  omega

/-- The entities one pass may write. -/
def devUsed (d : Device) (dir : Dir) : Bool → Nat → Prop
  | true, k => position dir.fmmuType d.fmmuUsage = some k
  | false, k => k ∈ (dirSms d dir).map (·.1)

section
variable {d : Device} {coe : Bool}

theorem entity_used {dir : Dir} {j : Job} {k : Nat} (hj : j ∈ devJobs d coe dir)
    (h : devEntity d dir coe j = some k) : devUsed d dir coe k := by
  cases coe with
  | false => cases h; exact idx_mem_dirSms hj
  | true =>
    simp only [devEntity, sharedEntity] at h
    split at h
    · cases h
    · exact h

/-- The controller has every entity the two passes may write. -/
def EntitiesExist (d : Device) (coe : Bool) : Prop := ∀ dir k, devUsed d dir coe k → k < min d.fmmuCount 16

/-- On the CoE path `FmmuAvail` asks more: an entity for every usage in the list, written or not. -/
theorem FmmuAvail.entitiesExist (hav : FmmuAvail d coe) : EntitiesExist d coe := by
  intro dir k hk
  cases coe with
  | true => exact hav _ _ hk
  | false =>
    obtain ⟨x, hx, rfl⟩ := List.mem_map.1 hk
    obtain ⟨m1, t1⟩ := List.mem_filter.1 hx
    exact hav _ m1 (by rw [beq_iff_eq.1 t1]; exact smType_cases dir)

/-- A sync manager has one direction, and so has an FMMU usage. -/
theorem used_disjoint (k : Nat) (h1 : devUsed d .input coe k) (h2 : devUsed d .output coe k) : False := by
  cases coe with
  | true =>
    have e1 := position_get h1
    rw [position_get h2] at e1
    cases e1
  | false =>
    obtain ⟨x, hx, rfl⟩ := List.mem_map.1 h1
    obtain ⟨y, hy, e⟩ := List.mem_map.1 h2
    obtain ⟨m1, t1⟩ := List.mem_filter.1 hx
    obtain ⟨m2, t2⟩ := List.mem_filter.1 hy
    rw [enumFrom_inj m2 m1 e, beq_iff_eq.1 t1] at t2
    cases t2

theorem dev_fits {dir : Dir} {r : Regs} {off : Nat}
    (hd : ∀ k, devUsed d dir coe k → (r.fmmu k).enable = false)
    (hne : ∀ j ∈ devJobs d coe dir, devEntity d dir coe j = none → j.lb = 0) (hav : EntitiesExist d coe)
    (hc : coe = true → ∃ s, Contig s (jobWindows (devJobs d coe dir))) :
    Fits dir.smType (min d.fmmuCount 16) (devEntity d dir coe) (devJobs d coe dir) r off := by
  cases coe with
  | false =>
    exact own_fits devJobs_nodup (fun j hj => hd _ (idx_mem_dirSms hj))
      fun j hj => hav dir _ (idx_mem_dirSms hj)
  | true =>
    obtain ⟨s, hs⟩ := hc rfl
    exact shared_fits hs (fun k hk => ⟨hav dir k hk, .inl (hd k hk)⟩) hne

end

theorem mem_fmmuMap {fm : Nat → Fmmu} {cnt : Nat} {w : Bool} {a p : Nat} :
    p ∈ fmmuMap fm cnt w a ↔ Translates fm (min cnt 16) w a p := by
  simp [fmmuMap, Translates, List.mem_filterMap, List.mem_range]

/-- What both passes leave on one device of a group that starts at `gs`, per direction. -/
structure Configured (gs : Nat) (d : Device) (st : DevState) (dir : Dir) : Prop where
  len : (st.window dir).2 - (st.window dir).1 = windowLenSpec d st.hasCoe dir
  backed : rangesLen (smRanges d st.regs dir) = (st.window dir).2 - (st.window dir).1
  sm_len : ∀ y ∈ enumFrom 0 d.sms, y.2.usageType = dir.smType →
    (st.regs.sm y.1).len = (smBitsSpec d st.hasCoe dir y.1 + 7) / 8
  maps : EntitiesExist d st.hasCoe → SharedContig d st.regs st.hasCoe → ∀ a p : Nat,
    p ∈ fmmuMap st.regs.fmmu d.fmmuCount dir.isWrite a ↔
      gs + (st.window dir).1 ≤ a ∧ a < gs + (st.window dir).2 ∧
        physAt (smRanges d st.regs dir) (a - (gs + (st.window dir).1)) = some p

theorem Configured.of_jobs {gs x : Nat} {d : Device} {st : DevState} {dir : Dir}
    (hs : ∀ j ∈ devJobs d st.hasCoe dir, st.regs.sm j.i = j.cfg) (hx : gs ≤ x)
    (hw : st.window dir = (x - gs, x + jobLens (devJobs d st.hasCoe dir) - gs))
    (ht : EntitiesExist d st.hasCoe → SharedContig d st.regs st.hasCoe → ∀ a p,
      Translates st.regs.fmmu (min d.fmmuCount 16) dir.isWrite a p ↔
        Window dir.smType (devJobs d st.hasCoe dir) x dir.isWrite a p) :
    Configured gs d st dir := by
  have e1 : gs + (x - gs) = x := Nat.add_sub_of_le hx
  have e2 : gs + (x + jobLens (devJobs d st.hasCoe dir) - gs) = x + jobLens (devJobs d st.hasCoe dir) :=
    Nat.add_sub_of_le (Nat.le_trans hx (Nat.le_add_right _ _))
  have e3 : x + jobLens (devJobs d st.hasCoe dir) - gs - (x - gs) = jobLens (devJobs d st.hasCoe dir) := by omega
  have rj := smRanges_eq_jobs hs
  refine ⟨?_, ?_, fun y hy ht' => ?_, fun hav hct a p => ?_⟩
  · rw [hw, windowLenSpec_eq_jobs]; exact e3
  · rw [hw, rj, rangesLen_jobWindows]; exact e3.symm
  · exact congrArg SmReg.len (hs ⟨y.1, y.2, (smBitsSpec d st.hasCoe dir y.1 + 7) / 8⟩ (mem_devJobs.2 ⟨hy, ht', rfl⟩))
  · rw [mem_fmmuMap, ht hav hct, hw, rj, Window, e1, e2]
    exact and_iff_right (by cases dir <;> rfl)

theorem device_spec {d : Device} {st0 st1 st2 : DevState} {a b c e gs : Nat}
    (h0 : ∀ k, (st0.regs.fmmu k).enable = false)
    (h1 : configureFmmus .checked d st0 a gs .input = .ok (b, st1))
    (h2 : configureFmmus .checked d st1 c gs .output = .ok (e, st2)) :
    a ≤ b ∧ c ≤ e ∧ st2.input = (a - gs, b - gs) ∧ st2.output = (c - gs, e - gs) ∧
    st2.hasCoe = st0.hasCoe ∧ ∀ dir, Configured gs d st2 dir := by
  obtain ⟨i3, rfl, i5, i6, _, i8, i10⟩ := phase_spec h1
  obtain ⟨o3, rfl, o5, o6, o7, o8, o10⟩ := phase_spec h2
  have hc : st2.hasCoe = st0.hasCoe := o8.trans i8
  rw [← hc] at i3 i6 i10 ⊢
  rw [i8, ← hc] at o3 o6 o10 ⊢
  have wI : st2.input = _ := (o7 : st2.input = st1.input).trans i6
  have smO : ∀ j ∈ devJobs d st2.hasCoe .output, st2.regs.sm j.i = j.cfg := by
    rw [o10]; exact purePass_sm_at devJobs_nodup
  have smI : ∀ j ∈ devJobs d st2.hasCoe .input, st2.regs.sm j.i = j.cfg := by
    intro j hj
    rw [o10, purePass_sm_frame, i10]
    · exact purePass_sm_at devJobs_nodup j hj
    · rw [devJobs_idx]
      exact used_disjoint (coe := false) j.i (idx_mem_dirSms hj)
  -- translation: nothing before the passes, then the input windows, then the output windows
  have tr : EntitiesExist d st2.hasCoe → SharedContig d st2.regs st2.hasCoe → ∀ w x p,
      Translates st2.regs.fmmu (min d.fmmuCount 16) w x p ↔
        Window 4 (devJobs d st2.hasCoe .input) a w x p ∨ Window 3 (devJobs d st2.hasCoe .output) c w x p := by
    intro hav hct w x p
    have fI := dev_fits (dir := .input) (r := st0.regs) (off := a) (fun k _ => h0 k) i3 hav
      fun h => smRanges_eq_jobs smI ▸ (hct h).1
    -- the entities of the outputs pass were left alone by the inputs pass
    have fO := dev_fits (dir := .output) (r := st1.regs) (off := c) (fun k hk => by
      rw [i10, purePass_fmmu_frame fun j hj e => used_disjoint k (entity_used hj e) hk]
      exact h0 k) o3 hav fun h => smRanges_eq_jobs smO ▸ (hct h).2
    rw [o10, purePass_translates (smType_cases _) fO, i10, purePass_translates (smType_cases _) fI]
    refine or_congr_left (or_iff_right fun ⟨k, _, hh⟩ => ?_)
    have := (Fmmu.hit_eq_some.1 hh).1
    rw [h0 k] at this; cases this
  refine ⟨Nat.le_add_right _ _, Nat.le_add_right _ _, wI, o6, rfl, fun dir => ?_⟩
  cases dir
  · exact .of_jobs smI i5 wI fun hav hct x p =>
      (tr hav hct false x p).trans (or_iff_left fun h => Bool.noConfusion h.1)
  · exact .of_jobs smO o5 o6 fun hav hct x p =>
      (tr hav hct true x p).trans (or_iff_right fun h => Bool.noConfusion h.1)

/-- Consecutive ranges `(from, to)` covering `s .. e` without gap or overlap. -/
def Tiling : Nat → List (Nat × Nat) → Nat → Prop
  | s, [], e => s = e
  | s, (x, y) :: rest, e => x = s ∧ x ≤ y ∧ Tiling y rest e

theorem tiling_le {ws : List (Nat × Nat)} {s e : Nat} (h : Tiling s ws e) : s ≤ e := by
  induction ws generalizing s with
  | nil => exact Nat.le_of_eq h
  | cons w rest ih =>
    obtain ⟨rfl, h1, h2⟩ := h
    exact Nat.le_trans h1 (ih h2)

theorem tiling_mem {ws : List (Nat × Nat)} {s e : Nat} (h : Tiling s ws e) :
    ∀ w ∈ ws, s ≤ w.1 ∧ w.1 ≤ w.2 ∧ w.2 ≤ e := by
  induction ws generalizing s with
  | nil => intro w hw; simp at hw
  | cons w0 rest ih =>
    intro w hw
    obtain ⟨rfl, h1, h2⟩ := h
    rcases List.mem_cons.1 hw with rfl | hw
    · exact ⟨Nat.le_refl _, h1, tiling_le h2⟩
    · have := ih h2 w hw
      omega

theorem tiling_pairwise {ws : List (Nat × Nat)} {s e : Nat} (h : Tiling s ws e) :
    ws.Pairwise (fun u v => u.2 ≤ v.1) := by
  induction ws generalizing s with
  | nil => exact List.Pairwise.nil
  | cons w0 rest ih => exact List.Pairwise.cons (fun v hv => (tiling_mem h.2.2 v hv).1) (ih h.2.2)

theorem tiling_sum {ws : List (Nat × Nat)} {s e : Nat} (h : Tiling s ws e) :
    e = s + natSum (ws.map fun w => w.2 - w.1) := by
  induction ws generalizing s with
  | nil => exact h.symm
  | cons w0 rest ih =>
    obtain ⟨rfl, h1, h2⟩ := h
    rw [ih h2, List.map, natSum]
    omega

/-- All FMMU entities of every device are disabled (state after `init`). -/
def Fresh (devs : List (Device × DevState)) : Prop := ∀ x ∈ devs, ∀ k, (x.2.regs.fmmu k).enable = false

/-- What a group's configuration does not change. -/
def devKey (x : Device × DevState) : Device × Bool := (x.1, x.2.hasCoe)

/-- The input windows tile the image up to `readLen`, the output windows the rest. -/
structure LaidOut (start : Nat) (devs : List (Device × DevState)) (g : GroupLayout) : Prop where
  ins : Tiling 0 (g.devs.map (·.2.input)) g.readLen
  outs : Tiling g.readLen (g.devs.map (·.2.output)) g.pdiLen
  dev : ∀ x ∈ g.devs, ∀ dir, Configured start x.1 x.2 dir
  keys : g.devs.map devKey = devs.map devKey

theorem two_pass {gs a p1 c p2 : Nat} {devs devs1 devs2 : List (Device × DevState)} (hf : Fresh devs)
    (h1 : passDir .checked .input gs a devs = .ok (p1, devs1))
    (h2 : passDir .checked .output gs c devs1 = .ok (p2, devs2)) :
    Tiling (a - gs) (devs2.map (·.2.input)) (p1 - gs) ∧ Tiling (c - gs) (devs2.map (·.2.output)) (p2 - gs) ∧
    (∀ x ∈ devs2, ∀ dir, Configured gs x.1 x.2 dir) ∧ devs2.map devKey = devs.map devKey := by
  induction devs generalizing a c devs1 devs2 with
  | nil =>
    cases h1; cases h2
    exact ⟨rfl, rfl, by simp, rfl⟩
  | cons x rest ih =>
    obtain ⟨d, st0⟩ := x
    obtain ⟨b, st1, q, hc1, hq1, e1⟩ := passDir_cons h1
    cases e1
    obtain ⟨e, st2, q', hc2, hq2, e2⟩ := passDir_cons h2
    cases e2
    obtain ⟨hab, hce, wI, wO, hk, hd⟩ := device_spec (hf (d, st0) (by simp)) hc1 hc2
    obtain ⟨t4, t5, t6, t7⟩ := ih (fun y hy => hf y (by simp [hy])) hq1 hq2
    refine ⟨?_, ?_, ?_, ?_⟩
    · simp only [List.map, Tiling, wI]; exact ⟨trivial, Nat.sub_le_sub_right hab gs, t4⟩
    · simp only [List.map, Tiling, wO]; exact ⟨trivial, Nat.sub_le_sub_right hce gs, t5⟩
    · intro y hy
      rcases List.mem_cons.1 hy with rfl | hy
      · exact hd
      · exact t6 y hy
    · simp only [List.map, devKey, hk, t7]

theorem group_spec {start : Nat} {devs : List (Device × DevState)} {g : GroupLayout}
    (hf : Fresh devs) (h : groupLayout .checked start devs = .ok g) : LaidOut start devs g := by
  simp only [groupLayout, bind_eq_ok, subWrap_ok, Outcome.ok.injEq] at h
  obtain ⟨q1, h1, _, ⟨_, rfl⟩, q2, h2, _, ⟨_, rfl⟩, rfl⟩ := h
  obtain ⟨t4, t5, t6, t7⟩ := two_pass hf h1 h2
  rw [Nat.sub_self] at t4
  exact ⟨t4, t5, t6, t7⟩

theorem configure_of_layout {m : Mode} {start maxPdi : Nat} {devs : List (Device × DevState)} {g : GroupLayout}
    (h : groupLayout m start devs = .ok g) :
    groupConfigureFmmus m start maxPdi devs =
      if g.pdiLen > maxPdi then .err (.pdiTooLong maxPdi g.pdiLen) else .ok g := by
  unfold groupConfigureFmmus
  rw [h]
  rfl

theorem configure_ok_iff {m : Mode} {start maxPdi : Nat} {devs : List (Device × DevState)} {g : GroupLayout} :
    groupConfigureFmmus m start maxPdi devs = .ok g ↔ groupLayout m start devs = .ok g ∧ g.pdiLen ≤ maxPdi := by
  constructor
  · intro h
    obtain ⟨g', hg, hc⟩ := bind_eq_ok.1 h
    unfold checkLen at hc
    split at hc
    · cases hc
    · cases hc; exact ⟨hg, Nat.le_of_not_lt ‹_›⟩
  · rintro ⟨hg, hl⟩
    rw [configure_of_layout hg, if_neg (Nat.not_lt.2 hl)]

theorem starts_pairwise {mps : List Nat} {off : Nat} {starts : List Nat}
    (h : groupStarts .checked off mps = .ok starts) :
    (mps.zip starts).Pairwise (fun u v => u.2 + u.1 % 65536 ≤ v.2) ∧ ∀ u ∈ mps.zip starts, off ≤ u.2 := by
  induction mps generalizing off starts with
  | nil => simp
  | cons mp rest ih =>
    simp only [groupStarts, bind_eq_ok, increment_ok, Outcome.ok.injEq] at h
    obtain ⟨_, ⟨_, rfl⟩, l, h2, rfl⟩ := h
    obtain ⟨ih1, ih2⟩ := ih h2
    simp only [List.zip_cons_cons, U16] at ih2 ⊢
    refine ⟨List.Pairwise.cons ih2 ih1, fun u hu => ?_⟩
    rcases List.mem_cons.1 hu with rfl | hu
    · exact Nat.le_refl _
    · have := ih2 u hu; omega

theorem initDev_fresh (d : Device) (k : Nat) : ((initDev d).regs.fmmu k).enable = false :=
  initDev_kept (I := fun r => (r.fmmu k).enable = false) d (fun h _ => h) rfl

theorem members_fresh (n : Net) (slot : Nat) : Fresh (n.members slot) := by
  intro x hx k
  unfold Net.members at hx
  obtain ⟨y, _, rfl⟩ := List.mem_map.1 hx
  exact initDev_fresh y.1 k

end Ec.Config
