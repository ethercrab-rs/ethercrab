/-
  C16 helper lemmas for `reads_inside_reply`: the two functions that hold a `ReceivedPdu` (the triage of
  mailbox_write_read and one iteration of the SDO-info loop) are functions of the reply BYTES; hence no entry
  point depends on what surrounds the reply in the frame buffer.
-/
import EcModel.Lemmas.CoeBasic

namespace Ec.Coe
open Ec.Gen.Coe

/-- One SDO-info iteration written on the reply bytes alone. -/
def infoStepB (b : List Nat) (consumed : Bool) (buf : List Nat) : Res InfoStep :=
  (unpackListResponse b).bind fun h =>
    if h.opCode == opListResponse then
      let rest := if !consumed then (b.drop LEN_ListResponse).drop 2 else b.drop LEN_ListResponse
      if h.mailbox.length < COE_HEADER_AND_LIST_TYPE_SIZE then .err .internal
      else if h.mailbox.length - COE_HEADER_AND_LIST_TYPE_SIZE > rest.length then .err .internal
      else if buf.length + (rest.take (h.mailbox.length - COE_HEADER_AND_LIST_TYPE_SIZE)).length > INFO_BUF_CAP then
        .err .internal
      else if h.incomplete && h.mailbox.length - COE_HEADER_AND_LIST_TYPE_SIZE == 0 then .err .internal
      else .ok (.frag (buf ++ rest.take (h.mailbox.length - COE_HEADER_AND_LIST_TYPE_SIZE)) h.incomplete)
    else .err (.responseInvalid 0 0)

theorem infoStep_eq_bytes (cfg : Cfg) {p : Pdu} {consumed : Bool} {buf : List Nat}
    (hp : p.start + p.len ≤ p.frame.length) : infoStep cfg p consumed buf = infoStepB p.bytes consumed buf := by
  have hlen : (infoTrim p consumed).len = (infoTrim p consumed).bytes.length :=
    (Pdu.bytes_length _ (infoTrim_inFrame p consumed hp)).symm
  simp only [infoStep, infoStepB, hlen, infoTrim_bytes]

/-- The same configuration with other bytes before / after the mailbox data in the frame buffer. -/
def Cfg.around (cfg : Cfg) (pre post : List Nat) : Cfg := { cfg with pre := pre, post := post }

variable {σ : Type} (w : World σ) (cfg : Cfg) (pre post : List Nat)

theorem triage_around {ρ : Type} (u : List Nat → Res ρ) (v : Nat → Nat → Bool) (img : List Nat) :
    triage (cfg.around pre post) u v (mkPdu (cfg.around pre post) img) = triage cfg u v (mkPdu cfg img) := by
  rw [triage_eq_bytes, triage_eq_bytes, mkPdu_bytes, mkPdu_bytes]

theorem infoStep_around (img : List Nat) (consumed : Bool) (buf : List Nat) :
    infoStep (cfg.around pre post) (mkPdu (cfg.around pre post) img) consumed buf =
      infoStep cfg (mkPdu cfg img) consumed buf := by
  rw [infoStep_eq_bytes _ mkPdu_inFrame, infoStep_eq_bytes _ mkPdu_inFrame, mkPdu_bytes, mkPdu_bytes]

theorem mwr_around {ρ : Type} (req : List Nat) (u : List Nat → Res ρ) (v : Nat → Nat → Bool) (s : St σ) :
    mailboxWriteRead w (cfg.around pre post) req u v s = mailboxWriteRead w cfg req u v s := by
  unfold mailboxWriteRead
  show (if (!cfg.hasMailbox) = true then _ else _) = _
  split
  · rfl
  · dsimp only
    rw [show writeRequest w (cfg.around pre post) req (drainStale s) = writeRequest w cfg req (drainStale s) from rfl]
    generalize writeRequest w cfg req (drainStale s) = s1
    unfold readMailbox
    cases s1.outq with
    | nil => rfl
    | cons m q =>
      dsimp only
      rw [show (cfg.around pre post).rmbx = cfg.rmbx from rfl, triage_around]

theorem segLoop_around : ∀ (fuel : Nat) (toggle : Bool) (buf : List Nat) (total : Nat) (s : St σ),
    segLoop w (cfg.around pre post) fuel toggle buf total s = segLoop w cfg fuel toggle buf total s := by
  intro fuel
  induction fuel with
  | zero => intro _ _ _ _; rfl
  | succ fuel ih =>
    intro toggle buf total s
    unfold segLoop
    simp only [mwr_around, ih]

theorem sdoRead_around (fuel bufLen index : Nat) (access : SubIndex) (s : St σ) :
    sdoRead w (cfg.around pre post) fuel bufLen index access s = sdoRead w cfg fuel bufLen index access s := by
  unfold sdoRead
  simp only [mwr_around, segLoop_around]

theorem sdoReadT_around {α : Type} (fuel : Nat) (T : Dest α) (index : Nat) (access : SubIndex) (s : St σ) :
    sdoReadT w (cfg.around pre post) fuel T index access s = sdoReadT w cfg fuel T index access s := by
  unfold sdoReadT
  rw [sdoRead_around]

theorem readEach_around {α : Type} (fuel : Nat) (T : Dest α) (index : Nat) : ∀ (n i : Nat) (s : St σ),
    readEach w (cfg.around pre post) fuel T index n i s = readEach w cfg fuel T index n i s := by
  intro n
  induction n with
  | zero => intro _ _; rfl
  | succ n ih =>
    intro i s
    unfold readEach
    simp only [sdoReadT_around, ih]

theorem sdoWrite_around (index : Nat) (access : SubIndex) (value : List Nat) (s : St σ) :
    sdoWrite w (cfg.around pre post) index access value s = sdoWrite w cfg index access value s := by
  unfold sdoWrite
  simp only [mwr_around]

theorem writeEach_around (index : Nat) : ∀ (vs : List (List Nat)) (i : Nat) (s : St σ),
    writeEach w (cfg.around pre post) index i vs s = writeEach w cfg index i vs s := by
  intro vs
  induction vs with
  | nil => intro _ _; rfl
  | cons v vs ih =>
    intro i s
    unfold writeEach
    simp only [sdoWrite_around, ih]

theorem infoLoop_around : ∀ (q : List (List Nat)) (consumed : Bool) (buf : List Nat) (reads : Nat),
    infoLoop (cfg.around pre post) q consumed buf reads = infoLoop cfg q consumed buf reads := by
  intro q
  induction q with
  | nil => intro _ _ _; rfl
  | cons m q ih =>
    intro consumed buf reads
    unfold infoLoop
    rw [show (cfg.around pre post).rmbx = cfg.rmbx from rfl, infoStep_around]
    simp only [ih]

theorem sendSdoInfoService_around (req : List Nat) (s : St σ) :
    sendSdoInfoService w (cfg.around pre post) req s = sendSdoInfoService w cfg req s := by
  unfold sendSdoInfoService
  show (if (!cfg.hasMailbox) = true then _ else _) = _
  split
  · rfl
  · dsimp only
    rw [show writeRequest w (cfg.around pre post) req (drainStale s) = writeRequest w cfg req (drainStale s) from rfl,
      infoLoop_around]

end Ec.Coe
