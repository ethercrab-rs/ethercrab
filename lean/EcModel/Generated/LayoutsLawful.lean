-- REGENERATED by /verif/tools/extract.py (extract_layouts.py) from /repo on every run. Do not edit.
-- Obligations: every derived type of /repo/src whose parts are all modelled satisfies the hypotheses of the C19 theorems.
import EcModel.Lemmas.WireLayouts
namespace Ec.Gen.Layouts
open Ec.Wire

theorem E_SubDeviceState_lawful : Lawful (enumCodec E_SubDeviceState) := enum_lawful_at 0 _ rfl
theorem S_AlControl_lawful : Lawful (structCodec S_AlControl) :=
  struct_lawful_at 0 _ rfl ⟨E_SubDeviceState_lawful, lawful_bool, lawful_bool, trivial⟩
theorem E_AlStatusCode_lawful : Lawful (enumCodec E_AlStatusCode) := enum_lawful_at 1 _ rfl
theorem E_PrimitiveDataType_lawful : Lawful (enumCodec E_PrimitiveDataType) := enum_lawful_at 2 _ rfl
theorem S_DlStatus_lawful : Lawful (structCodec S_DlStatus) :=
  struct_lawful_at 1 _ rfl ⟨lawful_bool, lawful_bool, lawful_bool, lawful_bool, lawful_bool, lawful_bool, lawful_bool, lawful_bool, lawful_bool, lawful_bool, lawful_bool, lawful_bool, lawful_bool, lawful_bool, lawful_bool, trivial⟩
theorem E_SiiOwner_lawful : Lawful (enumCodec E_SiiOwner) := enum_lawful_at 3 _ rfl
theorem E_SiiAccess_lawful : Lawful (enumCodec E_SiiAccess) := enum_lawful_at 4 _ rfl
theorem E_SiiReadSize_lawful : Lawful (enumCodec E_SiiReadSize) := enum_lawful_at 5 _ rfl
theorem E_SiiAddressSize_lawful : Lawful (enumCodec E_SiiAddressSize) := enum_lawful_at 6 _ rfl
theorem S_SiiControl_lawful : Lawful (structCodec S_SiiControl) :=
  struct_lawful_at 2 _ rfl ⟨E_SiiAccess_lawful, lawful_bool, E_SiiReadSize_lawful, E_SiiAddressSize_lawful, lawful_bool, lawful_bool, lawful_bool, lawful_bool, lawful_bool, lawful_bool, lawful_bool, lawful_bool, trivial⟩
theorem S_SiiRequest_lawful : Lawful (structCodec S_SiiRequest) :=
  struct_lawful_at 3 _ rfl ⟨S_SiiControl_lawful, lawful_uN _, trivial⟩
theorem E_SiiCoding_lawful : Lawful (enumCodec E_SiiCoding) := enum_lawful_at 7 _ rfl
theorem E_CategoryType_lawful : Lawful (enumCodec E_CategoryType) := enum_lawful_at 8 _ rfl
theorem E_FmmuUsage_lawful : Lawful (enumCodec E_FmmuUsage) := enum_lawful_at 9 _ rfl
theorem S_FmmuEx_lawful : Lawful (structCodec S_FmmuEx) :=
  struct_lawful_at 4 _ rfl ⟨lawful_uN _, trivial⟩
theorem E_PortStatus_lawful : Lawful (enumCodec E_PortStatus) := enum_lawful_at 10 _ rfl
theorem E_OperationMode_lawful : Lawful (enumCodec E_OperationMode) := enum_lawful_at 11 _ rfl
theorem E_Direction_lawful : Lawful (enumCodec E_Direction) := enum_lawful_at 12 _ rfl
theorem S_Control_lawful : Lawful (structCodec S_Control) :=
  struct_lawful_at 6 _ rfl ⟨E_OperationMode_lawful, E_Direction_lawful, lawful_bool, lawful_bool, lawful_bool, trivial⟩
theorem E_SyncManagerType_lawful : Lawful (enumCodec E_SyncManagerType) := enum_lawful_at 13 _ rfl
theorem S_Pdo_lawful : Lawful (structCodec S_Pdo) :=
  struct_lawful_at 8 _ rfl ⟨lawful_uN _, lawful_uN _, lawful_uN _, lawful_uN _, trivial⟩
theorem S_PdoEntry_lawful : Lawful (structCodec S_PdoEntry) :=
  struct_lawful_at 9 _ rfl ⟨lawful_uN _, trivial⟩
theorem S_Fmmu_lawful : Lawful (structCodec S_Fmmu) :=
  struct_lawful_at 11 _ rfl ⟨lawful_uN _, lawful_uN _, lawful_uN _, lawful_uN _, lawful_uN _, lawful_uN _, lawful_bool, lawful_bool, lawful_bool, trivial⟩
theorem E_CoeAbortCode_lawful : Lawful (enumCodec E_CoeAbortCode) := enum_lawful_at 14 _ rfl
theorem E_CoeService_lawful : Lawful (enumCodec E_CoeService) := enum_lawful_at 15 _ rfl
theorem S_CoeHeader_lawful : Lawful (structCodec S_CoeHeader) :=
  struct_lawful_at 12 _ rfl ⟨E_CoeService_lawful, trivial⟩
theorem E_CoeCommand_lawful : Lawful (enumCodec E_CoeCommand) := enum_lawful_at 16 _ rfl
theorem S_SdoHeader_lawful : Lawful (structCodec S_SdoHeader) :=
  struct_lawful_at 13 _ rfl ⟨lawful_bool, lawful_bool, lawful_uN _, lawful_bool, E_CoeCommand_lawful, lawful_uN _, lawful_uN _, trivial⟩
theorem S_SdoHeaderSegmented_lawful : Lawful (structCodec S_SdoHeaderSegmented) :=
  struct_lawful_at 14 _ rfl ⟨lawful_bool, lawful_uN _, lawful_bool, E_CoeCommand_lawful, trivial⟩
theorem E_SdoInfoOpCode_lawful : Lawful (enumCodec E_SdoInfoOpCode) := enum_lawful_at 17 _ rfl
theorem S_SdoInfoHeader_lawful : Lawful (structCodec S_SdoInfoHeader) :=
  struct_lawful_at 15 _ rfl ⟨E_SdoInfoOpCode_lawful, lawful_bool, lawful_uN _, trivial⟩
theorem E_Priority_lawful : Lawful (enumCodec E_Priority) := enum_lawful_at 18 _ rfl
theorem E_MailboxType_lawful : Lawful (enumCodec E_MailboxType) := enum_lawful_at 19 _ rfl
theorem S_MailboxHeader_lawful : Lawful (structCodec S_MailboxHeader) :=
  struct_lawful_at 16 _ rfl ⟨lawful_uN _, E_Priority_lawful, E_MailboxType_lawful, lawful_uN _, trivial⟩
theorem S_HeadersRaw_lawful : Lawful (structCodec S_HeadersRaw) :=
  struct_lawful_at 17 _ rfl ⟨S_MailboxHeader_lawful, S_CoeHeader_lawful, E_CoeCommand_lawful, lawful_uN _, lawful_uN _, trivial⟩
theorem S_CoeHeadersRaw_lawful : Lawful (structCodec S_CoeHeadersRaw) :=
  struct_lawful_at 18 _ rfl ⟨S_MailboxHeader_lawful, S_CoeHeader_lawful, trivial⟩
theorem S_EmergencyData_lawful : Lawful (structCodec S_EmergencyData) :=
  struct_lawful_at 19 _ rfl ⟨lawful_uN _, lawful_uN _, lawful_array _ _ (lawful_uN _) (by decide), trivial⟩
theorem S_SdoExpedited_lawful : Lawful (structCodec S_SdoExpedited) :=
  struct_lawful_at 20 _ rfl ⟨S_MailboxHeader_lawful, S_CoeHeader_lawful, S_SdoHeader_lawful, lawful_array _ _ (lawful_uN _) (by decide), trivial⟩
theorem S_SdoNormal_lawful : Lawful (structCodec S_SdoNormal) :=
  struct_lawful_at 21 _ rfl ⟨S_MailboxHeader_lawful, S_CoeHeader_lawful, S_SdoHeader_lawful, trivial⟩
theorem S_SdoSegmented_lawful : Lawful (structCodec S_SdoSegmented) :=
  struct_lawful_at 22 _ rfl ⟨S_MailboxHeader_lawful, S_CoeHeader_lawful, S_SdoHeaderSegmented_lawful, trivial⟩
theorem E_ObjectDescriptionListQueryInner_lawful : Lawful (enumCodec E_ObjectDescriptionListQueryInner) := enum_lawful_at 20 _ rfl
theorem S_ObjectDescriptionListRequest_lawful : Lawful (structCodec S_ObjectDescriptionListRequest) :=
  struct_lawful_at 23 _ rfl ⟨S_MailboxHeader_lawful, S_CoeHeader_lawful, S_SdoInfoHeader_lawful, E_ObjectDescriptionListQueryInner_lawful, trivial⟩
theorem S_ObjectDescriptionListResponse_lawful : Lawful (structCodec S_ObjectDescriptionListResponse) :=
  struct_lawful_at 24 _ rfl ⟨S_MailboxHeader_lawful, S_CoeHeader_lawful, S_SdoInfoHeader_lawful, trivial⟩
theorem E_ObjectDescriptionListQuery_lawful : Lawful (enumCodec E_ObjectDescriptionListQuery) := enum_lawful_at 21 _ rfl
theorem S_ObjectDescriptionListQueryCounts_lawful : Lawful (structCodec S_ObjectDescriptionListQueryCounts) :=
  struct_lawful_at 25 _ rfl ⟨lawful_uN _, lawful_uN _, lawful_uN _, lawful_uN _, lawful_uN _, trivial⟩
theorem E_ProtocolType_lawful : Lawful (enumCodec E_ProtocolType) := enum_lawful_at 22 _ rfl
theorem E_PortType_lawful : Lawful (enumCodec E_PortType) := enum_lawful_at 23 _ rfl
theorem S_SupportFlags_lawful : Lawful (structCodec S_SupportFlags) :=
  struct_lawful_at 27 _ rfl ⟨lawful_bool, lawful_bool, lawful_bool, lawful_bool, lawful_bool, lawful_bool, lawful_bool, lawful_bool, lawful_bool, lawful_bool, lawful_bool, lawful_bool, trivial⟩
theorem S_Mapping_lawful : Lawful (structCodec S_Mapping) :=
  struct_lawful_at 28 _ rfl ⟨lawful_uN _, lawful_uN _, lawful_uN _, trivial⟩
theorem S_SubDeviceIdentity_lawful : Lawful (structCodec S_SubDeviceIdentity) :=
  struct_lawful_at 29 _ rfl ⟨lawful_uN _, lawful_uN _, lawful_uN _, lawful_uN _, trivial⟩
theorem E_BufferState_lawful : Lawful (enumCodec E_BufferState) := enum_lawful_at 24 _ rfl
theorem S_Status_lawful : Lawful (structCodec S_Status) :=
  struct_lawful_at 30 _ rfl ⟨lawful_bool, lawful_bool, lawful_bool, E_BufferState_lawful, lawful_bool, lawful_bool, trivial⟩
theorem S_Enable_lawful : Lawful (structCodec S_Enable) :=
  struct_lawful_at 31 _ rfl ⟨lawful_bool, lawful_bool, lawful_bool, lawful_bool, lawful_bool, lawful_bool, trivial⟩
theorem S_SyncManagerChannel_lawful : Lawful (structCodec S_SyncManagerChannel) :=
  struct_lawful_at 32 _ rfl ⟨lawful_uN _, lawful_uN _, S_Control_lawful, S_Status_lawful, S_Enable_lawful, trivial⟩

/-- (identifier, codec of the derived type together with the proof that it obeys the codec laws). -/
def lawfulTable : List (String × { c : Codec // Lawful c }) := [
  ("SubDeviceState", ⟨enumCodec E_SubDeviceState, E_SubDeviceState_lawful⟩),
  ("AlControl", ⟨structCodec S_AlControl, S_AlControl_lawful⟩),
  ("AlStatusCode", ⟨enumCodec E_AlStatusCode, E_AlStatusCode_lawful⟩),
  ("PrimitiveDataType", ⟨enumCodec E_PrimitiveDataType, E_PrimitiveDataType_lawful⟩),
  ("DlStatus", ⟨structCodec S_DlStatus, S_DlStatus_lawful⟩),
  ("SiiOwner", ⟨enumCodec E_SiiOwner, E_SiiOwner_lawful⟩),
  ("SiiAccess", ⟨enumCodec E_SiiAccess, E_SiiAccess_lawful⟩),
  ("SiiReadSize", ⟨enumCodec E_SiiReadSize, E_SiiReadSize_lawful⟩),
  ("SiiAddressSize", ⟨enumCodec E_SiiAddressSize, E_SiiAddressSize_lawful⟩),
  ("SiiControl", ⟨structCodec S_SiiControl, S_SiiControl_lawful⟩),
  ("SiiRequest", ⟨structCodec S_SiiRequest, S_SiiRequest_lawful⟩),
  ("SiiCoding", ⟨enumCodec E_SiiCoding, E_SiiCoding_lawful⟩),
  ("CategoryType", ⟨enumCodec E_CategoryType, E_CategoryType_lawful⟩),
  ("FmmuUsage", ⟨enumCodec E_FmmuUsage, E_FmmuUsage_lawful⟩),
  ("FmmuEx", ⟨structCodec S_FmmuEx, S_FmmuEx_lawful⟩),
  ("PortStatus", ⟨enumCodec E_PortStatus, E_PortStatus_lawful⟩),
  ("OperationMode", ⟨enumCodec E_OperationMode, E_OperationMode_lawful⟩),
  ("Direction", ⟨enumCodec E_Direction, E_Direction_lawful⟩),
  ("Control", ⟨structCodec S_Control, S_Control_lawful⟩),
  ("SyncManagerType", ⟨enumCodec E_SyncManagerType, E_SyncManagerType_lawful⟩),
  ("Pdo", ⟨structCodec S_Pdo, S_Pdo_lawful⟩),
  ("PdoEntry", ⟨structCodec S_PdoEntry, S_PdoEntry_lawful⟩),
  ("Fmmu", ⟨structCodec S_Fmmu, S_Fmmu_lawful⟩),
  ("CoeAbortCode", ⟨enumCodec E_CoeAbortCode, E_CoeAbortCode_lawful⟩),
  ("CoeService", ⟨enumCodec E_CoeService, E_CoeService_lawful⟩),
  ("CoeHeader", ⟨structCodec S_CoeHeader, S_CoeHeader_lawful⟩),
  ("CoeCommand", ⟨enumCodec E_CoeCommand, E_CoeCommand_lawful⟩),
  ("SdoHeader", ⟨structCodec S_SdoHeader, S_SdoHeader_lawful⟩),
  ("SdoHeaderSegmented", ⟨structCodec S_SdoHeaderSegmented, S_SdoHeaderSegmented_lawful⟩),
  ("SdoInfoOpCode", ⟨enumCodec E_SdoInfoOpCode, E_SdoInfoOpCode_lawful⟩),
  ("SdoInfoHeader", ⟨structCodec S_SdoInfoHeader, S_SdoInfoHeader_lawful⟩),
  ("Priority", ⟨enumCodec E_Priority, E_Priority_lawful⟩),
  ("MailboxType", ⟨enumCodec E_MailboxType, E_MailboxType_lawful⟩),
  ("MailboxHeader", ⟨structCodec S_MailboxHeader, S_MailboxHeader_lawful⟩),
  ("HeadersRaw", ⟨structCodec S_HeadersRaw, S_HeadersRaw_lawful⟩),
  ("CoeHeadersRaw", ⟨structCodec S_CoeHeadersRaw, S_CoeHeadersRaw_lawful⟩),
  ("EmergencyData", ⟨structCodec S_EmergencyData, S_EmergencyData_lawful⟩),
  ("SdoExpedited", ⟨structCodec S_SdoExpedited, S_SdoExpedited_lawful⟩),
  ("SdoNormal", ⟨structCodec S_SdoNormal, S_SdoNormal_lawful⟩),
  ("SdoSegmented", ⟨structCodec S_SdoSegmented, S_SdoSegmented_lawful⟩),
  ("ObjectDescriptionListQueryInner", ⟨enumCodec E_ObjectDescriptionListQueryInner, E_ObjectDescriptionListQueryInner_lawful⟩),
  ("ObjectDescriptionListRequest", ⟨structCodec S_ObjectDescriptionListRequest, S_ObjectDescriptionListRequest_lawful⟩),
  ("ObjectDescriptionListResponse", ⟨structCodec S_ObjectDescriptionListResponse, S_ObjectDescriptionListResponse_lawful⟩),
  ("ObjectDescriptionListQuery", ⟨enumCodec E_ObjectDescriptionListQuery, E_ObjectDescriptionListQuery_lawful⟩),
  ("ObjectDescriptionListQueryCounts", ⟨structCodec S_ObjectDescriptionListQueryCounts, S_ObjectDescriptionListQueryCounts_lawful⟩),
  ("ProtocolType", ⟨enumCodec E_ProtocolType, E_ProtocolType_lawful⟩),
  ("PortType", ⟨enumCodec E_PortType, E_PortType_lawful⟩),
  ("SupportFlags", ⟨structCodec S_SupportFlags, S_SupportFlags_lawful⟩),
  ("Mapping", ⟨structCodec S_Mapping, S_Mapping_lawful⟩),
  ("SubDeviceIdentity", ⟨structCodec S_SubDeviceIdentity, S_SubDeviceIdentity_lawful⟩),
  ("BufferState", ⟨enumCodec E_BufferState, E_BufferState_lawful⟩),
  ("Status", ⟨structCodec S_Status, S_Status_lawful⟩),
  ("Enable", ⟨structCodec S_Enable, S_Enable_lawful⟩),
  ("SyncManagerChannel", ⟨structCodec S_SyncManagerChannel, S_SyncManagerChannel_lawful⟩)
]
/-- structs with a field whose type has a hand-written impl or is unknown to the extractor: not in the table. -/
def opaqueStructs : List String := ["SiiGeneral", "SyncManager", "DefaultMailbox", "PduHeader"]
end Ec.Gen.Layouts
