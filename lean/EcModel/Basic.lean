/-
  EcModel.Basic — shared vocabulary of the ethercrab models.

  Bytes are natural numbers (< 256 by construction of every producer); byte strings are `List Nat`.
  Import-free on purpose: every model file must link into the native driver executables (`Driver/`).
-/
namespace Ec

/-- Little-endian encoding of a `u16` (value taken mod 2^16, like `to_le_bytes` after `as u16`). -/
def le16 (n : Nat) : List Nat := [n % 256, n / 256 % 256]

/-- Little-endian encoding of a `u32`. -/
def le32 (n : Nat) : List Nat := [n % 256, n / 256 % 256, n / 65536 % 256, n / 16777216 % 256]

/-- Little-endian encoding of a `u64`. -/
def le64 (n : Nat) : List Nat := le32 (n % 4294967296) ++ le32 (n / 4294967296)

/-- Little-endian decoding of the first two bytes (missing bytes read as 0; callers check lengths). -/
def rd16 (l : List Nat) : Nat := l.getD 0 0 + 256 * l.getD 1 0

def rd32 (l : List Nat) : Nat :=
  l.getD 0 0 + 256 * l.getD 1 0 + 65536 * l.getD 2 0 + 16777216 * l.getD 3 0

def rd64 (l : List Nat) : Nat := rd32 l + 4294967296 * rd32 (l.drop 4)

/-- `n` zero bytes. -/
def zeros (n : Nat) : List Nat := List.replicate n 0

/-- Overwrite `l[off .. off + bs.length)` with `bs` (the Rust `buf[off..off+n].copy_from_slice(bs)`;
    callers establish `off + bs.length ≤ l.length`). -/
def setRange (l : List Nat) (off : Nat) (bs : List Nat) : List Nat :=
  l.take off ++ bs ++ l.drop (off + bs.length)

theorem setRange_length (l : List Nat) (off : Nat) (bs : List Nat)
    (h : off + bs.length ≤ l.length) : (setRange l off bs).length = l.length := by
  simp [setRange]; omega

theorem le16_length (n : Nat) : (le16 n).length = 2 := rfl
theorem le32_length (n : Nat) : (le32 n).length = 4 := rfl
theorem zeros_length (n : Nat) : (zeros n).length = n := by simp [zeros]

theorem rd16_le16 (n : Nat) (h : n < 65536) : rd16 (le16 n) = n := by
  simp [rd16, le16]; omega

theorem rd16_append (a b : Nat) (rest : List Nat) : rd16 (a :: b :: rest) = a + 256 * b := by
  simp [rd16]

theorem rd16_le16_append (n : Nat) (h : n < 65536) (rest : List Nat) : rd16 (le16 n ++ rest) = n :=
  (rd16_append _ _ rest).trans ((rd16_append _ _ []).symm.trans (rd16_le16 n h))

theorem rd32_le32_append (n : Nat) (h : n < 4294967296) (rest : List Nat) : rd32 (le32 n ++ rest) = n := by
  simp only [le32, rd32, List.cons_append, List.getD_cons_zero, List.getD_cons_succ]; omega

theorem take_setRange (l : List Nat) (off : Nat) (bs : List Nat) (h : off ≤ l.length) :
    (setRange l off bs).take off = l.take off := by
  rw [setRange, List.append_assoc, List.take_left' (List.length_take_of_le h)]

theorem drop_setRange (l : List Nat) (off : Nat) (bs : List Nat) (h : off ≤ l.length) :
    (setRange l off bs).drop off = bs ++ l.drop (off + bs.length) := by
  rw [setRange, List.append_assoc, List.drop_left' (List.length_take_of_le h)]

/-- All elements are bytes. -/
def AllBytes (l : List Nat) : Prop := ∀ x ∈ l, x < 256

/-- Outcome of a Rust operation that may return `Err` or unwind. -/
inductive Outcome (ε α : Type) where
  | ok (a : α)
  | err (e : ε)
  | panic (why : String)
  deriving Repr, DecidableEq

/-- Overflow-check build mode (`debug` = overflow-checks on, `release` = wrapping). -/
inductive Mode where
  | checked | wrapping
  deriving Repr, DecidableEq

/-- Hex helpers for the line protocol. -/
def hexDigit (n : Nat) : Char :=
  if n < 10 then Char.ofNat (48 + n) else Char.ofNat (87 + n)

def hexByte (n : Nat) : String := String.ofList [hexDigit (n / 16 % 16), hexDigit (n % 16)]

def hexBytes (l : List Nat) : String := String.join (l.map hexByte)

def hexVal (c : Char) : Option Nat :=
  if '0' ≤ c ∧ c ≤ '9' then some (c.toNat - 48)
  else if 'a' ≤ c ∧ c ≤ 'f' then some (c.toNat - 87)
  else if 'A' ≤ c ∧ c ≤ 'F' then some (c.toNat - 55)
  else none

def parseHexAux : List Char → List Nat → Option (List Nat)
  | [], acc => some acc.reverse
  | [_], _ => none
  | a :: b :: rest, acc =>
    match hexVal a, hexVal b with
    | some x, some y => parseHexAux rest ((16 * x + y) :: acc)
    | _, _ => none

/-- Parse a hex string (`-` or empty = empty byte string). -/
def parseHex (s : String) : Option (List Nat) :=
  if s = "-" then some [] else parseHexAux s.toList []

end Ec
